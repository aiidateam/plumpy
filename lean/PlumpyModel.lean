import PlumpyModel.PM.Proof3
import PlumpyModel.PM.Proof5
import PlumpyModel.Outline.Proof
import PlumpyModel.Expose.Proof
import PlumpyModel.Ports.Model
import PlumpyModel.Savable.Proof
import PlumpyModel.Props.C20
import PlumpyModel.Launcher.Proof
import PlumpyModel.Props.C11
import PlumpyModel.Props.C12
import PlumpyModel.Persister.Proof
import PlumpyModel.Persist.Proof2
import PlumpyModel.Persist.Resume
import PlumpyModel.Props.C18
