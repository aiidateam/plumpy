import Driver.PM
import PlumpyModel.PM.Listener
namespace DrvPML
open PMF PMF.L DrvPM

/-
Line protocol of the process-control model with listeners (`pmodel pml`): the protocol of `pmodel pm` plus

  plan <hook>:<occurrence>:<request> ...        the oracle of the case (after `case`, before the first op)
      hook := run | wai | pau | pla | exi | ent      request := pause | play | kill
  entryfails                                    the program's successful FINISHED state fails its output validation (it is
                                                presented as an unsuccessful stop; the exit phase runs twice)

`case`, `fn`, `plan` and `entryfails` lines are echoed; every other line prints the observation after the op (same format as `pm`).
-/

def pHook : String → Option Hook
  | "run" => some .running | "wai" => some .waiting | "pau" => some .paused | "pla" => some .played
  | "exi" => some .exiting | "ent" => some .entering | _ => none

def pReq : String → Option Req
  | "pause" => some .pause | "play" => some .play | "kill" => some .kill | _ => none

def pEntry (s : String) : Option (Hook × Nat × Req) :=
  match s.splitOn ":" with
  | [h, n, r] => do some (← pHook h, ← n.toNat?, ← pReq r)
  | _ => none

partial def loop (h : IO.FS.Stream) (t : Table) (l : LCfg) : IO Unit := do
  let line ← h.getLine
  if line.isEmpty then return ()
  let toks := (line.trimAscii.toString.splitOn " ").filter (· ≠ "")
  match toks with
  | ["case", nf] =>
      IO.println s!"case {nf}"
      loop h [] (initL (nf.toNat?.getD 0) [])
  | "fn" :: id :: aw :: rest =>
      match id.toNat?, aw.toNat?, pOutcome rest with
      | some i, some a, some o => IO.println s!"fn {i}"; loop h (t ++ [(i, ⟨a, o⟩)]) l
      | _, _, _ => IO.println "bad-fn"; loop h t l
  | ["entryfails"] => IO.println "entryfails"; loop h t { l with entryFails := true }
  | "plan" :: rest =>
      match rest.mapM pEntry with
      | some p => IO.println s!"plan {p.length}"; loop h t { l with plan := p }
      | none => IO.println "bad-plan"; loop h t l
  | _ =>
    match parseEv toks with
    | none => IO.println "bad-op"; loop h t l
    | some ev =>
      let (l', r) := stepL (progOfTable t) l ev
      IO.println (obs l'.c r)
      loop h t l'

def main : IO Unit := do loop (← IO.getStdin) [] (initL 0 [])
end DrvPML
