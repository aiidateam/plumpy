import Driver.Expose
import PlumpyModel.Expose.Full
namespace DrvExposeFull
open Expose Expose.Full

/-
`pmodel exposefull` (C15, full model): one case per line, one observation line per case.

  line    : DST root SRC root (SRC root)* CALL call (CALL call)*
  root    : <props> <n> entry*n
  entry   : L <name> <attr> | N <name> <props> <n> entry*n
  props   : comma separated atoms (natural numbers), in the enumeration order of the mutable PortNamespace properties
  call    : <source index> <namespace> <exclude> <include> <options>
  namespace : -  (None)  |  =<string>  (the string, possibly empty, split at '.')
  exclude/include : -  (None) | () (empty sequence) | rule,rule,…
  options : - (None) | () (empty dict) | <property index>:<atom>,…      (indices >= 100: names that are no property)

Identities: the objects of the destination are numbered in pre-order from 0 (root = 0), then the objects of the sources in
the order given; the allocation counter starts after them.

Observation: for every call, separated by ` | `:  `names=<n1,n2,…|-> err=<-|exclusive|unknownopt|occupied|emptyname>`
followed by the dump of the whole destination after that call, one token per port object in pre-order, dict order:
`<dotted path or @ for the root>:N:<props>:<class>` or `<path>:L:<attr>:<class>`, class = `D<i>` (i-th object of the
destination before the first call), `S<i>` (i-th source object), `F<k>` (created by the k-th call).
-/

def pProps (s : String) : Option Props :=
  if s = "-" then some [] else (s.splitOn ",").mapM (·.toNat?)

/-- parse `count` entries, allocating identities in pre-order -/
partial def pEntries : Nat → List String → Nat → Option (Ports × List String × Nat)
  | 0, toks, c => some ([], toks, c)
  | n+1, "L" :: name :: attr :: rest, c => do
      let a ← attr.toNat?
      let (es, r, c') ← pEntries n rest (c + 1)
      some ((name, .leaf c a) :: es, r, c')
  | n+1, "N" :: name :: props :: cnt :: rest, c => do
      let p ← pProps props
      let k ← cnt.toNat?
      let (sub, r1, c1) ← pEntries k rest (c + 1)
      let (es, r2, c2) ← pEntries n r1 c1
      some ((name, .ns c p sub) :: es, r2, c2)
  | _, _, _ => none

def pRoot : List String → Nat → Option (Ns × List String × Nat)
  | props :: cnt :: rest, c => do
      let p ← pProps props
      let k ← cnt.toNat?
      let (sub, r, c') ← pEntries k rest (c + 1)
      some (⟨c, p, sub⟩, r, c')
  | _, _ => none

partial def pSources : List String → Nat → List Ns → Option (List Ns × List String × Nat)
  | "SRC" :: rest, c, acc => do
      let (s, r, c') ← pRoot rest c
      pSources r c' (acc ++ [s])
  | toks, c, acc => some (acc, toks, c)

def pNs (s : String) : Option (List Name) :=
  if s = "-" then none else some ((s.drop 1).toString.splitOn ".")

def pOpts (s : String) : Option (Option Opts) :=
  if s = "-" then some none
  else if s = "()" then some (some [])
  else do
    let kv ← (s.splitOn ",").mapM fun e => match e.splitOn ":" with
      | [k, v] => do some ((← k.toNat?), (← v.toNat?))
      | _ => none
    some (some kv)

partial def pCalls (srcs : List Ns) : List String → List Call → Option (List Call)
  | [], acc => some acc
  | "CALL" :: si :: ns :: ex :: inc :: opts :: rest, acc => do
      let i ← si.toNat?
      let s ← srcs[i]?
      let o ← pOpts opts
      pCalls srcs rest (acc ++ [{ src := s, nsp := pNs ns, ex := DrvExpose.parseRules ex, inc := DrvExpose.parseRules inc, opts := o }])
  | _, _ => none

def showNats (l : List Nat) : String := if l.isEmpty then "-" else ",".intercalate (l.map toString)

/-- identity class: `bounds` = counter after each call -/
def cls (nd c0 : Nat) (bounds : List Nat) (i : Nat) : String :=
  if i < nd then s!"D{i}" else if i < c0 then s!"S{i - nd}"
  else
    let rec go : List Nat → Nat → String
      | [], k => s!"F{k}"
      | b :: bs, k => if i < b then s!"F{k}" else go bs (k + 1)
    go bounds 1

partial def dumpPorts (cl : Nat → String) (pre : String) : Ports → List String
  | [] => []
  | (n, .leaf i a) :: rest => s!"{pre}{n}:L:{a}:{cl i}" :: dumpPorts cl pre rest
  | (n, .ns i p sub) :: rest =>
      (s!"{pre}{n}:N:{showNats p}:{cl i}" :: dumpPorts cl s!"{pre}{n}." sub) ++ dumpPorts cl pre rest

def dumpNs (cl : Nat → String) (d : Ns) : String :=
  " ".intercalate (s!"@:N:{showNats d.props}:{cl d.id}" :: dumpPorts cl "" d.ports)

def showErr : Err → String
  | .exclusive => "exclusive" | .unknownOption => "unknownopt" | .occupied => "occupied" | .emptyName => "emptyname"

def runCalls (nd c0 : Nat) : List Call → Ns → Nat → List Nat → List String → List String
  | [], _, _, _, acc => acc
  | k :: rest, dst, c, bounds, acc =>
      let r := exposePorts k.src k.nsp k.ex k.inc k.opts dst c
      let bounds' := bounds ++ [r.2.1]
      let head := match r.2.2 with
        | .ok names => s!"names={if names.isEmpty then "-" else ",".intercalate names} err=-"
        | .error e => s!"names=- err={showErr e}"
      runCalls nd c0 rest r.1 r.2.1 bounds' (acc ++ [head ++ " " ++ dumpNs (cls nd c0 bounds') r.1])

def handle (line : String) : String :=
  match (line.trimAscii.toString.splitOn " ").filter (· ≠ "") with
  | "DST" :: rest =>
      match pRoot rest 0 with
      | none => "bad dst"
      | some (dst, r, nd) =>
        match pSources r nd [] with
        | none => "bad src"
        | some (srcs, r2, c0) =>
          match pCalls srcs r2 [] with
          | none => "bad call"
          | some calls => " | ".intercalate (runCalls nd c0 calls dst c0 [] [])
  | _ => "bad"

partial def loop (h : IO.FS.Stream) : IO Unit := do
  let line ← h.getLine
  if line.isEmpty then return ()
  IO.println (handle line)
  loop h

def main : IO Unit := do loop (← IO.getStdin)
end DrvExposeFull
