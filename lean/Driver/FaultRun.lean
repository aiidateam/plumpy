import Driver.PML
import PlumpyModel.Fault.Process
namespace DrvFaultRun
open PMF PMF.L PMF.FP DrvPM DrvPML

/-
Line protocol of the process-control model with one injected fault (`pmodel faultrun`): the protocol of `pmodel pml` plus

  fault hook <name> <occurrence> <before|after>    arm the fault: the <occurrence>-th call of the user hook raises before / after super()
      name := on_exit_running | on_exit_waiting | on_run | on_wait | on_finish | on_kill | on_running | on_waiting | on_finished
            | on_killed | on_terminated | on_close | on_pausing | on_paused | on_playing
  fault step <fn> <seg>                            step function <fn> raises the fault after <seg> await points
  fault callback                                   the raising call_soon callback raises the fault (ops `callsoon raise`, `tick usercb raise`)
  fault none                                       (listener / cleanup faults: swallowed, nothing to tell the model)

after `case` / `fn` / `plan`, before the first op.  Every op prints the observation of `pmodel pm` followed by
  fired=<0|1> excfault=<0|1> actsx=<P|C|D|E:exc,…> rep=<req:raised:exc,…> loop=<exc,…> trans=<0|1>
-/

def pHK : String → Option HK
  | "on_exit_running" => some .exitRunning | "on_exit_waiting" => some .exitWaiting
  | "on_run" => some .onRun | "on_wait" => some .onWait | "on_finish" => some .onFinish | "on_kill" => some .onKill
  | "on_running" => some .onRunning | "on_waiting" => some .onWaiting | "on_finished" => some .onFinished
  | "on_killed" => some .onKilled | "on_terminated" => some .onTerminated | "on_close" => some .onClose
  | "on_pausing" => some .onPausing | "on_paused" => some .onPaused | "on_playing" => some .onPlaying
  | _ => none

def showReq : Req → String
  | .pause => "pause" | .play => "play" | .kill => "kill"

def showStatusX : AStatus → String
  | .pending => "P" | .cancelled => "C" | .done => "D" | .failed e => s!"E:{showExc e}"

structure St where
  t : Table := []
  x : FCfg := initX 0 [] none
  stepFault : Option (Nat × Nat) := none
  fexc : Exc := faultExc                -- the exception object of the case's fault
  twins : Bool := false                 -- a hook fault is armed at the start: the run is the twins' (`runF`), else `runL`

def progOf (s : St) : Prog :=
  match s.stepFault with
  | some (fn, seg) => withStepFault (progOfTable s.t) fn seg
  | none => progOfTable s.t

def obsX (s : St) (x : FCfg) (r : RetV) : String :=
  let b (v : Bool) := if v then "1" else "0"
  let c := x.l.c
  let isf := match c.st with | .excepted e => e = s.fexc | _ => false
  obs c r ++ s!" fired={b x.fired} excfault={b isf} " ++
  s!"actsx={",".intercalate (c.handed.reverse.map fun i => showStatusX (actionStatus c i))} " ++
  s!"rep={",".intercalate (x.rep.reverse.map fun p => s!"{showReq p.1}:{showRet p.2}")} " ++
  s!"loop={",".intercalate (c.loopErrs.reverse.map showExc)} trans={b x.l.trans.isSome}"

partial def loop (h : IO.FS.Stream) (s : St) : IO Unit := do
  let line ← h.getLine
  if line.isEmpty then return ()
  let toks := (line.trimAscii.toString.splitOn " ").filter (· ≠ "")
  match toks with
  | ["case", nf] =>
      IO.println s!"case {nf}"
      loop h { x := initX (nf.toNat?.getD 0) [] none }
  | "fn" :: id :: aw :: rest =>
      match id.toNat?, aw.toNat?, pOutcome rest with
      | some i, some a, some o => IO.println s!"fn {i}"; loop h { s with t := s.t ++ [(i, ⟨a, o⟩)] }
      | _, _, _ => IO.println "bad-fn"; loop h s
  | "plan" :: rest =>
      match rest.mapM pEntry with
      | some p => IO.println s!"plan {p.length}"; loop h { s with x := s.x.updL fun l => { l with plan := p } }
      | none => IO.println "bad-plan"; loop h s
  | ["fault", "hook", name, occ, var] =>
      match pHK name, occ.toNat? with
      | some hk, some (n+1) =>
          IO.println "fault hook"
          loop h { s with x := { s.x with arm := some { hk := hk, left := n, after := var = "after" } }, twins := true }
      | _, _ => IO.println "bad-fault"; loop h s
  | ["fault", "step", fn, seg] =>
      match fn.toNat?, seg.toNat? with
      | some f, some g => IO.println "fault step"; loop h { s with stepFault := some (f, g) }
      | _, _ => IO.println "bad-fault"; loop h s
  | ["fault", "callback"] => IO.println "fault callback"; loop h { s with fexc := .user 8 }
  | ["fault", "none"] => IO.println "fault none"; loop h s
  | _ =>
    match parseEv toks with
    | none => IO.println "bad-op"; loop h s
    | some ev =>
      let (x', r) :=
        if s.twins then stepF (progOf s) s.x ev
        else ({ s.x with l := (stepL (progOf s) s.x.l ev).1 }, (stepL (progOf s) s.x.l ev).2)
      IO.println (obsX s x' r)
      loop h { s with x := x' }

def main : IO Unit := do loop (← IO.getStdin) {}
end DrvFaultRun
