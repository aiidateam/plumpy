import Driver.PM
import PlumpyModel.Persist.Reload
namespace DrvPMRestore
open PMF

/-
`pmodel pmr` — the line protocol of `pmodel pm` (same `case` / `fn` lines, same ops, same observation line after every op) plus

  checkpoint <k> <m>     during the next callback of the stepping task, at the state entry that makes the ENTERED log of the
                         instance <k> entries long, a bundle is taken (`checkpointAt`, lean/PlumpyModel/Persist/Reload.lean);
                         the instance is abandoned and the bundle is loaded in a fresh event loop whose environment holds <m>
                         pending external futures (`restoreCfgN m`).  Prints the observation of the restored instance
                         (`ret=none`), or `bad-checkpoint` (and keeps the configuration) when that entry is not reached at a
                         step boundary.

  checkpointnow <m>      the bundle is taken BETWEEN two callbacks, from the configuration as it is (`saveCfg`; live processes only,
                         else `bad-checkpoint`), and loaded as above.  Whatever a bundle does not keep is lost: a pending pause /
                         kill action, scheduled callbacks, a step in flight (the restored instance runs that step again).
  quiescent              prints `ready=<callbacks still scheduled in the model>`: sent when the real event loop has nothing left to
                         run, where the answer must be `ready=` (a callback the model has scheduled and the real loop has not —
                         e.g. `try_killing` after `cancelfut` — would otherwise go unnoticed: the harness only names the
                         callbacks that the real loop runs)

Every later op acts on the restored instance (the theorems `C04_restored_*` of lean/PlumpyModel/Props/C04.lean are about
exactly these histories: any events after `restoreCfgN m b`).
-/

def showCb : Cb → String
  | .adone f => s!"adone {f}" | .trykill => "trykill" | .usercb r => s!"usercb {if r then "raise" else "ok"}"

partial def loop (h : IO.FS.Stream) (t : DrvPM.Table) (c : Cfg) : IO Unit := do
  let line ← h.getLine
  if line.isEmpty then return ()
  let toks := (line.trimAscii.toString.splitOn " ").filter (· ≠ "")
  match toks with
  | ["case", nf] =>
      IO.println s!"case {nf}"
      loop h [] (init (nf.toNat?.getD 0))
  | "fn" :: id :: aw :: rest =>
      match id.toNat?, aw.toNat?, DrvPM.pOutcome rest with
      | some i, some a, some o => IO.println s!"fn {i}"; loop h (t ++ [(i, ⟨a, o⟩)]) c
      | _, _, _ => IO.println "bad-fn"; loop h t c
  | ["quiescent"] =>
      IO.println s!"ready={",".intercalate (c.ready.map showCb)}"
      loop h t c
  | ["checkpointnow", m] =>
      match m.toNat? with
      | some m =>
        if live c then
          let c' := restoreCfgN m (saveCfg c)
          IO.println (DrvPM.obs c' .none)
          loop h t c'
        else IO.println "bad-checkpoint"; loop h t c
      | none => IO.println "bad-op"; loop h t c
  | ["checkpoint", k, m] =>
      match k.toNat?, m.toNat? with
      | some k, some m =>
        match checkpointAt (DrvPM.progOfTable t) c k with
        | some b =>
            let c' := restoreCfgN m b
            IO.println (DrvPM.obs c' .none)
            loop h t c'
        | none => IO.println "bad-checkpoint"; loop h t c
      | _, _ => IO.println "bad-op"; loop h t c
  | _ =>
    match DrvPM.parseEv toks with
    | none => IO.println "bad-op"; loop h t c
    | some ev =>
      let (c', r) := step (DrvPM.progOfTable t) c ev
      IO.println (DrvPM.obs c' r)
      loop h t c'

def main : IO Unit := do loop (← IO.getStdin) [] (init 0)
end DrvPMRestore
