import Driver.PM
import PlumpyModel.Persist.Plain
namespace DrvPlainRestore
open PMF

/-
`pmodel restoreplain` — a PLAIN process with crash points, driven as harness/props/c08.py drives the real one.

line   := <k> <c1> … <ck> ( | <id> <awaits> <outcome> )+
          c_j    = global index of the state entry at which the j-th checkpoint is taken (0 = the freshly created process;
                   strictly increasing), as counted by the harness: entries of all instances, a restored instance starting at
                   the index of its checkpoint
          outcome as in `pmodel pm` (`fn` lines)
output := trace=<call,…> state=<label> out=<outcome> restores=<n>

The environment is the one of the harness: run the stepping task while it has a callback ready; when nothing is ready and the
process waits, `resume(100 + index of the waiting callback)`; stop when terminated or stuck.  A checkpoint index that falls into
a callback becomes a cut of that callback (`CEv.tick cuts`, the definitions of lean/PlumpyModel/Persist/Plain.lean that the
theorems of Props/C08.lean are about): the least number of loop iterations after which the instance's ENTERED log has reached
that index; the checkpoint is taken only if the configuration there is a step boundary (`boundary`: live, as in the harness).
-/

def entryIndex (base : Nat) (c : Cfg) : Nat := base + c.entered.length - 1

/-- least `n ≤ bound` such that the callback cut after `n` iterations has reached entry `k` -/
def findCut (P : Prog) (c : Cfg) (base k : Nat) : Nat → Nat → Option Nat
  | 0, _ => none
  | g+1, n => if entryIndex base (tickF P n c) ≥ k then some n else findCut P c base k g (n + 1)

/-- the cuts of one callback: `(cuts, remaining checkpoints, base of the instance that finishes the callback)` -/
def cutsOf (P : Prog) : Nat → Cfg → Nat → List Nat → List Nat × List Nat × Nat
  | 0, _, base, todo => ([], todo, base)
  | g+1, c, base, todo =>
    match todo with
    | [] => ([], [], base)
    | k :: rest =>
      match findCut P c base k 64 0 with
      | none => ([], todo, base)
      | some n =>
        let b := tickF P n c
        if entryIndex base b = k ∧ boundary b then
          let (cs, todo', base') := cutsOf P g (restoreCfg (saveCfg b)) k rest
          (n :: cs, todo', base')
        else ([], todo, base)

def runnable (c : Cfg) : Bool :=
  match c.pc with
  | .notStarted => true
  | .inUser _ => true
  | .awaitWaiting wf => (match c.wfs[wf]? with | some .pending => false | some _ => true | none => false)
  | .awaitPaused pf => c.pfs[pf]? == some true
  | _ => false

def drive (P : Prog) : Nat → CState → Nat → List Nat → CState
  | 0, s, _, _ => s
  | g+1, s, base, todo =>
    if runnable s.cur then
      let (cuts, todo', base') := cutsOf P 16 s.cur base todo
      drive P g (cstep P s (.tick cuts)) base' todo'
    else if terminal s.cur.st.label then s
    else
      match s.cur.st with
      | .waiting fn wf _ _ =>
        if s.cur.paused.isNone && (match s.cur.wfs[wf]? with | some .pending => true | _ => false) then
          drive P g (cstep P s (.resume (some (100 + (fn : Int))))) base todo
        else s
      | _ => s

def showCall (a : Act) : String :=
  s!"{a.fn}({",".intercalate (a.args.map toString)};{",".intercalate (a.kw.map fun p => s!"{p.1}={p.2}")})"

def pFn (s : String) : Option (Nat × Body) :=
  let toks := (s.trimAscii.toString.splitOn " ").filter (· ≠ "")
  match toks with
  | id :: aw :: rest => do
      let o ← DrvPM.pOutcome rest
      some (← id.toNat?, ⟨← aw.toNat?, o⟩)
  | _ => none

def handle (line : String) : String :=
  match line.trimAscii.toString.splitOn " | " with
  | head :: fns =>
    let htoks := (head.splitOn " ").filter (· ≠ "")
    (match htoks with
     | k :: rest =>
       (match k.toNat?, rest.mapM String.toNat?, fns.mapM pFn with
        | some k, some cps, some t =>
          if cps.length ≠ k then "bad" else
          let P := DrvPM.progOfTable t
          let s := drive P 4000 cinit 0 cps
          s!"trace={" ".intercalate (s.trace.reverse.map showCall)} state={DrvPM.showLabel s.cur.st.label} " ++
          s!"out={DrvPM.showOutcome s.cur} restores={s.restores}"
        | _, _, _ => "bad")
     | [] => "bad")
  | [] => "bad"

partial def loop (h : IO.FS.Stream) : IO Unit := do
  let line ← h.getLine
  if line.isEmpty then return ()
  IO.println (handle line)
  loop h

def main : IO Unit := do loop (← IO.getStdin)
end DrvPlainRestore
