import Driver.Outline
import PlumpyModel.Persist.Model
namespace DrvPersist
open Outline Persist

/-
`pmodel persist` — one view per line, prints the canonical bundle of `save` and the view after `load ∘ save`.

line    := loader cls kind view
loader  := D - -  |  G <prefix> <loaderClassId>  |  C <prefix> <loaderClassId>
           (D: default global loader; G: custom loader installed globally; C: custom loader in the save context;
            the custom loader identifies class c as <prefix>c)
kind    := P | W
view    := pid ctime status prePaused paused future listenerType listeners raw parsed nout (key val){nout} state [chain]
paused  := - | fut          fut := P | C | R:<val> | X:<val>
raw, parsed := - | val
state   := created in fn args kwargs | running in fn args kwargs | waiting in (cb|-) msg data (awaiting|-)
         | finished in result successful | excepted in exc | killed in msg
chain   := ctx stepper block           (kind W only; block as in `pmodel outline`)
stepper := _ | st          st := l | n <pos> 0 | n <pos> 1 st
val     := N | i<nat> | T | F | s<text> | L (live awaitable) | any other token (opaque)

output  := <path=val | path={ ...sorted> | <view>      or  err:<kind>  when `save` raises in the real code
-/

def pVal (t : String) : Val :=
  if t = "N" then .none
  else if t = "T" then .bool true
  else if t = "F" then .bool false
  else if t = "L" then .live
  else if t.startsWith "s" then .str (t.drop 1).toString
  else if t.startsWith "i" then
    (match (t.drop 1).toString.toNat? with
     | some n => if s!"i{n}" = t then .nat n else .opaque t
     | none => .opaque t)
  else .opaque t

def showVal : Val → String
  | .none => "N" | .nat n => s!"i{n}" | .bool true => "T" | .bool false => "F" | .str s => "s" ++ s
  | .opaque r => r | .live => "L"

def pOptVal (t : String) : Option Val := if t = "-" then none else some (pVal t)
def showOptVal : Option Val → String | none => "-" | some v => showVal v

def pFut (t : String) : Option FutV :=
  if t = "P" then some .pending
  else if t = "C" then some .cancelled
  else if t.startsWith "R:" then some (.result (pVal (t.drop 2).toString))
  else if t.startsWith "X:" then some (.exc (pVal (t.drop 2).toString))
  else none

def showFut : FutV → String
  | .pending => "P" | .cancelled => "C" | .result v => "R:" ++ showVal v | .exc e => "X:" ++ showVal e

partial def pSt : List String → Option (St × List String)
  | "l" :: r => some (.leaf, r)
  | "n" :: p :: "0" :: r => do some (.node (← p.toNat?) none, r)
  | "n" :: p :: "1" :: r => do
      let (c, r') ← pSt r
      some (.node (← p.toNat?) (some c), r')
  | _ => none

partial def showSt : St → String
  | .leaf => "l"
  | .node p none => s!"n {p} 0"
  | .node p (some c) => s!"n {p} 1 {showSt c}"

def pState : List String → Option (StateV × List String)
  | "created" :: i :: f :: a :: k :: r => some (.created (pVal i) f (pVal a) (pVal k), r)
  | "running" :: i :: f :: a :: k :: r => some (.running (pVal i) f (pVal a) (pVal k), r)
  | "waiting" :: i :: cb :: m :: d :: aw :: r =>
      some (.waiting (pVal i) (if cb = "-" then none else some cb) (pVal m) (pVal d) (pOptVal aw), r)
  | "finished" :: i :: res :: ok :: r => some (.finished (pVal i) (pVal res) (pVal ok), r)
  | "excepted" :: i :: e :: r => some (.excepted (pVal i) (pVal e), r)
  | "killed" :: i :: m :: r => some (.killed (pVal i) (pVal m), r)
  | _ => none

def showState : StateV → String
  | .created i f a k => s!"created {showVal i} {f} {showVal a} {showVal k}"
  | .running i f a k => s!"running {showVal i} {f} {showVal a} {showVal k}"
  | .waiting i cb m d aw => s!"waiting {showVal i} {cb.getD "-"} {showVal m} {showVal d} {showOptVal aw}"
  | .finished i r ok => s!"finished {showVal i} {showVal r} {showVal ok}"
  | .excepted i e => s!"excepted {showVal i} {showVal e}"
  | .killed i m => s!"killed {showVal i} {showVal m}"

def pOutputs : Nat → List String → List (String × Val) → Option (List (String × Val) × List String)
  | 0, r, acc => some (acc.reverse, r)
  | n+1, k :: v :: r, acc => pOutputs n r ((k, pVal v) :: acc)
  | _, _, _ => none

def showView (v : View) : String :=
  let outs := " ".intercalate (v.outputs.map (fun kv => s!"{kv.1} {showVal kv.2}"))
  let base := s!"{showVal v.pid} {showVal v.ctime} {showVal v.status} {showVal v.prePaused} " ++
    s!"{(v.paused.map showFut).getD "-"} {showFut v.future} {showVal v.eh.listenerType} {showVal v.eh.listeners} " ++
    s!"{showOptVal v.inputsRaw} {showOptVal v.inputsParsed} {v.outputs.length}" ++
    (if v.outputs.isEmpty then "" else " " ++ outs) ++ " " ++ showState v.state
  match v.chain with
  | none => base
  | some ch => base ++ s!" {showVal ch.ctx} " ++ (match ch.stepper with | none => "_" | some s => showSt s)

def prefixLoader (pre name : String) : Loader :=
  { name := name, ident := fun c => pre ++ c,
    resolve := fun s => if s.startsWith pre then some (s.drop pre.length).toString else none }

def fnName (f : Nat) : String := s!"s{f}"

def mkEnv (mode pre name : String) : Option (Env × Option Loader) :=
  let L := prefixLoader pre name
  let find := fun n => if n = name then some L else none
  if mode = "D" then some ({ glob := defaultLoader, find := fun _ => none, fnName := fnName }, none)
  else if mode = "G" then some ({ glob := L, find := find, fnName := fnName }, none)
  else if mode = "C" then some ({ glob := defaultLoader, find := find, fnName := fnName }, some L)
  else none

def showErr : Err → String
  | .keyMissing k => s!"err:keyMissing:{k}" | .classNotFound _ => "err:classNotFound" | .unsavable => "err:unsavable"
  | .attribute n => s!"err:attribute:{n}" | .unknownKey k => s!"err:unknownKey:{k}" | .badState => "err:badState"
  | .index => "err:index" | .foreign w => s!"err:foreign:{w}"

partial def flatten (pre : String) : Bundle → Except Err (List String)
  | [] => .ok []
  | (k, v) :: r => do
    let path := if pre = "" then k else pre ++ "/" ++ k
    let here ← (match v with
      | .plain x => .ok [s!"{path}={showVal x}"]
      | .poison e => .error e
      | .dict kv => do let sub ← flatten path kv; .ok (s!"{path}=\{" :: sub) : Except Err (List String))
    let rest ← flatten pre r
    .ok (here ++ rest)

def sortStrings (l : List String) : List String := (l.toArray.qsort (· < ·)).toList

def handle (line : String) : String :=
  let toks := (line.trimAscii.toString.splitOn " ").filter (· ≠ "")
  match toks with
  | mode :: pre :: lname :: cls :: kind :: pid :: ct :: st :: pps :: paused :: fut :: lt :: ls :: raw :: parsed :: nout :: rest =>
    (match mkEnv mode pre lname, nout.toNat?, pFut fut with
     | some (E, ctx), some n, some f =>
       (match pOutputs n rest [] with
        | none => "bad"
        | some (outs, rest) =>
          match pState rest with
          | none => "bad"
          | some (state, rest) =>
            let pausedV : Option (Option FutV) := if paused = "-" then some none else (pFut paused).map some
            match pausedV with
            | none => "bad"
            | some pv =>
              let base : View :=
                { pid := pVal pid, ctime := pVal ct, status := pVal st, prePaused := pVal pps, paused := pv, future := f,
                  eh := { listenerType := pVal lt, listeners := pVal ls }, inputsRaw := pOptVal raw,
                  inputsParsed := pOptVal parsed, outputs := outs, state := state, chain := none }
              let go (C : Cls) (v : View) : String :=
                let b := save E C ctx v
                match flatten "" b with
                | .error e => showErr e
                | .ok fl =>
                  let bs := " ".intercalate (sortStrings fl)
                  let r1 := load E C none b
                  let r2 := load E C ctx b
                  match r1, r2 with
                  | .ok v1, .ok v2 =>
                    if showView v1 = showView v2 then s!"{bs} | {showView v1}" else s!"{bs} | err:ctxdiff"
                  | .error e, _ => s!"{bs} | {showErr e}"
                  | _, .error e => s!"{bs} | {showErr e}"
              if kind = "P" then
                (if rest.isEmpty then go { name := cls, outline := none } base else "bad")
              else if kind = "W" then
                (match rest with
                 | cx :: rest =>
                   let stp : Option (Option St × List String) :=
                     (match rest with
                      | "_" :: r => some (none, r)
                      | _ => (pSt rest).map (fun (s, r) => (some s, r)))
                   (match stp with
                    | none => "bad"
                    | some (s, rest) =>
                      match DrvOutline.pBlock rest with
                      | some (is, []) =>
                        go { name := cls, outline := some is } { base with chain := some { ctx := pVal cx, stepper := s } }
                      | _ => "bad")
                 | _ => "bad")
              else "bad")
     | _, _, _ => "bad")
  | _ => "bad"

partial def loop (f : String → String) (h : IO.FS.Stream) : IO Unit := do
  let line ← h.getLine
  if line.isEmpty then return ()
  IO.println (f line)
  loop f h

def main : IO Unit := do loop handle (← IO.getStdin)

/-
`pmodel restore` — an outline chain with crash points.
line   := <k> <c1> … <ck> <outline case line as in `pmodel outline`>
          c_j = number of `_do_step` calls completed when the j-th checkpoint is taken (strictly increasing)
output := trace=<ev,…> result=<ret> restores=<n>  |  err
-/
def gaps : Nat → List Nat → List Nat
  | _, [] => []
  | prev, c :: cs => (c - prev) :: gaps c cs

def handleRestore (line : String) : String :=
  let toks := (line.trimAscii.toString.splitOn " ").filter (· ≠ "")
  match toks with
  | k :: rest =>
    (match k.toNat? with
     | none => "bad"
     | some k =>
       match (rest.take k).mapM String.toNat? with
       | none => "bad"
       | some cps =>
         match DrvOutline.pBlock (rest.drop k) with
         | none => "bad"
         | some (is, rest) =>
           match DrvOutline.pTabs rest {} with
           | none => "bad"
           | some t =>
             if is.isEmpty then "err" else
             let E : Env := { glob := defaultLoader, find := fun _ => none, fnName := fnName }
             let W := DrvOutline.world t
             let n := (cps.filter (fun c => match runSteps W is c (createBlock is) {} with | .running .. => true | _ => false)).length
             match runCrash E W is 100000 (gaps 0 cps) (createBlock is) {} with
             | some (r, h) => s!"trace={",".intercalate h.events.reverse} result={DrvOutline.showRet r} restores={n}"
             | none => "err")
  | _ => "bad"

def mainRestore : IO Unit := do loop handleRestore (← IO.getStdin)

end DrvPersist
