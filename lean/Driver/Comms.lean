import Driver.PM
import PlumpyModel.Comms.Model
namespace DrvComms
open PMF Comms

/-
line protocol (whitespace separated tokens, one observation line per input line):

  case <prog> <fail>          prog: a program of `Comms.progOf`; fail: `-` | `<idx>:<ExceptionClass>` (broadcast_send raises it
                              at that transition index)         -> observation of the construction
  tick stepper | tick trykill | tick adone <f>                  a callback of the process ran
  tick recv <id>              the subscriber callback of message <id> ran (message_receive / broadcast_receive)
  tick call <id>              the callback scheduled by _schedule_rpc for message <id> ran
  rpc <intent>                rpc_send(pid, {intent: <intent>})
  bcast <subject>             broadcast_send(body, subject=<subject>)
  direct pause|play|kill|status      the direct call
  env resume                  process.resume(5) (not part of remote control; needed by the wait/resume programs)
  end                         -> `replies=<id>:<value>,… announced=<n> blog=<idx>:<subject>:<sender>,…`

observation: `ret=<r> st=<label> paused=<0|1> fut=<…> task=<pending|done|crashed> sub=<rpc><bc> blog+=<subject,…|->`
or `hookfail` when a non-tolerated exception left on_entered during this op (the modelled run ends there; later ops print `dead`).
-/

def b01 (x : Bool) : String := if x then "1" else "0"

def showCall : Call → String
  | .play => "play" | .pause => "pause" | .kill => "kill" | .status => "status"

def showObs : Obs → String
  | .ret r => DrvPM.showRet r
  | .status l p => s!"status:{DrvPM.showLabel l}:{b01 p}"
  | .sent id => s!"sent:{id}"
  | .unroutable => "unroutable"
  | .nosub => "nosub"
  | .filtered => "filtered"
  | .scheduled _ => "sched"
  | .ignored => "ignored"
  | .rejected cls => s!"rejected:{cls}"
  | .called k r => s!"called:{showCall k}:{DrvPM.showRet r}"
  | .disabled => "disabled"

def showRVal : RVal → String
  | .pending => "pending" | .bool true => "T" | .bool false => "F" | .cancelled => "cancelled"
  | .exc cls => s!"exc:{cls}" | .status l p => s!"status:{DrvPM.showLabel l}:{b01 p}" | .none => "none"

def line (c0 c : Comms.Cfg) (o : Obs) : String :=
  if c.ch.failed.isSome then (if c0.ch.failed.isSome then "dead" else "hookfail") else
  let fresh := (c.ch.blog.take (c.ch.blog.length - c0.ch.blog.length)).reverse
  let bl := if fresh.isEmpty then "-" else ",".intercalate (fresh.map (·.subject))
  s!"ret={showObs o} st={DrvPM.showLabel c.p.st.label} paused={b01 c.p.paused.isSome} fut={DrvPM.showFut c.p.fut} " ++
  s!"task={DrvPM.showTask c.p.pc} sub={b01 c.ch.subRpc}{b01 c.ch.subBc} blog+={bl}"

def endLine (c : Comms.Cfg) : String :=
  if c.ch.failed.isSome then "dead" else
  let reps := c.replies.reverse.map fun e => s!"{e.1}:{showRVal (replyVal c.p e.2)}"
  let bl := c.ch.blog.reverse.map fun b => s!"{b.idx}:{b.subject}:{b.sender}"
  s!"replies={",".intercalate reps} announced={c.ch.announced} blog={",".intercalate bl}"

def parseEv (toks : List String) : Option Comms.Ev :=
  match toks with
  | ["tick", "recv", id] => id.toNat?.map Comms.Ev.recv
  | ["tick", "call", id] => id.toNat?.map Comms.Ev.call
  | ["tick", "stepper"] => some (.pm .tick)
  | ["tick", "trykill"] => some (.pm (.tickCb .trykill))
  | ["tick", "adone", f] => f.toNat?.map fun n => .pm (.tickCb (.adone n))
  | ["rpc", w] => some (.rpc w)
  | ["bcast", s] => some (.bcast s)
  | ["direct", "pause"] => some (.pm .pause)
  | ["direct", "play"] => some (.pm .play)
  | ["direct", "kill"] => some (.pm .kill)
  | ["direct", "status"] => some .status
  | ["env", "resume"] => some (.pm (.resume (some 5)))
  | _ => none

def parseFail (s : String) : Option Oracle :=
  if s = "-" then some allOk else
  match s.splitOn ":" with
  | [i, cls] => i.toNat?.map fun n => failAt n cls
  | _ => none

partial def loop (h : IO.FS.Stream) (O : Oracle) (P : Prog) (c : Comms.Cfg) : IO Unit := do
  let ln ← h.getLine
  if ln.isEmpty then return ()
  let toks := (ln.trimAscii.toString.splitOn " ").filter (· ≠ "")
  match toks with
  | ["case", name, fail] =>
      match parseFail fail with
      | none => IO.println "bad"; loop h O P c
      | some O' =>
        let c' := create O' 0 "pid"
        let blank : Comms.Cfg := {}
        IO.println (line blank c' (.ret .none))
        loop h O' (Comms.progOf name) c'
  | ["end"] => IO.println (endLine c); loop h O P c
  | _ =>
    match parseEv toks with
    | none => IO.println "bad"; loop h O P c
    | some ev =>
      let (c', o) := Comms.step O P c ev
      IO.println (line c c' o)
      loop h O P c'

def main : IO Unit := do loop (← IO.getStdin) allOk (Comms.progOf "") {}
end DrvComms
