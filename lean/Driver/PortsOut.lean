import Driver.Ports
import PlumpyModel.Ports.Out
namespace DrvPortsOut
open Ports DrvPorts

/-
`pmodel portsout` (C12): one case per line: the output spec, the emissions of the step function, how it returns.

  line : top OPS <k> (<path> value)* FIN <successful> <result>
  path : `p:` followed by the dotted port name as given to `out` (may contain empty segments)
observation (one line): per emission `ok d=<dynamic> ev=<path>;<value>;<dynamic> O=<outputs> S=<spec>` or
`err <Class> O=<outputs> S=<spec>`, then `fin <label> succ=<0|1> res=<result> fut=<tree> lis=<tree>`, joined by ` | `.
`S` is the tree of port names of the output spec (`name:L`, `name:N{...}`), which grows by dynamic creation.
-/

partial def showSpec (ports : PortList) : String :=
  let sorted := ports.toArray.qsort (fun a b => a.1 < b.1) |>.toList
  "{" ++ ",".intercalate (sorted.map fun (k, p) => match p with
    | .leaf _ => s!"{k}:L"
    | .ns _ sub => s!"{k}:N{showSpec sub}") ++ "}"

def pPath (tok : String) : Option (List String) :=
  if tok.startsWith "p:" then some ((tok.drop 2).toString.splitOn ".") else none

def pOps : Nat → List String → List (List String × V) → Option (List (List String × V) × List String)
  | 0, r, acc => some (acc.reverse, r)
  | m+1, p :: r, acc => do
      let path ← pPath p
      let (v, r') ← pValue r
      pOps m r' ((path, v) :: acc)
  | _, _, _ => none

def b01 (b : Bool) : String := if b then "1" else "0"
def showO (o : Option Items) : String := match o with | some items => showV (.dict false items) | none => "-"

def runOps (st : OutSt) : List (List String × V) → List String → OutSt × List String
  | [], acc => (st, acc.reverse)
  | (path, v) :: rest, acc =>
      let r := out theVd st path v
      let tail := s!"O={showV (.dict false r.1.outputs)} S={showSpec r.1.ports}"
      let line := match r.2 with
        | .ok d => s!"ok d={b01 d} ev={".".intercalate path};{showV v};{b01 d} {tail}"
        | .error e => (match e with | .validation _ => "err ValueError" | e => "err " ++ showErr e) ++ " " ++ tail
      runOps r.1 rest (line :: acc)

def handle (line : String) : String :=
  match (do
    let (top, ports, r) ← pTop (tokens line)
    match r with
    | "OPS" :: k :: r' => do
        let (ops, r'') ← pOps (← k.toNat?) r' []
        match r'' with
        | ["FIN", ok, res] => do
            let (okb, _) ← pBool [ok]
            some (top, ports, ops, okb, ← res.toNat?)
        | _ => none
    | _ => none) with
  | none => "bad"
  | some (top, ports, ops, ok, res) =>
      let st0 : OutSt := { top, ports, outputs := [], emitted := [] }
      let (st, obs) := runOps st0 ops []
      let f := toFinished theVd st res ok
      let fin := s!"fin {if f.label == .finished then "finished" else "excepted"} succ={b01 f.successful} res={f.result} fut={showO f.future} lis={showO f.listener}"
      " | ".intercalate (obs ++ [fin])

def main : IO Unit := do DrvPorts.loop (← IO.getStdin) handle
end DrvPortsOut
