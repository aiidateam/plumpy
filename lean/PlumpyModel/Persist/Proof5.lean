import PlumpyModel.Persist.Proof4
import PlumpyModel.PM.Proof12
/-!
# Two runs of a plain process that agree up to the heap of wait futures (helper lemmas for C08)

`c` is the running instance of the history with crashes (with the logs of its predecessors put under its own, `ext`), `d`
the configuration of the uninterrupted run.  `Both c d`: the relation `Core` of the pause-transparency proof
(`PM/Proof12.lean`: equal shared fields, state objects equal up to the index of the wait future, whose outcomes agree), in
both directions — neither run has a pause or kill request pending.  `At c d`: both stepping tasks are suspended at the same
point.  `BMid c d`: both are between two steps of the loop run by one callback.  These are `InStep` / `Mid` of `PM/Proof12.lean`
seen from both sides, so one step (`stepNext_sim`) and the entry of a callback into the loop (`tickEntry_sim`) are the lemmas
`stepNext_mid` / `tickEntry_inStep` of that file applied in both directions.
-/
namespace PMF

theorem SRel.symm {cw dw : List WF} {s s' : SObj} (h : SRel cw dw s s') : SRel dw cw s' s := by
  rcases h with ⟨rfl, hn⟩ | ⟨fn, wf, aw, wf', w, h1, h2, h3, h4, h5⟩
  · exact Or.inl ⟨rfl, hn⟩
  · exact Or.inr ⟨fn, wf', aw, wf, w, h2, h1, h4, h3, h5⟩

structure Both (c d : Cfg) : Prop where
  core : Core c d
  cint : c.interrupt = none
  cpaused : c.paused = none

theorem Both.symm {c d : Cfg} (h : Both c d) : Both d c := by
  have hk : c.killing = d.killing := congrArg ShRec.killing h.core.sh
  exact ⟨⟨h.core.sh.symm, h.core.st.symm, by rw [← hk]; exact h.core.ckill, h.cint, h.cpaused⟩, h.core.dint, h.core.dpaused⟩

theorem Both.stepping {c d : Cfg} (h : Both c d) : c.stepping = d.stepping := congrArg ShRec.stepping h.core.sh
theorem Both.closed {c d : Cfg} (h : Both c d) : c.closed = d.closed := congrArg ShRec.closed h.core.sh
theorem Both.trace {c d : Cfg} (h : Both c d) : c.trace = d.trace := congrArg ShRec.trace h.core.sh
theorem Both.ctx {c d : Cfg} (h : Both c d) : c.ctx = d.ctx := congrArg ShRec.ctx h.core.sh
theorem Both.label {c d : Cfg} (h : Both c d) : c.st.label = d.st.label := h.core.label

/-- what the end of a step establishes for both runs -/
structure EndB (c d c' d' : Cfg) : Prop where
  both : Both c' d'
  pcc : c'.pc = c.pc
  pcd : d'.pc = d.pc
  stepping : c'.stepping = false

theorem both_pc (c d : Cfg) (p q : Pc) (h : Both c d) : Both { c with pc := p } { d with pc := q } :=
  ⟨core_pc c d p q h.core, h.cint, h.cpaused⟩

/-- between two steps of the loop run by one callback (the program counters are stale there) -/
structure BMid (c d : Cfg) : Prop where
  both : Both c d
  stepping : c.stepping = false
  ncc : NotCrashed c
  ncd : NotCrashed d

/-- both stepping tasks are suspended at the same point (or have not started, or are done) -/
structure At (c d : Cfg) : Prop where
  both : Both c d
  pc : PcRelAt c.pc c d
  run : isRunningPc c.pc = true → c.stepping = true
  idle : isRunningPc c.pc = false → c.stepping = false
  pcdone : c.pc = .done → terminal c.st.label = true
  nc : NotCrashed c

theorem At.inStep {c d : Cfg} (h : At c d) : InStep c d :=
  ⟨h.both.core, IntOk.of_none h.both.cint, h.pc, fun hr => ⟨h.run hr, h.both.cpaused⟩, fun hi => ⟨h.idle hi, h.both.cint⟩⟩

theorem BMid.mid {c d : Cfg} (h : BMid c d) : Mid c d := ⟨h.both.core, h.both.cint, h.stepping, h.ncc, h.ncd⟩
theorem BMid.symm {c d : Cfg} (h : BMid c d) : BMid d c := ⟨h.both.symm, h.both.stepping ▸ h.stepping, h.ncd, h.ncc⟩
theorem BMid.of_mid {c d : Cfg} (h : Mid c d) (h' : Mid d c) : BMid c d :=
  ⟨⟨h.core, h.int, h'.core.dpaused⟩, h.stepping, h.ncc, h.ncd⟩

theorem At.of_inStep {c d : Cfg} (h : InStep c d) (h' : InStep d c) (hr : isRunningPc c.pc = true) : At c d :=
  ⟨⟨h.core, h'.core.dint, h'.core.dpaused⟩, h.pc, fun hr => (h.run hr).1, fun hi => (h.idle hi).1,
    fun hd => (by rw [hd] at hr; cases hr), fun e he => (by rw [he] at hr; cases hr)⟩

theorem stepNext_sim (P : Prog) (c d : Cfg) (hm : BMid c d) :
    (stepNext P c = none ∧ stepNext P d = none ∧ At (stepSusp P c) (stepSusp P d) ∧ (NoWaitOn P → PcOk (stepSusp P d))) ∨
    (∃ e e', stepNext P c = some e ∧ stepNext P d = some e' ∧ BMid e e') := by
  rcases stepNext_mid P c d hm.mid hm.both.cpaused with ⟨h1, h2, h3, h4, h5⟩ | ⟨e, e', h1, h2, h3⟩
  · rcases stepNext_mid P d c hm.symm.mid hm.both.core.dpaused with ⟨_, _, g3, _⟩ | ⟨_, _, g1, _⟩
    · refine .inl ⟨h1, h2, .of_inStep h3 g3 h4, fun hP b hb f aw => ?_⟩
      obtain ⟨fn, args, kw, e⟩ := h5 b hb
      rw [e]; exact hP fn args kw d.ctx f aw
    · rw [h2] at g1; cases g1
  · rcases stepNext_mid P d c hm.symm.mid hm.both.core.dpaused with ⟨g1, _⟩ | ⟨x, x', g1, g2, g3⟩
    · rw [h2] at g1; cases g1
    · rw [h2] at g1; rw [h1] at g2; cases g1; cases g2
      exact .inr ⟨e, e', h1, h2, .of_mid h3 g3⟩

theorem stepNext_clean (P : Prog) (hP : NoWaitOn P) (d e : Cfg) (h : Clean d) (hp : d.paused = none)
    (hn : stepNext P d = some e) : Clean e := by
  have := clean_task.stepBodyK P (k := id) (fun _ hd => hd) d (fun _ pf hpf => by rw [hp] at hpf; cases hpf) h hP.cmds
  rw [stepBodyK_eq, hn] at this
  exact this

theorem pcOk_of_pc {c c' : Cfg} (h : PcOk c) (hp : c'.pc = c.pc) : PcOk c' := by
  intro b hb; rw [hp] at hb; exact h b hb

/-- the uninterrupted run `d` has enough fuel for the loop (`loopDone`), the other run at least as much -/
theorem loop_sim (P : Prog) (hP : NoWaitOn P) : ∀ (n m : Nat) (c d : Cfg), n ≤ m → BMid c d → Clean d → loopDone P n d = true →
    At (loopHead P m c) (loopHead P n d) ∧ PcOk (loopHead P n d) := by
  intro n
  induction n with
  | zero => intro m c d _ _ _ hD; simp [loopDone] at hD
  | succ n ih =>
    intro m c d hnm hm hcl hD
    obtain ⟨m', rfl⟩ : ∃ m', m = m' + 1 := ⟨m - 1, by omega⟩
    have hlab := hm.both.label
    by_cases ht : terminal c.st.label = true
    · rw [loopHead_term P m' c hm.ncc ht, loopHead_term P n d hm.ncd (hlab ▸ ht)]
      refine ⟨⟨both_pc _ _ _ _ hm.both, rfl, fun h => by simp [isRunningPc] at h, fun _ => hm.stepping, fun _ => ht,
        (by intro e he; cases he)⟩, ?_⟩
      intro b hb; cases hb
    · have htf : terminal c.st.label = false := by simpa using ht
      have htd : terminal d.st.label = false := hlab ▸ htf
      have hcd : d.closed = false := (hcl.live htd).2.2.1
      have hcc : c.closed = false := hm.both.closed ▸ hcd
      rw [loopHead_step P m' c hm.ncc htf hcc hm.both.cpaused,
        loopHead_step P n d hm.ncd htd hcd hm.both.core.dpaused, stepBodyK_eq, stepBodyK_eq]
      rw [loopDone_go P n d hm.ncd htd hcd hm.both.core.dpaused, stepDoneK_eq] at hD
      rcases stepNext_sim P c d hm with ⟨h1, h2, h3, h4⟩ | ⟨e, e', h1, h2, h3⟩
      · rw [h1, h2]; exact ⟨h3, h4 hP⟩
      · rw [h1, h2]
        rw [h2] at hD
        exact ih m' e e' (by omega) h3 (stepNext_clean P hP d e' hcl hm.both.core.dpaused h2) hD

/-- both runs cut off after `n` iterations, at a step boundary of a live process; `f'` is the fuel the uninterrupted callback
has left there -/
theorem loop_cut (P : Prog) (hP : NoWaitOn P) : ∀ (n : Nat) (c d : Cfg), BMid c d → Clean d →
    (loopHead P n c).stepping = false → terminal (loopHead P n c).st.label = false →
    BMid (loopHead P n c) (loopHead P n d) ∧
    ∀ f, loopDone P f d = true →
      ∃ f', f = n + f' ∧ loopHead P f d = loopHead P f' (loopHead P n d) ∧ loopDone P f' (loopHead P n d) = true := by
  intro n
  induction n with
  | zero =>
    intro c d hm _ _ _
    exact ⟨hm, fun f hD => ⟨f, by omega, rfl, hD⟩⟩
  | succ n ih =>
    intro c d hm hcl hs hl
    have hlab := hm.both.label
    by_cases ht : terminal c.st.label = true
    · rw [loopHead_term P n c hm.ncc ht] at hl
      rw [show ({ c with pc := Pc.done } : Cfg).st = c.st from rfl, ht] at hl
      cases hl
    · have htf : terminal c.st.label = false := by simpa using ht
      have htd : terminal d.st.label = false := hlab ▸ htf
      have hcd : d.closed = false := (hcl.live htd).2.2.1
      have hcc : c.closed = false := hm.both.closed ▸ hcd
      have hgc := loopHead_step P n c hm.ncc htf hcc hm.both.cpaused
      have hgd := fun k => loopHead_step P k d hm.ncd htd hcd hm.both.core.dpaused
      rw [hgc, stepBodyK_eq] at hs hl
      rw [hgc, hgd n, stepBodyK_eq, stepBodyK_eq]
      rcases stepNext_sim P c d hm with ⟨h1, h2, h3, h4⟩ | ⟨e, e', h1, h2, h3⟩
      · rw [h1] at hs
        rw [stepSusp_stepping] at hs
        cases hs
      · rw [h1] at hs hl
        rw [h1, h2]
        obtain ⟨hb, hf⟩ := ih e e' h3 (stepNext_clean P hP d e' hcl hm.both.core.dpaused h2) hs hl
        refine ⟨hb, ?_⟩
        intro f hD
        cases f with
        | zero => simp [loopDone] at hD
        | succ f0 =>
          rw [loopDone_go P f0 d hm.ncd htd hcd hm.both.core.dpaused, stepDoneK_eq, h2] at hD
          obtain ⟨f', hf1, hf2, hf3⟩ := hf f0 hD
          refine ⟨f', by omega, ?_, hf3⟩
          rw [hgd f0, stepBodyK_eq, h2]
          exact hf2

theorem At.symm {c d : Cfg} (h : At c d) : At d c := by
  have hb := h.both.symm
  have hs := h.both.stepping
  have hl := h.both.label
  have hpcr := h.pc
  cases hpc : c.pc with
  | awaitPaused pf => rw [hpc] at hpcr; exact hpcr.elim
  | crashed e => exact absurd hpc (h.nc e)
  | notStarted =>
    rw [hpc] at hpcr
    have hpd : d.pc = .notStarted := hpcr
    exact ⟨hb, by rw [hpd]; exact hpc, fun hr => (by rw [hpd] at hr; cases hr), fun _ => hs ▸ h.idle (by rw [hpc]; rfl),
      fun hd => (by rw [hpd] at hd; cases hd), .of_pc hpd⟩
  | done =>
    rw [hpc] at hpcr
    have hpd : d.pc = .done := hpcr
    exact ⟨hb, by rw [hpd]; exact hpc, fun hr => (by rw [hpd] at hr; cases hr), fun _ => hs ▸ h.idle (by rw [hpc]; rfl),
      fun _ => hl ▸ h.pcdone hpc, .of_pc hpd⟩
  | inUser b =>
    rw [hpc] at hpcr
    obtain ⟨hpd, fn, args, kw, hst⟩ := hpcr
    have hst' : d.st = .running fn args kw := by
      rcases h.both.core.st with ⟨heq, _⟩ | ⟨_, _, _, _, _, h1, _⟩
      · rw [← heq]; exact hst
      · rw [hst] at h1; cases h1
    exact ⟨hb, by rw [hpd]; exact ⟨hpc, fn, args, kw, hst'⟩, fun _ => hs ▸ h.run (by rw [hpc]; rfl),
      fun hi => (by rw [hpd] at hi; cases hi), fun hd => (by rw [hpd] at hd; cases hd), .of_pc hpd⟩
  | awaitWaiting wf =>
    obtain ⟨fn, aw, wf', w, hst, hst', hpd, hw, hw', hni⟩ := h.inStep.at_wait hpc
    exact ⟨hb, by rw [hpd]; exact ⟨fn, none, aw, wf, hst', hst, hpc⟩, fun _ => hs ▸ h.run (by rw [hpc]; rfl),
      fun hi => (by rw [hpd] at hi; cases hi), fun hd => (by rw [hpd] at hd; cases hd), .of_pc hpd⟩

theorem At.not_awaitPaused {c d : Cfg} (h : At c d) : isAwaitPaused c.pc = false ∧ isAwaitPaused d.pc = false :=
  h.inStep.not_awaitPaused

theorem tickF_idle_pcOk (P : Prog) (d : Cfg) (h : tickEntry d = none) (hp : isAwaitPaused d.pc = false) (hpo : PcOk d) :
    PcOk (tickF P 0 d) := by
  rcases tickF_idle_shape P d h hp with e | ⟨b, hb, e⟩ <;> rw [e]
  · exact hpo
  · intro b' hb' f aw; cases hb'; exact hpo b hb f aw

/-- a callback that leaves the loop alone does not end at a step boundary of a live process: it is still stepping, or the
process is terminal (fourth conjunct) -/
theorem tickEntry_sim (P : Prog) (c d : Cfg) (h : At c d) :
    (tickEntry c = none ∧ tickEntry d = none ∧ At (tickF P 0 c) (tickF P 0 d) ∧
      ((tickF P 0 c).stepping = true ∨ terminal (tickF P 0 c).st.label = true) ∧ (PcOk d → PcOk (tickF P 0 d))) ∨
    (∃ c0 d0, tickEntry c = some c0 ∧ tickEntry d = some d0 ∧ BMid c0 d0) := by
  have hap := h.not_awaitPaused.1
  rcases tickEntry_inStep P c d h.inStep with ⟨h1, h2, h3⟩ | ⟨c0, d0, h1, h2, h3⟩
  · rcases tickEntry_inStep P d c h.symm.inStep with ⟨_, _, g3⟩ | ⟨_, _, g1, _⟩
    · refine .inl ⟨h1, h2, ?_, ?_, tickF_idle_pcOk P d h2 h.not_awaitPaused.2⟩
      · refine ⟨⟨h3.core, g3.core.dint, g3.core.dpaused⟩, h3.pc, fun hr => (h3.run hr).1, fun hi => (h3.idle hi).1, ?_, ?_⟩ <;>
          rcases tickF_idle_shape P c h1 hap with e | ⟨b, _, e⟩ <;> rw [e]
        · exact h.pcdone
        · exact fun hd => nomatch hd
        · exact h.nc
        · exact fun _ he => nomatch he
      · rcases tickF_idle_shape P c h1 hap with e | ⟨b, hb, e⟩ <;> rw [e]
        · cases hpc : c.pc with
          | notStarted => simp only [tickEntry, hpc] at h1; cases h1
          | done => exact .inr (h.pcdone hpc)
          | crashed e => exact absurd hpc (h.nc e)
          | awaitPaused pf => rw [hpc] at hap; cases hap
          | inUser b => exact .inl (h.run (by rw [hpc]; rfl))
          | awaitWaiting wf => exact .inl (h.run (by rw [hpc]; rfl))
        · exact .inl (h.run (by rw [hb]; rfl))
    · rw [h2] at g1; cases g1
  · rcases tickEntry_inStep P d c h.symm.inStep with ⟨g1, _⟩ | ⟨x, x', g1, g2, g3⟩
    · rw [h2] at g1; cases g1
    · rw [h2] at g1; rw [h1] at g2; cases g1; cases g2
      exact .inr ⟨c0, d0, h1, h2, .of_mid h3 g3⟩

theorem tick_sim (P : Prog) (hP : NoWaitOn P) (c d : Cfg) (h : At c d) (hcl : Clean d) (hpo : PcOk d) (hD : tickDone P d = true) :
    At (tickStepper P c) (tickStepper P d) ∧ PcOk (tickStepper P d) := by
  rw [← tickF_fuel0, ← tickF_fuel0]
  rcases tickEntry_sim P c d h with ⟨h1, h2, h3, _, h5⟩ | ⟨c0, d0, h1, h2, h3⟩
  · rw [tickF_idle P fuel0 c h1 h.not_awaitPaused.1, tickF_idle P fuel0 d h2 h.not_awaitPaused.2]
    exact ⟨h3, h5 hpo⟩
  · have hcl0 : Clean d0 := by have := tickF_clean P hP 0 d hcl hpo; rwa [(tick_entry P d d0 h2).1] at this
    rw [(tick_entry P c c0 h1).1, (tick_entry P d d0 h2).1]
    rw [(tick_entry P d d0 h2).2] at hD
    exact loop_sim P hP fuel0 fuel0 c0 d0 (Nat.le_refl _) h3 hcl0 hD

end PMF
