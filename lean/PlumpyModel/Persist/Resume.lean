import PlumpyModel.Persist.Proof
/-!
# Crash / restore chains of `_do_step` calls (C08)

`runCrash` (`Persist/Model.lean`) saves, abandons and reloads the stepper at the listed step boundaries; the world `σ`, the
persisted context of the work chain (C07: restored exactly), is handed over unchanged.  Here: a `_do_step` keeps the stepper
state one that `restoreTop ∘ saveTop` gives back (`stepB_shape`) and, while the chain continues, the top-level stepper
unfinished (`doStep_live`).
-/
namespace Persist
open Outline

theorem shapeI_create (i : Instr) : shapeI i (create i) = true := by
  cases i <;> simp [create, shapeI]

theorem shapeB_createBlock (is : Block) : shapeB is (createBlock is) = true := by
  cases is with
  | nil => simp [createBlock, shapeB]
  | cons a r =>
    have : (a :: r)[0]? = some a := rfl
    simp [createBlock, shapeB_some _ this, shapeI_create]

def okOut {σ} (p : St → Bool) : Out σ → Prop
  | .ok _ _ s' _ => p s' = true
  | _ => True

def SI {σ} (W : World σ) (i : Instr) : Prop := ∀ s w, shapeI i s = true → okOut (shapeI i) (stepI W i s w)
def SB {σ} (W : World σ) (is : Block) : Prop := ∀ s w, shapeB is s = true → okOut (shapeB is) (stepB W is s w)

theorem sI_call {σ} (W : World σ) (f : Nat) : SI W (.call f) := by
  intro s w _
  simp [stepI, okOut, shapeI]

theorem sI_ret {σ} (W : World σ) (c : Option Int) : SI W (.ret c) := by
  intro s w _
  simp [stepI, okOut]

/-- frame rule for `okOut`: the parent's state after the child has finished is well shaped, and wrapping keeps shape -/
theorem okOut_frame {σ} {q q' : St → Bool} {finD : Bool} {sD : St} {wrap : St → St} {o : Out σ} (h : okOut q o)
    (hd : q' sD = true) (hw : ∀ c, q c = true → q' (wrap c) = true) : okOut q' (frameOut finD sD wrap o) := by
  cases o with
  | ok fin r c' w' => cases fin with
    | true => exact hd
    | false => exact hw _ h
  | _ => trivial

theorem sI_while {σ} (W : World σ) (p : Nat) (b : Block) (hb : SB W b) : SI W (.while_ p b) := by
  intro s w hs
  have frame {c w1} (hc : shapeB b c = true) : okOut (shapeI (.while_ p b))
      (frameOut false (.node 0 none) (.node 0 ∘ some) (stepB W b c w1)) :=
    okOut_frame (hb c w1 hc) (by simp [shapeI]) (fun c hc => by simpa [shapeI] using hc)
  match s, hs with
  | .leaf, hs => simp [shapeI] at hs
  | .node q (some c), hs =>
    rw [stepI_while_node]
    exact frame (by simpa [shapeI] using hs : q = 0 ∧ shapeB b c = true).2
  | .node q none, hs =>
    rw [stepI_while_pred]
    split
    · exact frame (shapeB_createBlock b)
    · simp [okOut, shapeI]

theorem sI_ite {σ} (W : World σ) (bs : List Branch) (hb : ∀ br ∈ bs, SB W br.2) : SI W (.ite bs) := by
  intro s w hs
  have frame {pos} {br : Branch} {c w1} (hget : bs[pos]? = some br) (hc : shapeB br.2 c = true) : okOut (shapeI (.ite bs))
      (frameOut true (.node bs.length none) (.node pos ∘ some) (stepB W br.2 c w1)) :=
    okOut_frame (hb br (List.mem_of_getElem? hget) c w1 hc) (by simp [shapeI])
      (fun c hc => by simpa [shapeI_ite_some _ hget] using hc)
  match s, hs with
  | .leaf, hs => simp [shapeI] at hs
  | .node pos (some c), hs =>
    obtain ⟨br, hget, hs⟩ := shapeI_ite_elim hs
    rw [stepI_ite_node W hget]
    exact frame hget hs
  | .node pos none, _ =>
    rw [stepI_ite_scan]
    split
    · simp [okOut, shapeI]
    · split
      · rename_i br hget; exact frame hget (shapeB_createBlock _)
      · split <;> simp [okOut, shapeI]

theorem sB_of_elems {σ} (W : World σ) (is : Block) (hel : ∀ i ∈ is, SI W i) : SB W is := by
  intro s w hs
  match s, hs with
  | .leaf, hs => simp [shapeB] at hs
  | .node pos none, _ => simp [stepB, okOut]
  | .node pos (some c), hs =>
    obtain ⟨i, hget, hs⟩ := shapeB_elim hs
    rw [stepB_node W hget]
    refine okOut_frame (hel i (List.mem_of_getElem? hget) c w hs) ?_ (fun c' hc' => by simpa [shapeB_some c' hget] using hc')
    cases hget2 : is[pos+1]? with
    | none => simp [shapeB]
    | some i2 => simp [shapeB_some _ hget2, shapeI_create]

/-- stepping a block keeps the stepper state one that the typed stepper objects can hold -/
theorem stepB_shape {σ} (W : World σ) (is : Block) (s : St) (w : σ) (h : shapeB is s = true) :
    okOut (shapeB is) (stepB W is s w) :=
  (instr_block_induction (sI_call W) (sI_ret W) (sI_while W) (sI_ite W) (sB_of_elems W)).2 is s w h

theorem stepI_shape {σ} (W : World σ) (i : Instr) (s : St) (w : σ) (h : shapeI i s = true) :
    okOut (shapeI i) (stepI W i s w) :=
  (instr_block_induction (sI_call W) (sI_ret W) (sI_while W) (sI_ite W) (sB_of_elems W)).1 i s w h

/-- the top-level stepper is not finished: it has a child at a valid position (and is well shaped) -/
def liveTop (is : Block) (s : St) : Bool :=
  match s with
  | .node pos (some c) => (match is[pos]? with | some i => shapeI i c | none => false)
  | _ => false

theorem liveTop_createBlock (is : Block) (h : is ≠ []) : liveTop is (createBlock is) = true := by
  cases is with
  | nil => exact absurd rfl h
  | cons a r => simp [createBlock, liveTop, shapeI_create]

theorem liveTop_elim {is : Block} {s : St} (h : liveTop is s = true) :
    ∃ pos c i, s = .node pos (some c) ∧ is[pos]? = some i ∧ shapeI i c = true := by
  match s, h with
  | .leaf, h => simp [liveTop] at h
  | .node pos none, h => simp [liveTop] at h
  | .node pos (some c), h =>
    simp only [liveTop] at h
    split at h
    · exact ⟨_, _, _, rfl, ‹_›, h⟩
    · cases h

theorem liveTop_shapeTop {is : Block} {s : St} (h : liveTop is s = true) : shapeTop is s = true := by
  obtain ⟨pos, c, i, rfl, hget, h⟩ := liveTop_elim h
  match is, hget, h with
  | [], hget, _ => simp at hget
  | [j], hget, h =>
    cases pos with
    | zero => simp at hget; subst hget; simpa [shapeTop] using h
    | succ n => simp at hget
  | a :: b :: r, hget, h => simpa [shapeTop, shapeB_some c hget] using h

theorem doStep_live {σ} (W : World σ) (is : Block) (s : St) (w : σ) (h : liveTop is s = true)
    {s' : St} {w' : σ} {r : Ret} (hd : doStep W is s w = .cont s' w' r) : liveTop is s' = true := by
  obtain ⟨pos, c, i, rfl, hget, h⟩ := liveTop_elim h
  have hsi := stepI_shape W i c w h
  rw [doStep, stepB_node W hget] at hd
  cases hst : stepI W i c w with
  | error w2 => simp [hst, frameOut] at hd
  | propagate code w2 => simp [hst, frameOut] at hd
  | ok fin r2 c' w2 =>
    rw [hst] at hsi hd
    cases fin with
    | false =>
      simp only [frameOut, Bool.false_eq_true, if_false] at hd
      split at hd <;> cases hd
      simpa [liveTop, hget, okOut] using hsi
    | true =>
      simp only [frameOut, if_true] at hd
      split at hd <;> cases hd
      rename_i hcond
      have hlt : pos + 1 < is.length := by
        have := (List.getElem?_eq_some_iff.mp hget).1
        have : pos + 1 ≠ is.length := (by simpa using hcond : _ ∧ _).1
        omega
      simp [liveTop, List.getElem?_eq_getElem hlt, shapeI_create]

theorem runChain_add {σ} (W : World σ) (is : Block) (n m : Nat) (s : St) (w : σ) :
    runChain W is (n + m) s w =
      match runSteps W is n s w with
      | .running s' w' => runChain W is m s' w'
      | .finished r w' => some (r, w')
      | .failed => none := by
  induction n generalizing s w with
  | zero => simp [runSteps]
  | succ n ih =>
    have : n + 1 + m = (n + m) + 1 := by omega
    rw [this]
    simp only [runChain, runSteps]
    cases doStep W is s w with
    | cont s' w' r => simp only; exact ih s' w'
    | done r w' => rfl
    | error w' => rfl

theorem runSteps_live {σ} (W : World σ) (is : Block) (n : Nat) (s : St) (w : σ) (h : liveTop is s = true)
    {s' : St} {w' : σ} (hr : runSteps W is n s w = .running s' w') : liveTop is s' = true := by
  induction n generalizing s w with
  | zero => simp [runSteps] at hr; obtain ⟨rfl, rfl⟩ := hr; exact h
  | succ n ih =>
    simp only [runSteps] at hr
    cases hd : doStep W is s w with
    | cont s2 w2 r => rw [hd] at hr; exact ih s2 w2 (doStep_live W is s w h hd) hr
    | done r w2 => rw [hd] at hr; cases hr
    | error w2 => rw [hd] at hr; cases hr

end Persist
