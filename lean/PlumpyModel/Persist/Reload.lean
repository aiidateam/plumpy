import PlumpyModel.Persist.Plain
/-!
# A process loaded from a checkpoint, then controlled like any other (C04)

C08 runs a restored instance (`restoreCfg`, `Persist/Plain.lean`) with stepping-task callbacks and `resume` only; C04 asks that it
can still be KILLED — by `kill()` or by cancelling its future — whatever else happens to it.  This file adds what the tie with
the real library needs:

* `restoreCfgN m b` — `restoreCfg b` in an environment that holds `m` pending external futures (the futures a work chain
  awaits are the environment's, a bundle cannot carry them: C07; a restored work chain finds fresh ones).  `m = 0` is
  `restoreCfg` itself.
* `checkpointAt P c k` — the bundle `harness/props/c04.py` takes from inside the ENTERED callback of the state entry that
  makes the instance's ENTERED log `k` entries long, during the next callback of the stepping task of `c`: the callback is cut
  off (`tickF`) after the least number of loop iterations that reaches that entry; the checkpoint exists only if the
  configuration there is a step `boundary` (live, nothing delivered to the wait future).  In a history without requests
  nothing a bundle keeps changes between the ENTERED callback and the end of that loop iteration.
Core Lean only (linked into the driver: `pmodel pmr`).
-/
namespace PMF

def restoreCfgN (m : Nat) (b : Saved) : Cfg := { restoreCfg b with efs := List.replicate m .pending }

theorem restoreCfgN_zero (b : Saved) : restoreCfgN 0 b = restoreCfg b := rfl

/-- least `n` (trying `n, n+1, …`, at most `g` values) such that the callback cut after `n` iterations has entered `k` states -/
def findCutAt (P : Prog) (c : Cfg) (k : Nat) : Nat → Nat → Option Nat
  | 0, _ => none
  | g+1, n => if (tickF P n c).entered.length ≥ k then some n else findCutAt P c k g (n + 1)

def checkpointAt (P : Prog) (c : Cfg) (k : Nat) : Option Saved :=
  match findCutAt P c k 64 0 with
  | some n =>
      let b := tickF P n c
      if b.entered.length = k ∧ boundary b = true then some (saveCfg b) else none
  | none => none

end PMF
