import PlumpyModel.PM.Closed
import PlumpyModel.PM.Steps
/-!
# What a bundle does not carry is fresh at every step of a plain process (helper lemmas for C08)

`Clean c`: no scheduled callback, no external awaitable, no loop error; while the process is live its future is pending
and carries the `try_killing` callback, it is not closed and ran no cleanup; a WAITING state awaits no external future.
These are the fields `restoreCfg` sets to their initial values; `Clean` is preserved by the stepping task (any fuel) and by
`resume` for programs without `waitOn` — whatever pause / kill bookkeeping happens in between.

`Clean` reads ten fields.  An update that writes none of them keeps it (`Clean.off`); so does one that replaces the state object
by one that awaits nothing and is live only if the old one was (`Clean.frame`), and one that ends in a terminal state and
leaves `ready`, `efs`, `efCb`, `efKeys`, `loopErrs` alone (`Clean.frameT`).  What is left is the transition (`exitState`
filters the empty list of awaitable callbacks; `Waiting.enter` has nothing to register) and the control skeleton above it,
which hands the transition only next states that await nothing.
-/
namespace PMF

def AwEmpty (s : SObj) : Prop := ∀ fn wf wk aw, s = .waiting fn wf wk aw → aw = []

structure Clean (c : Cfg) : Prop where
  ready : c.ready = []
  efs : c.efs = []
  efCb : c.efCb = []
  efKeys : c.efKeys = []
  loopErrs : c.loopErrs = []
  live : terminal c.st.label = false → c.fut = .pending ∧ c.futHasKillCb = true ∧ c.closed = false ∧ c.cleanups = 0
  aw : AwEmpty c.st

theorem Clean.frame5 {W : List Fld} {c c' : Cfg} (h : Clean c) (o : Off W c c')
    (hlive : terminal c'.st.label = false → c'.fut = .pending ∧ c'.futHasKillCb = true ∧ c'.closed = false ∧ c'.cleanups = 0)
    (haw : AwEmpty c'.st)
    (hW : ∀ f ∈ [Fld.ready, .efs, .efCb, .efKeys, .loopErrs], f ∉ W := by decide) : Clean c' :=
  ⟨(o.ready (hW _ (by decide))).trans h.ready, (o.efs (hW _ (by decide))).trans h.efs,
   (o.efCb (hW _ (by decide))).trans h.efCb, (o.efKeys (hW _ (by decide))).trans h.efKeys,
   (o.loopErrs (hW _ (by decide))).trans h.loopErrs, hlive, haw⟩

theorem Clean.frame {W : List Fld} {c c' : Cfg} (h : Clean c) (o : Off W c c')
    (hl : terminal c'.st.label = false → terminal c.st.label = false) (haw : AwEmpty c'.st)
    (hW : ∀ f ∈ [Fld.ready, .efs, .efCb, .efKeys, .loopErrs] ++ [.fut, .futHasKillCb, .closed, .cleanups], f ∉ W :=
      by decide) : Clean c' :=
  h.frame5 o (fun hl' => by
      rw [o.fut (hW _ (by decide)), o.futHasKillCb (hW _ (by decide)), o.closed (hW _ (by decide)),
        o.cleanups (hW _ (by decide))]
      exact h.live (hl hl'))
    haw (fun f hf => hW f (List.mem_append_left _ hf))

theorem Clean.frameT {W : List Fld} {c c' : Cfg} (h : Clean c) (o : Off W c c') (ht : terminal c'.st.label = true)
    (haw : AwEmpty c'.st) (hW : ∀ f ∈ [Fld.ready, .efs, .efCb, .efKeys, .loopErrs], f ∉ W := by decide) : Clean c' :=
  h.frame5 o (fun hl => by rw [ht] at hl; cases hl) haw hW

theorem Clean.off {W : List Fld} {c c' : Cfg} (h : Clean c) (o : Off W c c')
    (hW : ∀ f ∈ [Fld.ready, .efs, .efCb, .efKeys, .loopErrs] ++ [.fut, .futHasKillCb, .closed, .cleanups], f ∉ W :=
      by decide) (hst : Fld.st ∉ W := by decide) : Clean c' :=
  h.frame o (by rw [o.st hst]; exact id) (by rw [o.st hst]; exact h.aw) hW

theorem exitState_clean (c : Cfg) (h : Clean c) : Clean (exitState c) := by
  have o := exitState_off c
  refine ⟨o.ready.trans h.ready, o.efs.trans h.efs, ?_, o.efKeys.trans h.efKeys, o.loopErrs.trans h.loopErrs, ?_, ?_⟩
  · exact exitState_elim (Q := fun d => d.efCb = []) c (fun _ => h.efCb) (fun _ _ _ _ _ _ => congrArg (List.filter _) h.efCb)
      fun _ _ _ _ _ _ => congrArg (List.filter _) h.efCb
  · rw [o.st, o.fut, o.futHasKillCb, o.closed, o.cleanups]; exact h.live
  · rw [o.st]; exact h.aw

theorem enterState_awEmpty (c : Cfg) (s : SObj) (h : AwEmpty s) : enterState c s = c := by
  unfold enterState
  split
  · rename_i fn wf wk aw
    have := h fn wf wk aw rfl
    subst this; rfl
  · rfl

theorem awEmpty_excepted (e : Exc) : AwEmpty (.excepted e) := by intro _ _ _ _ h; cases h

/-- a live process is not closed; the state entered awaits nothing, so `Waiting.enter` registers nothing; a terminal one may have
its future resolved, a live one has no entering hook -/
theorem transitionTo_clean (c : Cfg) (s : SObj) (h : Clean c) (hl : terminal c.st.label = false) (hs : AwEmpty s) :
    Clean (transitionTo c s) :=
  transitionTo_elim c s (fun hc => absurd (h.live hl).2.2.1 (by rw [hc]; exact Bool.noConfusion)) fun _ d s' c2 he hok => by
    have hd : Clean d ∧ terminal d.st.label = false ∧ AwEmpty s' := by
      have hx : terminal (exitState c).st.label = false := by rw [(exitState_off c).st]; exact hl
      cases he with
      | ok _ => exact ⟨exitState_clean c h, hx, hs⟩
      | refused e => exact ⟨h, hl, awEmpty_excepted e⟩
      | failed e => exact ⟨exitState_clean c h, hx, awEmpty_excepted e⟩
    have hst := enterNext_st c2 s'
    have o := (setState_off c2 s').trans (enteredHooks_off _ s')
    unfold enterNext at hst ⊢; dsimp only at hst ⊢
    rw [enterState_awEmpty c2 s' hd.2.2] at hst ⊢
    by_cases hts : terminal s'.label = true
    · rw [if_pos hts] at hst ⊢
      exact hd.1.frameT ((enteringHooks_off _ hok).trans (o.trans (onTerminated_off _))) (by rw [hst]; exact hts)
        (by rw [hst]; exact hd.2.2)
    · rw [if_neg hts] at hst ⊢
      cases (enteringHooks_live d s' (eq_false_of_ne_true hts)).symm.trans hok
      exact hd.1.frame o (fun _ => hd.2.1) (by rw [hst]; exact hd.2.2)

theorem Clean.rewait {W : List Fld} {c c' : Cfg} {f wf wk aw f' wf' wk'} (h : Clean c) (hst : c.st = .waiting f wf wk aw)
    (o : Off W c c') (hst' : c'.st = .waiting f' wf' wk' aw)
    (hW : ∀ f ∈ [Fld.ready, .efs, .efCb, .efKeys, .loopErrs] ++ [.fut, .futHasKillCb, .closed, .cleanups], f ∉ W :=
      by decide) : Clean c' :=
  h.frame o (by rw [hst', hst]; exact id) (by rw [hst']; intro a b c d hh; cases hh; exact h.aw _ _ _ _ hst) hW

theorem clean_eos : EosClosedG Clean fun _ s => AwEmpty s where
  ctl o h := h.off o
  tgt _ s hs := by intro fn wf wk aw h; subst h; exact absurd rfl hs
  transG c s hl hs h := transitionTo_clean c s h hl hs
  paused c h := h.off (doPauseHooks_off c)

def NoWaitCmd (cmd : Cmd) : Prop := ∀ f aw, cmd ≠ .waitOn f aw

theorem clean_task : TaskClosedG Clean (fun _ s => AwEmpty s) NoWaitCmd :=
  clean_eos.toTask (fun c _ _ _ _ _ h => h.off (Off.set c .trace _))
    (fun c cmd ha h => ⟨h.off (cmdToState_off c cmd), by
      cases cmd with
      | waitOn f aw => exact absurd rfl (ha f aw)
      | wait fn => intro _ _ _ _ hh; cases hh; rfl
      | _ => intro _ _ _ _ hh; cases hh⟩)
    (fun c _ _ _ _ hst h => h.rewait hst (W := [.st, .wfs]) (by off_fields) rfl)

theorem NoWaitOn.cmds {P : Prog} (hP : NoWaitOn P) : ProgCmds NoWaitCmd P :=
  fun fn args kw ctx _ e f aw hc => hP fn args kw ctx f aw (by rw [e, hc])

/-- the step function suspended in the stepping task does not end with `waitOn` -/
def PcOk (c : Cfg) : Prop := ∀ b, c.pc = .inUser b → ∀ f aw, b.out ≠ .ret (.waitOn f aw)

theorem PcOk.cmds {c : Cfg} (h : PcOk c) : PcCmds NoWaitCmd c := fun b hb _ e f aw hc => h b hb f aw (by rw [e, hc])



theorem loopHead_clean (P : Prog) (hP : NoWaitOn P) (fuel : Nat) (c : Cfg) (h : Clean c) : Clean (loopHead P fuel c) :=
  clean_task.loopHead P fuel hP.cmds c h

theorem tickF_clean (P : Prog) (hP : NoWaitOn P) (fuel : Nat) (c : Cfg) (h : Clean c) (hpc : PcOk c) :
    Clean (tickF P fuel c) := clean_task.tickF P fuel c h hP.cmds hpc.cmds

theorem deliver_clean (c : Cfg) (o : WF) (h : Clean c) : Clean (deliver c o) :=
  deliver_elim c o h (fun _ _ _ _ _ _ => h.off (Off.set c .wfs _)) fun _ _ _ _ hst _ => h.rewait hst (Off.set c .st _) rfl

theorem resume_clean (c : Cfg) (v : Option Val) (h : Clean c) : Clean (resume c v).1 :=
  resume_eq_deliver c v ▸ deliver_clean c _ h

theorem clean_init : Clean (init 0) := ⟨rfl, rfl, rfl, rfl, rfl, fun _ => ⟨rfl, rfl, rfl, rfl⟩, by intro _ _ _ _ h; cases h⟩

end PMF
