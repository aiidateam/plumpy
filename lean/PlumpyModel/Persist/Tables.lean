import PlumpyModel.Persist.Model
/-!
# The generated persistence tables, as the persistence model needs them

For every class the model knows: its effective `_auto_persist` members, its `super().save_instance_state` chain with the
keys each class writes by hand, and that the keys of a saved object (META, the members, the resolved hand-written keys)
are distinct.  **These are the obligations that break when a member set or a hand-written key changes in the source**
(kernel evaluation on `Gen/Persist.lean`).  One theorem per kind of object rather than per class: inside one evaluation
the kernel compares each pair of class names once, and checking these tables is mostly such comparisons.
-/
namespace Persist
open Outline

/-- the `super().save_instance_state` chains with the keys each class writes by hand -/
def chainSyms (cls : String) : List (String × List String) := ((cls :: bases cls).reverse).map (fun c => (c, handSyms c))

/-- the keys of a saved object of class `cls` whose `super()` chain writes `hand` by hand -/
def keysOf (cls : String) (hand : List String) : List String := Gen.meta_key :: members cls ++ hand

/-- futures, the event helper, the process and the work chain; every key a class writes by hand is read back by hand by
the same class (TRACEBACK is read only to hand it to the optional `tblib`, `command` is never written) -/
theorem tables_proc :
    (∀ c ∈ Gen.handKeyValues, ∀ kv ∈ c.2, kv.2 ∈ (Gen.handLoadedKeys.lookup c.1).getD []) ∧
    members futCls = ["_result", "_state"] ∧
    chainSyms futCls = [("plumpy.persistence.Savable", []), (futCls, ["exception"])] ∧
    (keysOf futCls [hk futCls "exception"]).Nodup ∧
    members ehCls = ["_listener_type", "_listeners"] ∧
    chainSyms ehCls = [("plumpy.persistence.Savable", []), (ehCls, [])] ∧
    (keysOf ehCls []).Nodup ∧
    members procCls =
      ["_creation_time", "_event_helper", "_future", "_paused", "_pid", "_pre_paused_status", "_status"] ∧
    chainSyms procCls =
      [("plumpy.persistence.Savable", []), (procCls, ["INPUTS_PARSED", "INPUTS_RAW", "OUTPUTS", "_state"])] ∧
    (keysOf procCls
      [hk procCls "INPUTS_PARSED", hk procCls "INPUTS_RAW", hk procCls "OUTPUTS", hk procCls "_state"]).Nodup ∧
    members chainCls = members procCls ∧
    chainSyms chainCls = chainSyms procCls ++ [(ctxCls, ["CONTEXT"]), (chainCls, ["_STEPPER_STATE"])] ∧
    (keysOf chainCls
      [hk procCls "INPUTS_PARSED", hk procCls "INPUTS_RAW", hk procCls "OUTPUTS", hk procCls "_state",
       hk ctxCls "CONTEXT", hk chainCls "_STEPPER_STATE"]).Nodup := by decide +kernel

/-- the state classes; they are told apart by their identifiers -/
theorem tables_state :
    [cid createdCls, cid runningCls, cid waitingCls, cid wcWaitingCls, cid finishedCls, cid exceptedCls,
      cid killedCls].Nodup ∧
    members createdCls = ["args", "in_state", "kwargs"] ∧
    chainSyms createdCls =
      [("plumpy.persistence.Savable", []), ("plumpy.process_states.State", []), (createdCls, ["RUN_FN"])] ∧
    (keysOf createdCls [hk createdCls "RUN_FN"]).Nodup ∧
    members runningCls = ["args", "in_state", "kwargs"] ∧
    chainSyms runningCls =
      [("plumpy.persistence.Savable", []), ("plumpy.process_states.State", []), (runningCls, ["COMMAND", "RUN_FN"])] ∧
    (keysOf runningCls [hk runningCls "COMMAND", hk runningCls "RUN_FN"]).Nodup ∧
    members waitingCls = ["data", "in_state", "msg"] ∧
    chainSyms waitingCls =
      [("plumpy.persistence.Savable", []), ("plumpy.process_states.State", []), (waitingCls, ["DONE_CALLBACK"])] ∧
    (keysOf waitingCls [hk waitingCls "DONE_CALLBACK"]).Nodup ∧
    members wcWaitingCls = ["_awaiting", "data", "in_state", "msg"] ∧
    chainSyms wcWaitingCls = chainSyms waitingCls ++ [(wcWaitingCls, [])] ∧
    (keysOf wcWaitingCls [hk waitingCls "DONE_CALLBACK"]).Nodup ∧
    members finishedCls = ["in_state", "result", "successful"] ∧
    chainSyms finishedCls =
      [("plumpy.persistence.Savable", []), ("plumpy.process_states.State", []), (finishedCls, [])] ∧
    (keysOf finishedCls []).Nodup ∧
    members exceptedCls = ["in_state"] ∧
    chainSyms exceptedCls =
      [("plumpy.persistence.Savable", []), ("plumpy.process_states.State", []), (exceptedCls, ["EXC_VALUE", "TRACEBACK"])] ∧
    (keysOf exceptedCls [hk exceptedCls "EXC_VALUE", hk exceptedCls "TRACEBACK"]).Nodup ∧
    members killedCls = ["in_state", "msg"] ∧
    chainSyms killedCls = [("plumpy.persistence.Savable", []), ("plumpy.process_states.State", []), (killedCls, [])] ∧
    (keysOf killedCls []).Nodup := by decide +kernel

theorem tables_stepper :
    members retStepCls = [] ∧
    chainSyms retStepCls =
      [("plumpy.persistence.Savable", []), ("plumpy.workchains.Stepper", []), (retStepCls, [])] ∧
    members fnStepCls = [] ∧
    chainSyms fnStepCls = [("plumpy.persistence.Savable", []), ("plumpy.workchains.Stepper", []), (fnStepCls, ["_fn"])] ∧
    (keysOf fnStepCls [hk fnStepCls "_fn"]).Nodup ∧
    members blockStepCls = ["_pos"] ∧
    chainSyms blockStepCls =
      [("plumpy.persistence.Savable", []), ("plumpy.workchains.Stepper", []), (blockStepCls, ["STEPPER_STATE"])] ∧
    (keysOf blockStepCls [hk blockStepCls "STEPPER_STATE"]).Nodup ∧
    members ifStepCls = ["_pos"] ∧
    chainSyms ifStepCls =
      [("plumpy.persistence.Savable", []), ("plumpy.workchains.Stepper", []), (ifStepCls, ["STEPPER_STATE"])] ∧
    (keysOf ifStepCls [hk ifStepCls "STEPPER_STATE"]).Nodup ∧
    members whileStepCls = [] ∧
    chainSyms whileStepCls =
      [("plumpy.persistence.Savable", []), ("plumpy.workchains.Stepper", []), (whileStepCls, ["STEPPER_STATE"])] ∧
    (keysOf whileStepCls [hk whileStepCls "STEPPER_STATE"]).Nodup := by decide +kernel

theorem chain_retStep : chainSyms retStepCls =
    [("plumpy.persistence.Savable", []), ("plumpy.workchains.Stepper", []), (retStepCls, [])] := tables_stepper.2.1

end Persist
