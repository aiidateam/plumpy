import PlumpyModel.Outline.Step
import PlumpyModel.Persist.Tables
/-!
# Round-trip lemmas of the persistence model

`load ∘ save = id` for futures, the event helper, every state class and stepper states of any depth.

Every `save` of the model has one shape (`savedAs`): the header, then the members of the class, then the keys the classes
of the `super()` chain write by hand.  The keys of such a bundle are distinct (a table fact, `keysOf`), so every key reads
back what was written under it, whatever the keys are: `saved_getValue`, `saved_hand`, `saved_ensureLoader`,
`saved_loadClass`.  With these a load of a saved object is the model's setters applied to the model's getters
(`setMembers`), with no bundle in between; what is left for each class is to evaluate that on its member list.
-/
namespace Persist
open Outline

theorem bget_cons (k : String) (v : BVal) (r : Bundle) (k' : String) :
    bget ((k, v) :: r) k' = if k' = k then some v else bget r k' := by
  unfold bget; rw [List.lookup_cons]; cases h : k' == k <;> simp_all

theorem bget_bset (b : Bundle) (k : String) (v : BVal) (k' : String) :
    bget (bset b k v) k' = if k' = k then some v else bget b k' := by
  induction b with
  | nil => rw [bset, bget_cons]
  | cons a r ih =>
    obtain ⟨ka, va⟩ := a
    by_cases h : ka = k <;> by_cases h' : k' = ka <;> simp_all [bset, bget_cons]

theorem bget_bsetOpt (b : Bundle) (k : String) (o : Option BVal) (k' : String) :
    bget (bsetOpt b k o) k' = if k' = k then o.or (bget b k') else bget b k' := by
  cases o <;> simp [bsetOpt, bget_bset]

@[simp] theorem metaOf_nil : metaOf [] = [] := rfl
@[simp] theorem bget_nil (k : String) : bget [] k = none := rfl
@[simp] theorem subOf_nil (k : String) : subOf [] k = [] := rfl

theorem metaOf_bset {k : String} (h : k ≠ Gen.meta_key) (b : Bundle) (v : BVal) : metaOf (bset b k v) = metaOf b := by
  unfold metaOf; rw [bget_bset, if_neg (Ne.symm h)]

theorem metaOf_setMeta (b : Bundle) (k : String) (v : BVal) : metaOf (setMeta b k v) = bset (metaOf b) k v := by
  simp [setMeta, metaOf, bget_bset]

theorem bget_setMeta {k' : String} (h : k' ≠ Gen.meta_key) (b : Bundle) (k : String) (v : BVal) :
    bget (setMeta b k v) k' = bget b k' := by
  rw [setMeta, bget_bset, if_neg h]

theorem metaOf_setMetaType (b : Bundle) (n t : String) :
    metaOf (setMetaType b n t) = bset (metaOf b) Gen.meta_types (.dict (bset (subOf (metaOf b) Gen.meta_types) n (.plain (.str t)))) :=
  metaOf_setMeta ..

theorem bget_setMetaType (b : Bundle) (n t : String) (k' : String) (h : k' ≠ Gen.meta_key) :
    bget (setMetaType b n t) k' = bget b k' :=
  bget_setMeta h ..

theorem getMetaType_setMetaType (b : Bundle) (n t k : String) :
    getMetaType (setMetaType b n t) k = if k = n then some (.plain (.str t)) else getMetaType b k := by
  simp [getMetaType, metaOf_setMetaType, subOf, bget_bset]

/-! A load reads of a bundle `b`: `bget b k` for keys other than META, the type tags `getMetaType b`, and the entries of META
other than the tags (class name, object loader). -/
/-- what `save_members` stores under a member's name -/
def MVal.stored (m : String) : MVal → BVal
  | .plain v => plainB v
  | .savable sb => .dict sb
  | .missing => .poison (.attribute m)

/-- the type tag `_set_meta_type` records for it -/
def MVal.tag : MVal → Option BVal
  | .savable _ => some (.plain (.str Gen.meta_type_savable))
  | _ => none

/-- what `_get_value` makes of the two -/
def MVal.loaded (m : String) : MVal → Except Err Loaded
  | .plain v => if v = .live then .error .unsavable else .ok (.plain v)
  | .savable sb => .ok (.savable sb)
  | .missing => .error (.attribute m)

theorem getValue_stored {b : Bundle} {k : String} {x : MVal} (hb : bget b k = some (x.stored k))
    (ht : getMetaType b k = x.tag) : getValue b k = x.loaded k := by
  rw [getValue, hb, ht]
  cases x with
  | plain v => by_cases h : v = .live <;> simp [MVal.stored, MVal.tag, MVal.loaded, plainB, h]
  | _ => simp [MVal.stored, MVal.tag, MVal.loaded]

theorem saveMember_reads {m : String} (hm : m ≠ Gen.meta_key) (b : Bundle) (x : MVal) :
    (∀ k, k ≠ Gen.meta_key → bget (saveMember b m x) k = if k = m then some (x.stored m) else bget b k) ∧
    (∀ k, getMetaType (saveMember b m x) k = if k = m then x.tag.or (getMetaType b k) else getMetaType b k) ∧
    ∀ k, k ≠ Gen.meta_types → bget (metaOf (saveMember b m x)) k = bget (metaOf b) k := by
  refine ⟨fun k hk => ?_, fun k => ?_, fun k hk => ?_⟩ <;> cases x <;>
    simp [saveMember, bget_bset, bget_setMetaType _ _ _ _, metaOf_bset hm, metaOf_setMetaType, getMetaType, subOf,
      MVal.stored, MVal.tag, *]

theorem saveMembers_cons (get : String → MVal) (m : String) (ms : List String) (b : Bundle) :
    saveMembers get (m :: ms) b = saveMembers get ms (saveMember b m (get m)) := rfl

theorem saveMembers_reads (get : String → MVal) {ms : List String} (hms : Gen.meta_key ∉ ms) (b : Bundle) :
    (∀ k, k ≠ Gen.meta_key → bget (saveMembers get ms b) k = if k ∈ ms then some ((get k).stored k) else bget b k) ∧
    (∀ k, getMetaType (saveMembers get ms b) k = if k ∈ ms then (get k).tag.or (getMetaType b k) else getMetaType b k) ∧
    ∀ k, k ≠ Gen.meta_types → bget (metaOf (saveMembers get ms b)) k = bget (metaOf b) k := by
  induction ms generalizing b with
  | nil => simp [saveMembers]
  | cons m r ih =>
    obtain ⟨h1, h2, h3⟩ := ih (List.not_mem_of_not_mem_cons hms) (saveMember b m (get m))
    obtain ⟨g1, g2, g3⟩ := saveMember_reads (Ne.symm (List.ne_of_not_mem_cons hms)) b (get m)
    rw [saveMembers_cons]
    refine ⟨fun k hk => ?_, fun k => ?_, fun k hk => by rw [h3 k hk, g3 k hk]⟩
    · rw [h1 k hk, g1 k hk]; by_cases h : k = m <;> simp [h]
    · rw [h2, g2]
      by_cases h : k = m
      · subst h; cases (get k).tag <;> simp
      · simp [h]

/-- the keys a class writes by hand, written one after the other -/
def bsetOpts (b : Bundle) (ws : List (String × Option BVal)) : Bundle := ws.foldl (fun b w => bsetOpt b w.1 w.2) b

theorem bsetOpts_cons (b : Bundle) (w : String × Option BVal) (ws : List (String × Option BVal)) :
    bsetOpts b (w :: ws) = bsetOpts (bsetOpt b w.1 w.2) ws := rfl

theorem bget_bsetOpts (b : Bundle) {ws : List (String × Option BVal)} {k : String} (h : k ∉ ws.map (·.1)) :
    bget (bsetOpts b ws) k = bget b k := by
  induction ws generalizing b with
  | nil => rfl
  | cons w r ih =>
    rw [List.map_cons, List.mem_cons, not_or] at h
    rw [bsetOpts_cons, ih _ h.2, bget_bsetOpt, if_neg h.1]

theorem metaOf_bsetOpts (b : Bundle) {ws : List (String × Option BVal)} (h : Gen.meta_key ∉ ws.map (·.1)) :
    metaOf (bsetOpts b ws) = metaOf b := by
  unfold metaOf; rw [bget_bsetOpts b h]

theorem bget_bsetOpts_mem (b : Bundle) {ws : List (String × Option BVal)} (hn : (ws.map (·.1)).Nodup)
    {k : String} {o : Option BVal} (h : (k, o) ∈ ws) : bget (bsetOpts b ws) k = o.or (bget b k) := by
  induction ws generalizing b with
  | nil => cases h
  | cons w r ih =>
    rw [List.map_cons, List.nodup_cons] at hn
    rw [bsetOpts_cons]
    cases h with
    | head => rw [bget_bsetOpts _ hn.1, bget_bsetOpt, if_pos rfl]
    | tail _ h =>
      have : k ≠ w.1 := fun e => hn.1 (e ▸ List.mem_map_of_mem (f := (·.1)) h)
      rw [ih _ hn.2 h, bget_bsetOpt, if_neg this]

/-- the loader a load ends up with -/
def effL (E : Env) (ctx : Option Loader) : Loader := ctx.getD E.glob

theorem saveHeader_reads (E : Env) (ctx : Option Loader) (id : String) :
    bget (metaOf (saveHeader E ctx id)) Gen.meta_class_name = some (.plain (.str ((effL E ctx).ident id))) ∧
    getUserMeta (saveHeader E ctx id) Gen.meta_object_loader = ctx.map (fun L => .plain (.str (E.glob.ident L.name))) ∧
    (∀ k, getMetaType (saveHeader E ctx id) k = none) ∧ ∀ k, k ≠ Gen.meta_key → bget (saveHeader E ctx id) k = none := by
  have h1 : Gen.meta_user ≠ Gen.meta_class_name := by decide
  have h2 : Gen.meta_types ≠ Gen.meta_user := by decide
  have h3 : Gen.meta_types ≠ Gen.meta_class_name := by decide
  cases ctx <;> refine ⟨?_, ?_, fun k => ?_, fun k hne => by simp [saveHeader, setUserMeta, bget_setMeta hne]⟩ <;>
    simp [saveHeader, getUserMeta, getMetaType, setUserMeta, metaOf_setMeta, bget_bset, subOf, effL, h1, h2, h3]

/-- the shape of every saved object: the header, the members of `cls` with the values `get` reads, the keys `ws` the
classes of its `super()` chain write by hand -/
def savedAs (E : Env) (ctx : Option Loader) (id : String) (get : String → MVal) (cls : String)
    (ws : List (String × Option BVal)) : Bundle :=
  bsetOpts (saveMembers get (members cls) (saveHeader E ctx id)) ws

theorem keys_apart {cls : String} {ks : List String} (hn : (keysOf cls ks).Nodup) :
    Gen.meta_key ∉ members cls ∧ Gen.meta_key ∉ ks ∧ ks.Nodup ∧ ∀ m ∈ members cls, m ∉ ks := by
  rw [keysOf, List.nodup_append, List.nodup_cons] at hn
  exact ⟨hn.1.1, fun h => hn.2.2 _ (.head _) _ h rfl, hn.2.1, fun m hm h => hn.2.2 _ (.tail _ hm) _ h rfl⟩

theorem ok_bind {α β : Type} (a : α) (f : α → Except Err β) : (Except.ok a >>= f) = f a := rfl

/-- `save_members` followed by `load_members`, without the bundle in between -/
def setMembers {α} (get : String → MVal) (set : α → String → Loaded → Except Err α) : List String → α → Except Err α
  | [], a => .ok a
  | m :: ms, a => ((get m).loaded m >>= set a m) >>= setMembers get set ms

theorem loadMembers_eq {α} {b : Bundle} {get : String → MVal} (set : α → String → Loaded → Except Err α)
    {ms : List String} (h : ∀ m ∈ ms, getValue b m = (get m).loaded m) (a : α) :
    loadMembers b set ms a = setMembers get set ms a := by
  induction ms generalizing a with
  | nil => rfl
  | cons m r ih =>
    rw [List.forall_mem_cons] at h
    rw [loadMembers, setMembers, h.1]
    cases (get m).loaded m with
    | error e => rfl
    | ok x => cases hs : set a m x with
      | error e => simp only [ok_bind, hs]; rfl
      | ok a' => simp only [ok_bind, hs, ih h.2]

section Saved
variable {E : Env} {ctx : Option Loader} {id : String} {get : String → MVal} {cls : String}
  {ws : List (String × Option BVal)} (hn : (keysOf cls (ws.map (·.1))).Nodup)
include hn

theorem saved_member {m : String} (hm : m ∈ members cls) :
    bget (savedAs E ctx id get cls ws) m = some ((get m).stored m) := by
  obtain ⟨h1, -, -, h4⟩ := keys_apart hn
  rw [savedAs, bget_bsetOpts _ (h4 m hm), (saveMembers_reads get h1 _).1 m (fun e => h1 (e ▸ hm)), if_pos hm]

theorem saved_getValue {m : String} (hm : m ∈ members cls) :
    getValue (savedAs E ctx id get cls ws) m = (get m).loaded m := by
  obtain ⟨h1, h2, -, -⟩ := keys_apart hn
  refine getValue_stored (saved_member hn hm) ?_
  rw [getMetaType, savedAs, metaOf_bsetOpts _ h2, ← getMetaType, (saveMembers_reads get h1 _).2.1, if_pos hm,
    (saveHeader_reads E ctx id).2.2.1, Option.or_none]

theorem saved_loadMembers {α} (set : α → String → Loaded → Except Err α) (a : α) :
    loadMembers (savedAs E ctx id get cls ws) set (members cls) a = setMembers get set (members cls) a :=
  loadMembers_eq set (fun _ hm => saved_getValue hn hm) a

theorem saved_hand {k : String} {o : Option BVal} (h : (k, o) ∈ ws) : bget (savedAs E ctx id get cls ws) k = o := by
  obtain ⟨h1, h2, h3, h4⟩ := keys_apart hn
  have hk := List.mem_map_of_mem (f := (·.1)) h
  rw [savedAs, bget_bsetOpts_mem _ h3 h, (saveMembers_reads get h1 _).1 k (fun e => h2 (e ▸ hk)),
    if_neg (fun hm => h4 k hm hk), (saveHeader_reads E ctx id).2.2.2 _ (fun e => h2 (e ▸ hk)), Option.or_none]

theorem saved_meta {k : String} (hk : k ≠ Gen.meta_types) :
    bget (metaOf (savedAs E ctx id get cls ws)) k = bget (metaOf (saveHeader E ctx id)) k := by
  obtain ⟨h1, h2, -, -⟩ := keys_apart hn
  rw [savedAs, metaOf_bsetOpts _ h2, (saveMembers_reads get h1 _).2.2 k hk]

theorem saved_ensureLoader (hE : E.ok ctx) {ctx' : Option Loader} (hc : ctx' = none ∨ ctx' = ctx) :
    ensureLoader E ctx' (savedAs E ctx id get cls ws) = .ok (effL E ctx) := by
  have h : getUserMeta (savedAs E ctx id get cls ws) Gen.meta_object_loader =
      ctx.map fun L => .plain (.str (E.glob.ident L.name)) := by
    rw [getUserMeta, subOf, saved_meta hn (by decide), ← subOf, ← getUserMeta, (saveHeader_reads E ctx id).2.1]
  cases ctx with
  | none => cases hc <;> simp_all [ensureLoader, effL]
  | some L =>
    rcases hc with rfl | rfl
    · simp [ensureLoader, h, hE.1 _, (hE.2 L rfl).2, effL]
    · rfl

theorem saved_loadClass (hE : E.ok ctx) : loadClass (effL E ctx) (savedAs E ctx id get cls ws) = .ok id := by
  have hL : (effL E ctx).ok := by
    cases ctx with
    | none => exact hE.1
    | some L => exact (hE.2 L rfl).1
  simp [loadClass, saved_meta hn (show Gen.meta_class_name ≠ Gen.meta_types by decide), (saveHeader_reads E ctx id).1, hL _]
end Saved

theorem saveChain_eq (cls : String) (val : String → String → Option (Option BVal)) (b : Bundle) :
    saveChain cls val b = (chainSyms cls).foldl (fun b p => p.2.foldl (handStep p.1 (val p.1)) b) b := by
  unfold saveChain chainSyms saveHand; rw [List.foldl_map]

theorem plainB_ok {v : Val} (h : okVal v = true) : plainB v = .plain v := by
  simp [okVal] at h; simp [plainB, h]
@[simp] theorem plainB_str (s : String) : plainB (.str s) = .plain (.str s) := rfl
@[simp] theorem plainB_none : plainB .none = .plain .none := rfl
@[simp] theorem plainB_nat (n : Nat) : plainB (.nat n) = .plain (.nat n) := rfl

variable (E : Env) (ctx : Option Loader)

theorem saveFuture_eq (f : FutV) : saveFuture E ctx f =
    savedAs E ctx (cid futCls) (futMember f) futCls
      [(hk futCls "exception", match f with | .exc e => some (plainB e) | _ => none)] := by
  rw [saveFuture.eq_def, savedAs]
  generalize saveMembers _ _ _ = b
  rw [saveChain_eq]
  -- `-implicitDefEqProofs`: with the unfolding steps left without proof terms the kernel has to find the unfolded `handStep`
  -- again, and does so by evaluating the string tests, which is slow to check
  simp -implicitDefEqProofs only [tables_proc, List.foldl_cons, List.foldl_nil, handStep, and_self, if_true, bsetOpts]
  rfl

theorem keys_fut (o : Option BVal) : (keysOf futCls ([(hk futCls "exception", o)].map (·.1))).Nodup := by
  simp only [List.map_cons, List.map_nil, tables_proc]

theorem loadFuture_saveFuture (f : FutV) (h : f.ok = true) : loadFuture (saveFuture E ctx f) = .ok f := by
  have hs : "_state" ∈ members futCls := by simp [tables_proc]
  have hr : "_result" ∈ members futCls := by simp [tables_proc]
  rw [saveFuture_eq, loadFuture, saved_member (keys_fut _) hs, saved_getValue (keys_fut _) hr,
    saved_hand (keys_fut _) (.head _)]
  cases f <;> simp_all [futMember, MVal.stored, MVal.loaded, FutV.ok, plainB, Gen.futPending, Gen.futFinished,
    Gen.futCancelled, plainOf, bind, Except.bind, okVal]

theorem saveEH_eq (e : EHV) : saveEH E ctx e = savedAs E ctx (cid ehCls) (ehMember e) ehCls [] := by
  rw [saveEH, savedAs]
  generalize saveMembers _ _ _ = b
  rw [saveChain_eq]
  -- `-implicitDefEqProofs` as in `saveFuture_eq`
  simp -implicitDefEqProofs only [tables_proc, List.foldl_cons, List.foldl_nil, bsetOpts]

theorem keys_eh : (keysOf ehCls (([] : List (String × Option BVal)).map (·.1))).Nodup := by
  simp only [List.map_nil, tables_proc]

theorem loadEH_saveEH (e : EHV) (h1 : okVal e.listenerType = true) (h2 : okVal e.listeners = true) :
    loadEH (saveEH E ctx e) = .ok e := by
  simp only [okVal, bne_iff_ne, ne_eq] at h1 h2
  rw [saveEH_eq, loadEH, saved_loadMembers keys_eh]
  simp [tables_proc, setMembers, ehMember, MVal.loaded, setEHMember, plainOf, bind, Except.bind, h1, h2]

/-- the keys the state classes write by hand -/
def stateWrites : StateV → List (String × Option BVal)
  | .created _ f _ _ => [(hk createdCls "RUN_FN", some (.plain (.str f)))]
  | .running _ f _ _ => [(hk runningCls "COMMAND", none), (hk runningCls "RUN_FN", some (.plain (.str f)))]
  | .waiting _ cb _ _ _ => [(hk waitingCls "DONE_CALLBACK", cb.map fun n => .plain (.str n))]
  | .excepted _ e => [(hk exceptedCls "EXC_VALUE", some (plainB e)), (hk exceptedCls "TRACEBACK", none)]
  | _ => []

theorem saveChain_state (s : StateV) (b : Bundle) : saveChain s.cls (stateHand s) b = bsetOpts b (stateWrites s) := by
  have : runningCls ≠ createdCls := fun e =>
    (List.pairwise_cons.1 tables_state.1).1 _ (.head _) (congrArg cid e).symm
  rw [saveChain_eq]
  rcases s with _ | _ | ⟨_, _, _, _, _ | _⟩ | _ | _ | _ <;>
    simp only [StateV.cls, tables_state, List.foldl, List.cons_append, List.nil_append, handStep, stateHand, stateWrites,
      bsetOpts, String.reduceEq, and_false, and_true, and_self, if_true, if_false, this]

theorem saveState_eq (s : StateV) :
    saveState E s = savedAs E none (cid s.cls) (stateMember s) s.cls (stateWrites s) := by
  rw [saveState, saveChain_state]; rfl

theorem keys_state (s : StateV) : (keysOf s.cls ((stateWrites s).map (·.1))).Nodup := by
  rcases s with _ | _ | ⟨_, _, _, _, _ | _⟩ | _ | _ | _ <;>
    simp only [StateV.cls, stateWrites, List.map_cons, List.map_nil, tables_state]

/-- the dispatch of `loadState` on the class identifier, with the branches left open -/
def byStateClass {α} (c : String) (A B C D F G H : α) : α :=
  if c = cid createdCls then A else if c = cid runningCls then B
  else if c = cid waitingCls ∨ c = cid wcWaitingCls then C else if c = cid finishedCls then D
  else if c = cid exceptedCls then F else if c = cid killedCls then G else H

theorem byStateClass_cid {α} (s : StateV) (A B C D F G H : α) :
    byStateClass (cid s.cls) A B C D F G H =
      match s with
      | .created .. => A | .running .. => B | .waiting .. => C
      | .finished .. => D | .excepted .. => F | .killed .. => G := by
  have hc := List.Pairwise.imp (S := fun a b => a ≠ b ∧ b ≠ a) (fun h => ⟨h, Ne.symm h⟩) tables_state.1
  simp only [List.pairwise_cons, List.mem_cons, List.not_mem_nil, forall_eq_or_imp, or_false, forall_eq] at hc
  rcases s with _ | _ | ⟨_, _, _, _, _ | _⟩ | _ | _ | _ <;> simp [byStateClass, StateV.cls, hc]

theorem loadState_saveState (hG : E.glob.ok) (s : StateV) (h : s.ok = true) : loadState E (saveState E s) = .ok s := by
  have hE : E.ok none := ⟨hG, fun _ h => nomatch h⟩
  have hn := keys_state s
  have hw : cid waitingCls ≠ cid wcWaitingCls :=
    (List.pairwise_cons.1 (List.pairwise_cons.1 (List.pairwise_cons.1 tables_state.1).2).2).1 _ (.head _)
  rw [saveState_eq, loadState, saved_ensureLoader hn hE (.inl rfl), ok_bind, saved_loadClass hn hE, ok_bind]
  refine (byStateClass_cid s ..).trans ?_
  -- `simp only [StateV.cls]` on the goal would do for the next three steps, but its proof term makes the kernel evaluate
  -- `members`, which is slow to check
  rcases s with ⟨i, f, a, k⟩ | ⟨i, f, a, k⟩ | ⟨i, cb, m, d, _ | aw⟩ | ⟨i, r, ok⟩ | ⟨i, e⟩ | ⟨i, m⟩ <;>
    rw [StateV.cls] at hn <;> dsimp only <;> rw [StateV.cls] <;>
    simp only [StateV.ok, Bool.and_eq_true, okVal, bne_iff_ne, ne_eq] at h
  · rw [saved_loadMembers hn, strAt, saved_hand hn (.head _)]
    simp only [tables_state, setMembers, stateMember, StateV.inState, MVal.loaded, h, if_false]
    rfl
  · rw [saved_loadMembers hn, strAt, saved_hand hn (.tail _ (.head _)), saved_hand hn (.head _)]
    simp only [tables_state, setMembers, stateMember, StateV.inState, MVal.loaded, h, if_false]
    rfl
  · rw [if_neg hw, if_neg hw, saved_loadMembers hn, saved_hand hn (.head _)]
    simp only [tables_state, setMembers, stateMember, StateV.inState, MVal.loaded, h, if_false]
    cases cb <;> rfl
  · rw [if_pos rfl, if_pos rfl, saved_loadMembers hn, saved_hand hn (.head _)]
    simp only [tables_state, setMembers, stateMember, StateV.inState, MVal.loaded, h, if_false]
    cases cb <;> rfl
  · rw [saved_loadMembers hn]
    simp only [tables_state, setMembers, stateMember, StateV.inState, MVal.loaded, h, if_false]
    rfl
  · rw [saved_loadMembers hn, saved_hand hn (.head _)]
    simp only [tables_state, setMembers, stateMember, StateV.inState, MVal.loaded, plainB, h, if_false]
    rfl
  · rw [saved_loadMembers hn]
    simp only [tables_state, setMembers, stateMember, StateV.inState, MVal.loaded, h, if_false]
    rfl

def RI (i : Instr) : Prop := ∀ s, shapeI i s = true → restoreI E i (saveI E i s) = .ok s
def RB (is : Block) : Prop := ∀ s, shapeB is s = true → restoreB E is (saveB E is s) = .ok s

theorem rI_call (f : Nat) : RI E (.call f) := by
  intro s hs
  cases s with
  | node p c => simp [shapeI] at hs
  | leaf =>
    have hn : (keysOf fnStepCls ([(hk fnStepCls "_fn", some (BVal.plain (.str (E.fnName f))))].map (·.1))).Nodup := by
      simp only [List.map_cons, List.map_nil, tables_stepper]
    have : saveI E (.call f) .leaf = savedAs E none (cid fnStepCls) (fun _ => .missing) fnStepCls
        [(hk fnStepCls "_fn", some (.plain (.str (E.fnName f))))] := by
      rw [saveI, savedAs]
      generalize saveMembers _ _ _ = b
      rw [saveChain_eq]
      -- `-implicitDefEqProofs` as in `saveFuture_eq`
      simp -implicitDefEqProofs only [tables_stepper, List.foldl_cons, List.foldl_nil, handStep, and_self, if_true,
        bsetOpts]
    rw [this, restoreI, saved_loadMembers hn, strAt, saved_hand hn (.head _)]
    simp [tables_stepper, setMembers, ok_bind]

theorem rI_ret (c : Option Int) : RI E (.ret c) := by
  intro s hs
  cases s with
  | node p c => simp [shapeI] at hs
  | leaf => rw [restoreI]

/-- what the tables say of a stepper class that saves a child stepper -/
structure ChildStepper (cls : String) : Prop where
  chain : chainSyms cls =
    [("plumpy.persistence.Savable", []), ("plumpy.workchains.Stepper", []), (cls, ["STEPPER_STATE"])]
  keys : (keysOf cls [hk cls "STEPPER_STATE"]).Nodup

section Child
variable {E} {cls : String} (hcls : ChildStepper cls)
include hcls

theorem saveChild_eq (s : St) (child : Option BVal) :
    saveChain cls (childHand cls child) (saveMembers (posMember s) (members cls) (saveHeader E none (cid cls))) =
      savedAs E none (cid cls) (posMember s) cls [(hk cls "STEPPER_STATE", child)] := by
  rw [savedAs]
  generalize saveMembers _ _ _ = b
  rw [saveChain_eq, hcls.chain]
  simp only [List.foldl, handStep, childHand, and_self, if_true, bsetOpts]

theorem keys_child (o : Option BVal) : (keysOf cls ([(hk cls "STEPPER_STATE", o)].map (·.1))).Nodup := by
  simpa only [List.map_cons, List.map_nil] using hcls.keys

theorem childAt_saved (s : St) (child : Option BVal) :
    bget (savedAs E none (cid cls) (posMember s) cls [(hk cls "STEPPER_STATE", child)]) (hk cls "STEPPER_STATE") = child :=
  saved_hand (keys_child hcls _) (.head _)

theorem loadPos_saved (hm : members cls = ["_pos"]) (pos : Nat) (c : Option St) (child : Option BVal) :
    loadMembers (savedAs E none (cid cls) (posMember (.node pos c)) cls [(hk cls "STEPPER_STATE", child)]) setPos
      (members cls) none = .ok (some pos) := by
  rw [saved_loadMembers (keys_child hcls _), hm]; rfl
end Child

theorem rI_while (p : Nat) (body : Block) (hb : RB E body) : RI E (.while_ p body) := by
  have hcls : ChildStepper whileStepCls := ⟨by simp only [tables_stepper], by simp only [tables_stepper]⟩
  intro s hs
  match s, hs with
  | .leaf, hs => simp [shapeI] at hs
  | .node q none, hs =>
    have : q = 0 := by simpa [shapeI] using hs
    subst this
    rw [saveI, saveChild_eq hcls, restoreI, saved_loadMembers (keys_child hcls _), childAt, childAt_saved hcls]
    · simp [tables_stepper, setMembers, ok_bind]
    · exact fun _ _ h => nomatch h
  | .node q (some c), hs =>
    have hq : q = 0 ∧ shapeB body c = true := by simpa [shapeI] using hs
    obtain ⟨rfl, hc'⟩ := hq
    rw [saveI, saveChild_eq hcls, restoreI, saved_loadMembers (keys_child hcls _), childAt, childAt_saved hcls]
    simp [tables_stepper, setMembers, ok_bind, hb c hc']

theorem shapeI_ite_some {bs : List Branch} {pos : Nat} {br : Branch} (c : St) (h : bs[pos]? = some br) :
    shapeI (.ite bs) (.node pos (some c)) = shapeB br.2 c := by
  rw [shapeI]; split <;> rename_i h' <;> rw [h] at h' <;> cases h' <;> rfl

theorem shapeI_ite_elim {bs : List Branch} {pos : Nat} {c : St} (h : shapeI (.ite bs) (.node pos (some c)) = true) :
    ∃ br, bs[pos]? = some br ∧ shapeB br.2 c = true := by
  rw [shapeI] at h; split at h
  · exact ⟨_, ‹_›, h⟩
  · cases h

theorem shapeB_some {is : Block} {pos : Nat} {i : Instr} (c : St) (h : is[pos]? = some i) :
    shapeB is (.node pos (some c)) = shapeI i c := by
  rw [shapeB]; split <;> rename_i h' <;> rw [h] at h' <;> cases h' <;> rfl

theorem shapeB_elim {is : Block} {pos : Nat} {c : St} (h : shapeB is (.node pos (some c)) = true) :
    ∃ i, is[pos]? = some i ∧ shapeI i c = true := by
  rw [shapeB] at h; split at h
  · exact ⟨_, ‹_›, h⟩
  · cases h

theorem rI_ite (bs : List Branch) (hb : ∀ br ∈ bs, RB E br.2) : RI E (.ite bs) := by
  have hcls : ChildStepper ifStepCls := ⟨by simp only [tables_stepper], by simp only [tables_stepper]⟩
  have hp := loadPos_saved (E := E) hcls (by simp only [tables_stepper])
  intro s hs
  match s, hs with
  | .leaf, hs => simp [shapeI] at hs
  | .node pos none, _ =>
    rw [saveI, saveChild_eq hcls, restoreI, hp, childAt, childAt_saved hcls]
    · rfl
    · exact fun _ _ h => nomatch h
  | .node pos (some c), hs =>
    obtain ⟨br, hget, hs⟩ := shapeI_ite_elim hs
    have hsave : saveI E (.ite bs) (.node pos (some c)) = savedAs E none (cid ifStepCls)
        (posMember (.node pos (some c))) ifStepCls [(hk ifStepCls "STEPPER_STATE", some (.dict (saveB E br.2 c)))] := by
      rw [saveI, saveChild_eq hcls]; split <;> rename_i h' <;> rw [hget] at h' <;> cases h' <;> rfl
    rw [hsave, restoreI, hp, childAt, childAt_saved hcls]
    simp only [ok_bind]
    split <;> rename_i h' <;> rw [hget] at h' <;> cases h'
    rw [hb br (List.mem_of_getElem? hget) c hs]; rfl

theorem rB_of_elems (is : Block) (hel : ∀ i ∈ is, RI E i) : RB E is := by
  have hcls : ChildStepper blockStepCls := ⟨by simp only [tables_stepper], by simp only [tables_stepper]⟩
  have hp := loadPos_saved (E := E) hcls (by simp only [tables_stepper])
  intro s hs
  match s, hs with
  | .leaf, hs => simp [shapeB] at hs
  | .node pos none, _ =>
    rw [saveB, saveChild_eq hcls, restoreB, hp, childAt, childAt_saved hcls]
    · rfl
    · exact fun _ _ h => nomatch h
  | .node pos (some c), hs =>
    obtain ⟨i, hget, hs⟩ := shapeB_elim hs
    have hsave : saveB E is (.node pos (some c)) = savedAs E none (cid blockStepCls)
        (posMember (.node pos (some c))) blockStepCls [(hk blockStepCls "STEPPER_STATE", some (.dict (saveI E i c)))] := by
      rw [saveB, saveChild_eq hcls]; split <;> rename_i h' <;> rw [hget] at h' <;> cases h' <;> rfl
    rw [hsave, restoreB, hp, childAt, childAt_saved hcls]
    simp only [ok_bind]
    split <;> rename_i h' <;> rw [hget] at h' <;> cases h'
    rw [hel i (List.mem_of_getElem? hget) c hs]; rfl

theorem restoreI_saveI (i : Instr) (s : St) (h : shapeI i s = true) : restoreI E i (saveI E i s) = .ok s :=
  (instr_block_induction (rI_call E) (rI_ret E) (rI_while E) (rI_ite E) (rB_of_elems E)).1 i s h
theorem restoreB_saveB (is : Block) (s : St) (h : shapeB is s = true) : restoreB E is (saveB E is s) = .ok s :=
  (instr_block_induction (rI_call E) (rI_ret E) (rI_while E) (rI_ite E) (rB_of_elems E)).2 is s h

theorem restoreTop_saveTop (is : Block) (s : St) (h : shapeTop is s = true) :
    restoreTop E is (saveTop E is s) = .ok s := by
  match is, s, h with
  | [], s, h => exact restoreB_saveB E _ _ (by simpa [shapeTop] using h)
  | _ :: _ :: _, s, h => exact restoreB_saveB E _ _ (by simpa [shapeTop] using h)
  | [i], .node 0 (some c), h =>
    have hc : shapeI i c = true := by simpa [shapeTop] using h
    rw [saveTop, restoreTop, restoreI_saveI E i c hc]; rfl
  | [i], .leaf, h => simp [shapeTop] at h
  | [i], .node (n+1) _, h => simp [shapeTop] at h
  | [i], .node 0 none, h => simp [shapeTop] at h

end Persist
