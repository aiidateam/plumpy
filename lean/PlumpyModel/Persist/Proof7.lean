import PlumpyModel.Persist.Reload
import PlumpyModel.PM.Proof7
/-!
# A restored process is as killable as a fresh one (helper lemmas for C04)

The invariants behind C04 — `PausingOk` and the per-action commitment `Committed` (`PM/Proof4.lean`), `KillingOk`
(`PM/Proof7.lean`) — are preserved by every event from ANY configuration; `init nf` is only their base case.  A configuration
built from a bundle (`restoreCfgN m b`, in particular `restoreCfg (saveCfg c)`) is another base case: it records no request at
all, so the C04 theorems from any such configuration apply (`kill_never_lost_from`, `always_killable_of`).

The clause "cancelling the process's future has the same effect as `kill()`":

* `FutHook c`: a pending process future carries the `try_killing` callback and that callback is not already scheduled — an
  invariant whose frame relation `Fr` says that no model function except `cancelFut` touches a PENDING future, its hook flag,
  or schedules `try_killing` (`freshFutIfCancelled` / `setFutExc` replace a cancelled or done future, and the replacement is
  resolved by the same transition); the event loop itself takes `try_killing` off its list only to run it (`tickCb_fr`).
  `restoreCfgN` installs the hook exactly when the loaded future is pending.
* `cancel_then_trykill`: under `FutHook`, `cancelFut` followed by the `try_killing` callback is `kill()` on the same
  configuration, up to the process-future object (cancelled, later replaced: repair H) and the list of handed-out futures.
-/
namespace PMF

theorem restoreCfgN_killing (m : Nat) (b : Saved) : (restoreCfgN m b).killing = none := rfl
theorem restoreCfgN_pausing (m : Nat) (b : Saved) : (restoreCfgN m b).pausing = none := rfl
theorem restoreCfgN_stepping (m : Nat) (b : Saved) : (restoreCfgN m b).stepping = false := rfl
theorem restoreCfgN_ready (m : Nat) (b : Saved) : (restoreCfgN m b).ready = [] := rfl
theorem restoreCfgN_fut (m : Nat) (b : Saved) : (restoreCfgN m b).fut = b.fut := rfl
theorem restoreCfgN_hook (m : Nat) (b : Saved) : (restoreCfgN m b).futHasKillCb = decide (b.fut = .pending) := rfl

theorem killingOk_restored (m : Nat) (b : Saved) : KillingOk (restoreCfgN m b) := by
  intro i hi; rw [restoreCfgN_killing] at hi; cases hi
theorem pausingOk_restored (m : Nat) (b : Saved) : PausingOk (restoreCfgN m b) := by
  intro i hi; rw [restoreCfgN_pausing] at hi; cases hi

/-- what `FutHook` needs of an update to carry over (`FutHook.frame`); `Fr` adds what `run_keeps_trykill` needs -/
def FrFut (c c' : Cfg) : Prop :=
  c'.fut ≠ .pending ∨ (c'.fut = c.fut ∧ c'.futHasKillCb = c.futHasKillCb ∧ (Cb.trykill ∈ c'.ready → Cb.trykill ∈ c.ready))
structure Fr (c c' : Cfg) : Prop where
  fut : FrFut c c'
  keep : Cb.trykill ∈ c.ready → Cb.trykill ∈ c'.ready

theorem FrFut.trans {a b c : Cfg} (h1 : FrFut a b) (h2 : FrFut b c) : FrFut a c := by
  rcases h2 with h | ⟨hf, hk, hr⟩
  · exact Or.inl h
  · rcases h1 with g | ⟨gf, gk, gr⟩
    · exact Or.inl (by rw [hf]; exact g)
    · exact Or.inr ⟨hf.trans gf, hk.trans gk, fun h => gr (hr h)⟩
theorem Fr.rfl' (c : Cfg) : Fr c c := ⟨Or.inr ⟨rfl, rfl, fun h => h⟩, fun h => h⟩
theorem Fr.trans {a b c : Cfg} (h1 : Fr a b) (h2 : Fr b c) : Fr a c :=
  ⟨FrFut.trans h1.fut h2.fut, fun h => h2.keep (h1.keep h)⟩
theorem Fr.of_eq {c c' : Cfg} (h1 : c'.fut = c.fut) (h2 : c'.futHasKillCb = c.futHasKillCb) (h3 : c'.ready = c.ready) :
    Fr c c' := ⟨Or.inr ⟨h1, h2, fun h => by rw [← h3]; exact h⟩, fun h => by rw [h3]; exact h⟩
theorem Fr.of_off {W : List Fld} {c c' : Cfg} (o : Off W c c')
    (hW : ∀ f ∈ [Fld.fut, .futHasKillCb, .ready], f ∉ W := by decide) : Fr c c' :=
  .of_eq (o.fut (hW _ (by decide))) (o.futHasKillCb (hW _ (by decide))) (o.ready (hW _ (by decide)))
theorem Fr.of_done {c c' : Cfg} (h1 : c'.fut ≠ .pending) (h3 : c'.ready = c.ready) : Fr c c' :=
  ⟨Or.inl h1, fun h => by rw [h3]; exact h⟩
theorem Fr.of_append {c c' : Cfg} (cb : Cb) (hcb : cb ≠ .trykill) (h1 : c'.fut = c.fut) (h2 : c'.futHasKillCb = c.futHasKillCb)
    (h3 : c'.ready = c.ready ++ [cb]) : Fr c c' := by
  refine ⟨Or.inr ⟨h1, h2, fun h => ?_⟩, fun h => by rw [h3]; exact List.mem_append_left _ h⟩
  rw [h3] at h
  rcases List.mem_append.mp h with h | h
  · exact h
  · exact absurd (List.mem_singleton.mp h).symm hcb

/-! the functions that write `fut`, `futHasKillCb` or `ready`: `on_except` and the entering hooks of a terminal state resolve
the future (after replacing a cancelled or done one), a work chain's `Waiting.enter` and `complete` schedule done-callbacks,
`cancelFut` -/
theorem setFutExc_fr (c : Cfg) (e) : Fr c (setFutExc c e) := .of_done nofun (setFutExc_off c e).ready
theorem enteringHooks_fr {c c2 : Cfg} {s : SObj} (h : enteringHooks c s = .ok c2) : Fr c c2 := by
  unfold enteringHooks at h
  split at h
  · dsimp only at h
    split at h
    · cases h; exact .of_done nofun (freshFutIfCancelled_off c).ready
    · cases h
  · dsimp only at h
    split at h
    · cases h; exact .of_done nofun (freshFutIfCancelled_off c).ready
    · cases h
  · cases h; exact setFutExc_fr c _
  · cases h; exact Fr.rfl' c
theorem enterState_fr (c : Cfg) (s : SObj) : Fr c (enterState c s) := by
  unfold enterState; split
  · rename_i aw
    induction aw generalizing c with
    | nil => exact Fr.rfl' c
    | cons p rest ih =>
      rw [List.foldl_cons]
      refine Fr.trans ?_ (ih _)
      dsimp only
      split
      · exact .of_eq rfl rfl rfl
      · exact .of_append (.adone p.1) nofun rfl rfl rfl
      · exact .of_eq rfl rfl rfl
  · exact Fr.rfl' c
theorem enterNext_fr (c : Cfg) (s) : Fr c (enterNext c s) := by
  unfold enterNext; dsimp only
  have h := (enterState_fr c s).trans (.of_off ((setState_off _ s).trans (enteredHooks_off _ s)))
  split
  · exact h.trans (.of_off (onTerminated_off _))
  · exact h
theorem transitionTo_fr (c : Cfg) (s) : Fr c (transitionTo c s) :=
  transitionTo_elim (Q := Fr c) c s (fun _ d s' he => (Fr.of_off he.off).trans (.of_off (Off.set d .st s')))
    fun _ d s' c2 he hok => ((Fr.of_off he.off).trans (enteringHooks_fr hok)).trans (enterNext_fr c2 s')
theorem complete_fr (c : Cfg) (f o) : Fr c (complete c f o) := by
  unfold complete; split
  · dsimp only; split
    · exact .of_append (.adone f) nofun rfl rfl rfl
    · exact .of_off (Off.set c .efs _)
  · exact Fr.rfl' c
theorem cancelFut_fr (c : Cfg) : Fr c (cancelFut c).1 := by
  unfold cancelFut; split
  · refine ⟨Or.inl nofun, fun h => ?_⟩
    dsimp only; split
    · exact List.mem_append_left _ h
    · exact h
  · exact Fr.rfl' c

theorem fr_closed (c₀ : Cfg) : BodyClosed (Fr c₀) where
  ctl o h := h.trans (.of_off o)
  trans c s _ h := h.trans (transitionTo_fr c s)
  paused c h := h.trans (.of_off (doPauseHooks_off c))
  played c h := h.trans (.of_off (play_off c))
  interrupted c k h := h.trans (.of_off (interruptState_off c k))
  activate c _ _ _ _ _ h := h.trans (.of_off (Off.set c .trace _))
  alloc c cmd h := h.trans (.of_off (cmdToState_off c cmd))
  rearmG _ _ _ _ _ _ h := h.trans (.of_off (W := [.st, .wfs]) (by off_fields))
  deliver c o h := h.trans (.of_off (deliver_off c o))
  adone c f h := h.trans (.of_off (awaitableDone_off c f))
  complete c f o h := h.trans (complete_fr c f o)
  cancelFut c h := h.trans (cancelFut_fr c)

theorem tickCb_fr (c : Cfg) (cb : Cb) : FrFut c (tickCb c cb) ∧ (cb ≠ .trykill → Fr c (tickCb c cb)) := by
  have h0 : FrFut c { c with ready := c.ready.erase cb } := Or.inr ⟨rfl, rfl, List.mem_of_mem_erase⟩
  have after : ∀ {d d' : Cfg}, Fr d d' → FrFut c d ∧ (cb ≠ .trykill → Fr c d) → FrFut c d' ∧ (cb ≠ .trykill → Fr c d') :=
    fun hb q => ⟨q.1.trans hb.fut, fun hne => (q.2 hne).trans hb⟩
  exact tickCb_elim c cb ⟨(Fr.rfl' c).fut, fun _ => Fr.rfl' c⟩
    (fun _ => ⟨h0, fun hne => ⟨h0, (List.mem_erase_of_ne (Ne.symm hne)).mpr⟩⟩)
    (fun d f _ => after ((fr_closed d).adone d f (.rfl' d))) (fun d => after ((fr_closed d).tryKilling d (.rfl' d)))
    fun d e => after ((fr_closed d).fail d e (.rfl' d))

theorem step_fr (P : Prog) (c : Cfg) (ev : Ev) :
    FrFut c (step P c ev).1 ∧ (ev ≠ .tickCb .trykill → Fr c (step P c ev).1) := by
  have all : ∀ {d : Cfg}, Fr c d → FrFut c d ∧ (ev ≠ .tickCb .trykill → Fr c d) := fun h => ⟨h.fut, fun _ => h⟩
  have H := fr_closed c
  cases ev <;> simp only [step]
  · exact all (H.tickStepper P c (.rfl' c))
  · rename_i cb
    exact ⟨(tickCb_fr c cb).1, fun hne => (tickCb_fr c cb).2 fun h => hne (by rw [h])⟩
  · exact all (H.pause c (.rfl' c))
  · exact all (H.played c (.rfl' c))
  · exact all (H.kill c (.rfl' c))
  · exact all (H.resume c _ (.rfl' c))
  · exact all (H.fail c _ (.rfl' c))
  · exact all (cancelFut_fr c)
  · exact all (complete_fr ..)
  · rename_i r
    exact all (.of_append (.usercb r) nofun rfl rfl rfl)

def FutHook (c : Cfg) : Prop := c.fut = .pending → c.futHasKillCb = true ∧ Cb.trykill ∉ c.ready

theorem FutHook.frame {c c' : Cfg} (h : FutHook c) (s : FrFut c c') : FutHook c' := by
  intro hp
  rcases s with g | ⟨gf, gk, gr⟩
  · exact absurd hp g
  · have := h (by rw [← gf]; exact hp)
    exact ⟨by rw [gk]; exact this.1, fun hm => this.2 (gr hm)⟩

theorem run_futHook (P : Prog) (c0 : Cfg) (evs : List Ev) (h : FutHook c0) : FutHook (run P c0 evs) :=
  run_ind P (Ok := fun _ _ => True) (fun c e _ _ h => ⟨h.frame (step_fr P c e).1, trivial⟩) c0 evs trivial h

theorem futHook_init (nf : Nat) : FutHook (init nf) := fun _ => ⟨rfl, by simp [init]⟩

theorem futHook_restored (m : Nat) (b : Saved) : FutHook (restoreCfgN m b) := by
  intro hp
  rw [restoreCfgN_fut] at hp
  exact ⟨by rw [restoreCfgN_hook, hp]; rfl, by rw [restoreCfgN_ready]; simp⟩

theorem run_keeps_trykill (P : Prog) (c0 : Cfg) (evs : List Ev) (hno : Ev.tickCb .trykill ∉ evs)
    (h : Cb.trykill ∈ c0.ready) : Cb.trykill ∈ (run P c0 evs).ready :=
  run_ind P (I := fun c => Cb.trykill ∈ c.ready) (Ok := fun _ es => Ev.tickCb .trykill ∉ es)
    (fun c e es hno h =>
      have he : e ≠ .tickCb .trykill := fun hh => hno (by rw [hh]; exact List.mem_cons_self ..)
      ⟨((step_fr P c e).2 he).keep h, fun hh => hno (List.mem_cons_of_mem _ hh)⟩) c0 evs hno h

/-! `sfh c f h` is `c` with another process-future object.  Apart from `cancelFut`, the entering hooks of a terminal state and
`on_except` (`enteringHooks`, `setFutExc`), no model function reads or writes the future: each commutes with `sfh`. -/

def sfh (c : Cfg) (f : PFut) (h : Bool) : Cfg := { c with fut := f, futHasKillCb := h }

theorem sfh_sfh (c : Cfg) (f h f' h') : sfh (sfh c f h) f' h' = sfh c f' h' := rfl
theorem sfh_self (c : Cfg) : sfh c c.fut c.futHasKillCb = c := rfl

section
variable (c : Cfg) (f : PFut) (h : Bool)
theorem sfh_st : (sfh c f h).st = c.st := rfl
theorem sfh_stepping : (sfh c f h).stepping = c.stepping := rfl
theorem sfh_actions : (sfh c f h).actions = c.actions := rfl
theorem sfh_killing : (sfh c f h).killing = c.killing := rfl
theorem sfh_interrupt : (sfh c f h).interrupt = c.interrupt := rfl
theorem sfh_wfs : (sfh c f h).wfs = c.wfs := rfl
theorem sfh_paused : (sfh c f h).paused = c.paused := rfl
theorem sfh_closed : (sfh c f h).closed = c.closed := rfl
theorem sfh_efs : (sfh c f h).efs = c.efs := rfl
end

/-! the functions on the path of `kill()`: the condition each tests is about `c`; `apply_ite` pushes `sfh` into the branches of
an `if`, `split` decides a `match` on both sides at once -/
theorem hand_sfh (c : Cfg) (i f h) : hand (sfh c f h) i = sfh (hand c i) f h := by
  unfold hand; rw [apply_ite (sfh · f h)]; rfl
theorem setActionStatus_sfh (c : Cfg) (i s f h) : setActionStatus (sfh c f h) i s = sfh (setActionStatus c i s) f h := by
  unfold setActionStatus; rw [sfh_actions]; split <;> rfl
theorem cancelAction_sfh (c : Cfg) (i f h) : cancelAction (sfh c f h) i = sfh (cancelAction c i) f h := by
  unfold cancelAction
  rw [setActionStatus_sfh, show actionStatus (sfh c f h) i = actionStatus c i from rfl, apply_ite (sfh · f h)]
theorem cancelInterrupt_sfh (c : Cfg) (f h) : cancelInterrupt (sfh c f h) = sfh (cancelInterrupt c) f h := by
  unfold cancelInterrupt
  rw [sfh_interrupt]; split
  · exact cancelAction_sfh ..
  · rfl
theorem setInterruptFromExc_sfh (c : Cfg) (k n f h) :
    setInterruptFromExc (sfh c f h) k n = sfh (setInterruptFromExc c k n) f h := by
  unfold setInterruptFromExc
  rw [cancelInterrupt_sfh]; rfl
theorem interruptState_sfh (c : Cfg) (k f h) : interruptState (sfh c f h) k = sfh (interruptState c k) f h := by
  unfold interruptState; rw [sfh_st]; split
  · rw [apply_ite (sfh · f h)]; rfl
  · rfl
theorem requestInterrupt_sfh (c : Cfg) (k f h) : requestInterrupt (sfh c f h) k = sfh (requestInterrupt c k) f h := by
  unfold requestInterrupt
  rw [← interruptState_sfh, ← setInterruptFromExc_sfh]; rfl
theorem exitState_sfh (c : Cfg) (f h) : exitState (sfh c f h) = sfh (exitState c) f h := by
  unfold exitState; rw [sfh_st]; split
  · dsimp only; rw [sfh_wfs]; split <;> rfl
  · rfl
theorem enterState_sfh (c : Cfg) (s f h) : enterState (sfh c f h) s = sfh (enterState c s) f h := by
  unfold enterState; split
  · rename_i aw
    induction aw generalizing c with
    | nil => rfl
    | cons p rest ih =>
      rw [List.foldl_cons, List.foldl_cons, ← ih]
      congr 1
      dsimp only
      rw [sfh_efs]
      split <;> rfl
  · rfl
theorem setState_sfh (c : Cfg) (s f h) : setState (sfh c f h) s = sfh (setState c s) f h := rfl
theorem enteredHooks_sfh (c : Cfg) (s f h) : enteredHooks (sfh c f h) s = sfh (enteredHooks c s) f h := by
  rw [enteredHooks_eq, enteredHooks_eq]; rfl
theorem releasePause_sfh (c : Cfg) (f h) : releasePause (sfh c f h) = sfh (releasePause c) f h := by
  unfold releasePause; rw [sfh_paused]; split
  · rw [apply_ite (sfh · f h)]; rfl
  · rfl
theorem onClose_sfh (c : Cfg) (f h) : onClose (sfh c f h) = sfh (onClose c) f h := by
  unfold onClose; rw [apply_ite (sfh · f h)]; rfl
theorem onTerminated_sfh (c : Cfg) (f h) : onTerminated (sfh c f h) = sfh (onTerminated c) f h := by
  unfold onTerminated; rw [releasePause_sfh, onClose_sfh]
theorem enterNext_sfh (c : Cfg) (s f h) : enterNext (sfh c f h) s = sfh (enterNext c s) f h := by
  unfold enterNext; dsimp only
  rw [enterState_sfh, setState_sfh, enteredHooks_sfh]
  split
  · exact onTerminated_sfh ..
  · rfl

/-! where the future is read: `on_except` sets the exception on whatever future it finds (replacing a done one), so a forced
EXCEPTED commutes up to the future object; entering KILLED resolves a pending future and a cancelled one alike -/
theorem setFutExc_sfh (c : Cfg) (e : Exc) (f h) : ∃ h', setFutExc (sfh c f h) e = sfh c (.exc e) h' := by
  unfold setFutExc; split <;> exact ⟨_, rfl⟩

theorem forceExcepted_sfh (c : Cfg) (e : Exc) (f h) : ∃ f' h', forceExcepted (sfh c f h) e = sfh (forceExcepted c e) f' h' := by
  cases hc : c.closed with
  | true => exact ⟨f, h, by unfold forceExcepted; rw [sfh_closed, hc]; rfl⟩
  | false =>
    obtain ⟨h1, e1⟩ := setFutExc_sfh c e f h
    obtain ⟨h2, e2⟩ := setFutExc_sfh c e c.fut c.futHasKillCb
    rw [sfh_self] at e2
    rw [forceExcepted_open c e hc, forceExcepted_open (sfh c f h) e hc, e1, e2, enterNext_sfh, enterNext_sfh]
    exact ⟨_, _, (sfh_sfh ..).symm⟩

theorem enteringHooks_killed_sfh (c : Cfg) (f h) (hf : f = .pending ∨ f = .cancelled) :
    ∃ h', enteringHooks (sfh c f h) .killed = .ok (sfh c (.exc .killedErr) h') := by
  have hfr : ∃ h', freshFutIfCancelled (sfh c f h) = sfh c .pending h' := by
    rcases hf with rfl | rfl <;> exact ⟨_, rfl⟩
  obtain ⟨h', e⟩ := hfr
  refine ⟨h', ?_⟩
  unfold enteringHooks
  dsimp only
  rw [e]; rfl

theorem transitionTo_killed_cancelled (c : Cfg) (hf : c.fut = .pending) :
    ∃ f h, transitionTo (sfh c .cancelled c.futHasKillCb) .killed = sfh (transitionTo c .killed) f h := by
  unfold transitionTo
  rw [sfh_st, sfh_closed]
  by_cases ha : SObj.killed.label ∈ allowed c.st.label
  · rw [if_pos ha, if_pos ha]
    dsimp only
    rw [exitState_sfh]
    by_cases hc : c.closed = true
    · rw [if_pos hc, if_pos hc]; exact ⟨.cancelled, c.futHasKillCb, rfl⟩
    · obtain ⟨h1, e1⟩ := enteringHooks_killed_sfh (exitState c) .cancelled c.futHasKillCb (.inr rfl)
      obtain ⟨h2, e2⟩ := enteringHooks_killed_sfh (exitState c) _ (exitState c).futHasKillCb (.inl ((exitState_off c).fut.trans hf))
      rw [sfh_self] at e2
      rw [if_neg hc, if_neg hc, e1, e2]; dsimp only; rw [enterNext_sfh, enterNext_sfh]
      exact ⟨_, _, (sfh_sfh ..).symm⟩
  · rw [if_neg ha, if_neg ha]; exact forceExcepted_sfh ..

theorem kill_cancelled (c : Cfg) (hf : c.fut = .pending) :
    ∃ f h, (kill (sfh c .cancelled c.futHasKillCb)).1 = sfh (kill c).1 f h := by
  unfold kill
  rw [sfh_st, sfh_killing, sfh_stepping]
  by_cases h1 : c.st.label = .killed
  · rw [if_pos h1, if_pos h1]; exact ⟨.cancelled, c.futHasKillCb, rfl⟩
  rw [if_neg h1, if_neg h1]
  by_cases h2 : terminal c.st.label = true
  · rw [if_pos h2, if_pos h2]; exact ⟨.cancelled, c.futHasKillCb, rfl⟩
  rw [if_neg h2, if_neg h2]
  cases c.killing with
  | some i => exact ⟨_, _, hand_sfh ..⟩
  | none =>
    dsimp only
    by_cases hs : c.stepping = true
    · rw [if_pos hs, if_pos hs, requestInterrupt_sfh, sfh_interrupt]
      split
      · exact ⟨_, _, hand_sfh { requestInterrupt c .kill with killing := (requestInterrupt c .kill).interrupt } ..⟩
      · exact ⟨.cancelled, c.futHasKillCb, rfl⟩
    · rw [if_neg hs, if_neg hs]; exact transitionTo_killed_cancelled c hf

/-- `a` is `b` up to the process-future object, its hook flag and the list of action futures handed to callers -/
def SameButFut (a b : Cfg) : Prop := { a with fut := b.fut, futHasKillCb := b.futHasKillCb, handed := b.handed } = b

theorem sameButFut_sfh (b : Cfg) (f h) (l : List Nat) : SameButFut { sfh b f h with handed := l } b := rfl

/-- cancelling the future is a kill: with the hook installed on a pending future, `future().cancel()` succeeds and schedules
`try_killing`; when that callback runs next, the configuration is the one `kill()` would have produced, up to the future object
(cancelled; replaced when the process terminates, repair H) -/
theorem cancel_then_trykill (c : Cfg) (hf : c.fut = .pending) (hh : FutHook c) :
    (cancelFut c).2 = .bool true ∧ Cb.trykill ∈ (cancelFut c).1.ready ∧
    SameButFut (tickCb (cancelFut c).1 .trykill) (kill c).1 := by
  obtain ⟨hk, hnr⟩ := hh hf
  rw [cancelFut, if_pos hf, if_pos hk]
  have hm : Cb.trykill ∈ c.ready ++ [.trykill] := List.mem_append_right _ (List.mem_singleton.mpr rfl)
  refine ⟨rfl, hm, ?_⟩
  have ht : tickCb { c with fut := .cancelled, ready := c.ready ++ [.trykill] } .trykill =
      tryKilling (sfh c .cancelled c.futHasKillCb) := by
    have he : (c.ready ++ [Cb.trykill]).erase .trykill = c.ready := by
      rw [List.erase_append_right _ hnr, List.erase_cons_head, List.append_nil]
    rw [tickCb_of_mem _ _ hm]
    dsimp only
    rw [he]; rfl
  obtain ⟨f, h, e⟩ := kill_cancelled c hf
  rw [ht, tryKilling, e]
  exact sameButFut_sfh ..

/-- the `try_killing` callback, whenever it runs on a live process, does what `kill()` does: outside a step the process is
KILLED (EXCEPTED if entering KILLED fails), inside a step the kill is the pending interrupt action of that step -/
theorem trykill_kills (c : Cfg) (hko : KillingOk c) (hl : terminal c.st.label = false) (hr : Cb.trykill ∈ c.ready) :
    (c.stepping = false → (tickCb c .trykill).st.label = .killed ∨ (tickCb c .trykill).st.label = .excepted) ∧
    (c.stepping = true → ∃ k, Pending k (tickCb c .trykill)) := by
  have ht : tickCb c .trykill = tryKilling { c with ready := c.ready.erase .trykill } := tickCb_of_mem c _ hr
  have hko0 : KillingOk { c with ready := c.ready.erase .trykill } := hko.keep ⟨rfl, rfl, rfl, rfl, rfl, rfl⟩
  have hk := always_killable_of { c with ready := c.ready.erase .trykill } hko0 hl
  rw [ht]
  unfold tryKilling
  constructor
  · intro hs; exact (hk.1 hs).2
  · intro hs
    obtain ⟨k, _, hp⟩ := hk.2 hs
    exact ⟨k, hp.keep ⟨rfl, rfl, rfl, rfl, rfl, rfl⟩⟩

end PMF
