import PlumpyModel.Persist.Proof3
import PlumpyModel.Persist.Proof5
/-!
# Restoring a checkpoint and continuing (helper lemmas for C08, plain processes)

`restore_mid`: at a step boundary the restored instance — under the logs of its predecessors — is related to the
uninterrupted configuration exactly as the abandoned instance was.  `chain_sim`: a callback with any number of
checkpoint / restore cuts ends where the uninterrupted callback ends.  `crun_rel`: the whole history.
-/
namespace PMF

theorem ext_nil (c : Cfg) : ext c {} = c := by
  cases c; simp [ext]

theorem tickF_ext (L : Logs) (P : Prog) (n : Nat) (c : Cfg) : tickF P n (ext c L) = ext (tickF P n c) L := by
  simpa only [Task.tickF_base] using (ext_task L).tickF P n (x := c) rfl

theorem tickStepper_ext (L : Logs) (P : Prog) (c : Cfg) : tickStepper P (ext c L) = ext (tickStepper P c) L :=
  tickF_ext L P fuel0 c

theorem tickEntry_ext (L : Logs) (c : Cfg) : tickEntry (ext c L) = (tickEntry c).map (fun d => ext d L) := by
  unfold tickEntry
  rw [ext_pc]; split
  · rfl
  · rename_i b _
    by_cases ha : b.awaits = 0
    · rw [if_pos ha, if_pos ha, finishUser_ext]; rfl
    · rw [if_neg ha, if_neg ha]; rfl
  · rw [ext_wfs, ext_st]; split
    · rfl
    · rw [wake_ext]; rfl
    · rfl
  · rfl

theorem restoreSt_saveSt_label (s : SObj) : (restoreSt (saveSt s)).label = s.label := by cases s <;> rfl

theorem restoreSt_saveSt_nw (s : SObj) (h : NotWaiting s) : restoreSt (saveSt s) = s := by
  cases s with
  | waiting fn wf wk aw => exact absurd rfl (h fn wf wk aw)
  | _ => rfl

theorem boundary_iff (c : Cfg) : boundary c = true ↔ c.stepping = false ∧ terminal c.st.label = false ∧ waitFresh c = true := by
  unfold boundary
  cases c.stepping <;> cases terminal c.st.label <;> simp

theorem restore_mid (b d : Cfg) (L : Logs) (hm : BMid (ext b L) d) (hcl : Clean d) (hI : Inv d) (hb : boundary b = true) :
    ∃ L' : Logs, L'.t = b.trace ++ L.t ∧ BMid (ext (restoreCfg (saveCfg b)) L') d ∧
      (restoreCfg (saveCfg b)).pc = .notStarted := by
  obtain ⟨hbs, hbl, hbw⟩ := (boundary_iff b).mp hb
  have hfut : b.fut = d.fut := congrArg ShRec.fut hm.both.core.sh
  have hkill : b.killing = d.killing := congrArg ShRec.killing hm.both.core.sh
  have hlab : b.st.label = d.st.label := hm.both.label
  have hld : terminal d.st.label = false := hlab ▸ hbl
  obtain ⟨hf, hk, hc, hcu⟩ := hcl.live hld
  have hbk : b.killing = none := hm.both.core.ckill
  have hbp : b.paused = none := hm.both.cpaused
  have hent : d.entered = d.st.label :: d.entered.tail := by
    have := hI.head
    cases he : d.entered with
    | nil => rw [he] at this; cases this
    | cons x xs => rw [he] at this; simp at this; simp [this]
  refine ⟨{ t := b.trace ++ L.t, e := d.entered.tail, n := d.notif }, rfl, ⟨⟨⟨?_, ?_, rfl, hm.both.core.dint, hm.both.core.dpaused⟩, rfl, ?_⟩,
    rfl, (by intro e he; cases he), hm.ncd⟩, rfl⟩
  · rw [sh_eq_iff]
    refine ⟨hbs.symm.trans hm.both.stepping, hfut, ?_, hc.symm, hcu.symm, hcl.efs.symm, hcl.efCb.symm, hcl.efKeys.symm,
      hm.both.ctx, hcl.ready.symm, ?_, hm.both.trace, hcl.loopErrs.symm, rfl, hbk.symm.trans hkill⟩
    · show decide (b.fut = PFut.pending) = d.futHasKillCb
      rw [hk, hfut, hf]; rfl
    · show [(restoreSt (saveSt b.st)).label] ++ d.entered.tail = d.entered
      rw [restoreSt_saveSt_label, hlab]; exact hent.symm
  · rcases hm.both.core.st with ⟨heq, hnw⟩ | ⟨fn, wf, aw, wf', w, h1, h2, h3, h4, h5⟩
    · simp only [ext_st] at heq hnw
      left
      refine ⟨?_, ?_⟩
      · show restoreSt (saveSt b.st) = d.st
        rw [restoreSt_saveSt_nw b.st hnw]; exact heq
      · show NotWaiting (restoreSt (saveSt b.st))
        rw [restoreSt_saveSt_nw b.st hnw]; exact hnw
    · simp only [ext_st, ext_wfs] at h1 h3
      have haw : aw = [] := hcl.aw _ _ _ _ h2
      subst haw
      have hw : w = .pending := by
        unfold waitFresh at hbw
        rw [h1] at hbw
        simp only [h3] at hbw
        cases w <;> first | rfl | cases hbw
      subst hw
      right
      refine ⟨fn, 0, [], wf', .pending, ?_, h2, ?_, h4, h5⟩
      · show restoreSt (saveSt b.st) = _
        rw [h1]; rfl
      · show (restoreCfg (saveCfg b)).wfs[0]? = some WF.pending
        simp only [restoreCfg, saveCfg, h1, saveSt]; rfl
  · show (if b.paused.isSome = true then some 0 else none) = none
    rw [hbp]; rfl

theorem tickEntry_notStarted (c : Cfg) (h : c.pc = .notStarted) : tickEntry c = some c := by
  simp only [tickEntry, h]

theorem boundary_ext (c : Cfg) (L : Logs) : boundary (ext c L) = boundary c := rfl

/-- `f`: the fuel the uninterrupted callback has left at `d0` when the instance of the history with crashes enters the loop
at `c0` -/
theorem chain_sim (P : Prog) (hP : NoWaitOn P) : ∀ (cuts : List Nat) (s : CState) (c0 d0 : Cfg) (L : Logs) (f : Nat),
    tickEntry s.cur = some c0 → L.t = s.past → BMid (ext c0 L) d0 → Clean d0 → Inv d0 → f ≤ fuel0 →
    loopDone P f d0 = true → cutsOk P cuts s.cur = true →
    ∃ L' : Logs, L'.t = (crashTick P cuts s).past ∧ At (ext (crashTick P cuts s).cur L') (loopHead P f d0) ∧
      PcOk (loopHead P f d0) := by
  intro cuts
  induction cuts with
  | nil =>
    intro s c0 d0 L f he hL hm hcl _ hf hD _
    refine ⟨L, hL, ?_⟩
    show At (ext (tickStepper P s.cur) L) (loopHead P f d0) ∧ _
    rw [← tickF_fuel0, (tick_entry P s.cur c0 he).1, ← loopHead_ext]
    exact loop_sim P hP f fuel0 (ext c0 L) d0 hf hm hcl hD
  | cons n ns ih =>
    intro s c0 d0 L f he hL hm hcl hI hf hD hok
    simp only [cutsOk, Bool.and_eq_true] at hok
    obtain ⟨hb, hrest⟩ := hok
    have hbe : tickF P n s.cur = loopHead P n c0 := (tick_entry P s.cur c0 he).1 n
    rw [hbe] at hb hrest
    obtain ⟨hbs, hbl, _⟩ := (boundary_iff _).mp hb
    have hcut := loop_cut P hP n (ext c0 L) d0 hm hcl (by rw [loopHead_ext]; exact hbs) (by rw [loopHead_ext]; exact hbl)
    rw [loopHead_ext] at hcut
    obtain ⟨hm1, hsplit⟩ := hcut
    obtain ⟨f', hf1, hf2, hf3⟩ := hsplit f hD
    obtain ⟨L', hL', hm2, hpc⟩ := restore_mid (loopHead P n c0) (loopHead P n d0) L hm1 (loopHead_clean P hP n d0 hcl)
      (inv_closed.loopHead P n d0 hI) hb
    show ∃ L'' : Logs, L''.t = (crashTick P ns _).past ∧ At (ext (crashTick P ns _).cur L'') (loopHead P f d0) ∧ _
    rw [hbe, hf2]
    exact ih { cur := restoreCfg (saveCfg (loopHead P n c0)), past := (loopHead P n c0).trace ++ s.past, restores := s.restores + 1 }
      _ (loopHead P n d0) L' f' (tickEntry_notStarted _ hpc) (by rw [hL', hL]) hm2 (loopHead_clean P hP n d0 hcl)
      (inv_closed.loopHead P n d0 hI) (by omega) hf3 hrest

/-- the invariant of the history with crashes against the uninterrupted one -/
structure RelS (s : CState) (d : Cfg) : Prop where
  ex : ∃ L : Logs, L.t = s.past ∧ At (ext s.cur L) d
  clean : Clean d
  pcOk : PcOk d
  inv : Inv d

theorem resume_label (c : Cfg) (v : Option Val) : (resume c v).1.st.label = c.st.label :=
  resume_eq_deliver c v ▸ (deliver_same c _).1

theorem resume_at (c d : Cfg) (v : Option Val) (h : At c d) : At (resume c v).1 (resume d v).1 := by
  have hi := resume_inStep c d v h.inStep
  have o := resume_off c v
  refine ⟨⟨hi.core, o.interrupt.trans h.both.cint, o.paused.trans h.both.cpaused⟩, hi.pc, fun hr => (hi.run hr).1,
    fun hr => (hi.idle hr).1, ?_, ?_⟩
  · intro hp; rw [o.pc] at hp; rw [resume_label]; exact h.pcdone hp
  · intro e he; rw [o.pc] at he; exact h.nc e he

theorem cstep_rel (P : Prog) (hP : NoWaitOn P) (s : CState) (d : Cfg) (e : CEv) (h : RelS s d)
    (hadm : (match e with | .tick cuts => cutsOk P cuts s.cur | .resume _ => true) = true)
    (hD : (match e.ref with | .tick => tickDone P d | _ => true) = true) :
    RelS (cstep P s e) (step P d e.ref).1 := by
  obtain ⟨⟨L, hL, hat⟩, hcl, hpo, hI⟩ := h
  cases e with
  | resume v =>
    show RelS { s with cur := (resume s.cur v).1 } (resume d v).1
    refine ⟨⟨L, hL, ?_⟩, resume_clean d v hcl, pcOk_of_pc hpo (resume_off d v).pc, inv_closed.resume d v hI⟩
    show At (ext (resume s.cur v).1 L) (resume d v).1
    rw [← resume_ext]; exact resume_at _ _ v hat
  | tick cuts =>
    have hD' : tickDone P d = true := hD
    have hclean : Clean (tickStepper P d) := by rw [← tickF_fuel0]; exact tickF_clean P hP fuel0 d hcl hpo
    have hinv : Inv (tickStepper P d) := inv_closed.tickStepper P d hI
    show RelS (crashTick P cuts s) (tickStepper P d)
    cases cuts with
    | nil =>
      obtain ⟨h1, h2⟩ := tick_sim P hP (ext s.cur L) d hat hcl hpo hD'
      rw [tickStepper_ext] at h1
      exact ⟨⟨L, hL, h1⟩, hclean, h2, hinv⟩
    | cons n ns =>
      have hok : cutsOk P (n :: ns) s.cur = true := hadm
      rcases tickEntry_sim P (ext s.cur L) d hat with ⟨h1, _, _, h4, _⟩ | ⟨c0', d0, h1, h2, h3⟩
      · -- the callback does not enter the loop: the instance is not at a step boundary, no checkpoint can be taken
        exfalso
        simp only [cutsOk, Bool.and_eq_true] at hok
        obtain ⟨hbs, hbl, _⟩ := (boundary_iff _).mp hok.1
        have e1 : tickF P 0 (ext s.cur L) = ext (tickF P n s.cur) L := by
          rw [← tickF_idle P n (ext s.cur L) h1 hat.not_awaitPaused.1, tickF_ext]
        rw [e1] at h4
        rcases h4 with h4 | h4
        · rw [ext_stepping, hbs] at h4; cases h4
        · rw [ext_st, hbl] at h4; cases h4
      · rw [tickEntry_ext] at h1
        cases hte : tickEntry s.cur with
        | none => rw [hte] at h1; cases h1
        | some c0 =>
          rw [hte] at h1
          simp only [Option.map] at h1
          cases h1
          rw [(tick_entry P d d0 h2).2] at hD'
          obtain ⟨L', hL', hat', hpo'⟩ := chain_sim P hP (n :: ns) s c0 d0 L fuel0 hte hL h3
            (by have := tickF_clean P hP 0 d hcl hpo; rwa [(tick_entry P d d0 h2).1] at this)
            (inv_closed.tickEntry h2 hI)
            (Nat.le_refl _) hD' hok
          have e2 : tickStepper P d = loopHead P fuel0 d0 := (tick_entry P d d0 h2).1 fuel0
          rw [e2]
          rw [e2] at hclean hinv
          exact ⟨⟨L', hL', hat'⟩, hclean, hpo', hinv⟩

theorem both_refl_init : Both (init 0) (init 0) :=
  ⟨⟨rfl, Or.inl ⟨rfl, by intro a b c d h; cases h⟩, rfl, rfl, rfl⟩, rfl, rfl⟩

theorem relS_init : RelS cinit (init 0) := by
  refine ⟨⟨{}, rfl, ?_⟩, clean_init, (by intro b hb; cases hb), inv_init 0⟩
  show At (ext (init 0) {}) (init 0)
  rw [ext_nil]
  exact ⟨both_refl_init, rfl, fun h => by simp [isRunningPc, init] at h, fun _ => rfl, (fun h => by cases h),
    (by intro e he; cases he)⟩

theorem crun_rel (P : Prog) (hP : NoWaitOn P) : ∀ (evs : List CEv) (s : CState) (d : Cfg), RelS s d →
    cadm P s evs = true → fuelOk P d (evs.map CEv.ref) = true → RelS (crun P s evs) (run P d (evs.map CEv.ref)) := by
  intro evs
  induction evs with
  | nil => intro s d h _ _; exact h
  | cons e es ih =>
    intro s d h hadm hfuel
    simp only [cadm, Bool.and_eq_true] at hadm
    simp only [List.map_cons, fuelOk, Bool.and_eq_true] at hfuel
    have := cstep_rel P hP s d e h hadm.1 hfuel.1
    exact ih (cstep P s e) (step P d e.ref).1 this hadm.2 hfuel.2

end PMF
