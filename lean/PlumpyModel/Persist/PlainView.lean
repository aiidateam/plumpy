import PlumpyModel.Persist.Model
import PlumpyModel.Persist.Plain
/-!
# What `saveCfg` keeps is inside what a bundle of the persistence model keeps (C08, plain processes)

`Persist/Plain.lean` describes a bundle from the point of view of the process-control model (`Saved`: state object, paused
flag, process future, context).  This file writes a `Saved` into the persisted view of `Persist/Model.lean` (`viewOf`: the
run function / done callback by name, `args`, `kwargs`, result, exception through an injective coding of the payloads; all
other members from a given view) and reads it back (`savedOf`).  With `load ∘ save = id` of C07 (whose member sets and keys
are the tables generated from the source) this gives: what `restoreCfg` builds a fresh instance from survives
`Persist.save` / `Persist.load`.
-/
namespace PMF

/-- the payloads of the process-control model that a bundle transports -/
inductive Payload
  | args (l : List Val)
  | kw (l : List (Nat × Val))
  | res (v : Option Val)
  | exc (e : Exc)
deriving DecidableEq, Repr

/-- how payloads are written as bundle values and step functions are named: any coding that is injective on the payloads and
function ids that occur (`dom`, `fnDom`) and never produces a live awaitable (the harness interns the values of a program as
integers, see `tableCodec`) -/
structure Codec where
  enc : Payload → Persist.Val
  dec : Persist.Val → Option Payload
  dom : Payload → Prop
  dec_enc : ∀ p, dom p → dec (enc p) = some p
  notLive : ∀ p, enc p ≠ .live
  fnName : Nat → String
  fnOf : String → Option Nat
  fnDom : Nat → Prop
  fnOf_name : ∀ n, fnDom n → fnOf (fnName n) = some n

/-- everything the saved state object and future mention is in the domain of the coding -/
def Codec.covers (K : Codec) (b : Saved) : Prop :=
  (match b.st with
   | .created fn => K.fnDom fn ∧ K.dom (.args []) ∧ K.dom (.kw [])
   | .running fn a k => K.fnDom fn ∧ K.dom (.args a) ∧ K.dom (.kw k)
   | .waiting fn => K.fnDom fn
   | .finished v _ => K.dom (.res v)
   | .excepted e => K.dom (.exc e)
   | .killed => True) ∧
  (match b.fut with | .exc e => K.dom (.exc e) | _ => True)

def stateV (K : Codec) : SSaved → Persist.StateV
  | .created fn => .created .none (K.fnName fn) (K.enc (.args [])) (K.enc (.kw []))
  | .running fn a k => .running .none (K.fnName fn) (K.enc (.args a)) (K.enc (.kw k))
  | .waiting fn => .waiting .none (some (K.fnName fn)) .none .none none
  | .finished v ok => .finished .none (K.enc (.res v)) (.bool ok)
  | .excepted e => .excepted .none (K.enc (.exc e))
  | .killed => .killed .none .none

def futV (K : Codec) : PFut → Persist.FutV
  | .pending => .pending
  | .result => .result .none
  | .exc e => .exc (K.enc (.exc e))
  | .cancelled => .cancelled

/-- the persisted view of a plain process whose process-control part is `b`; what the process-control model does not know
(pid, creation time, status, inputs, outputs, listeners) is taken from `base` -/
def viewOf (K : Codec) (base : Persist.View) (b : Saved) : Persist.View :=
  { base with state := stateV K b.st, paused := if b.paused then some .pending else none, future := futV K b.fut,
              chain := none }

def ssavedOf (K : Codec) : Persist.StateV → Option SSaved
  | .created _ f a k =>
      match K.fnOf f, K.dec a, K.dec k with
      | some fn, some (.args []), some (.kw []) => some (.created fn)
      | _, _, _ => none
  | .running _ f a k =>
      match K.fnOf f, K.dec a, K.dec k with
      | some fn, some (.args a), some (.kw k) => some (.running fn a k)
      | _, _, _ => none
  | .waiting _ (some f) _ _ none => (K.fnOf f).map .waiting
  | .waiting .. => none
  | .finished _ r (.bool ok) => (match K.dec r with | some (.res v) => some (.finished v ok) | _ => none)
  | .finished .. => none
  | .excepted _ e => (match K.dec e with | some (.exc e) => some (.excepted e) | _ => none)
  | .killed .. => some .killed

def pfutOf (K : Codec) : Persist.FutV → Option PFut
  | .pending => some .pending
  | .result _ => some .result
  | .exc e => (match K.dec e with | some (.exc e) => some (.exc e) | _ => none)
  | .cancelled => some .cancelled

/-- the process-control part of a persisted view of a plain process -/
def savedOf (K : Codec) (v : Persist.View) : Option Saved :=
  match ssavedOf K v.state, pfutOf K v.future with
  | some st, some fut => some { st := st, paused := v.paused.isSome, fut := fut, ctx := [] }
  | _, _ => none

theorem savedOf_viewOf (K : Codec) (base : Persist.View) (b : Saved) (h : b.ctx = []) (hcov : K.covers b) :
    savedOf K (viewOf K base b) = some b := by
  obtain ⟨st, p, f, cx⟩ := b
  simp only at h
  subst h
  obtain ⟨h1, h2⟩ := hcov
  simp only at h1 h2
  have e1 : ssavedOf K (stateV K st) = some st := by
    cases st with
    | created fn => obtain ⟨a, b, c⟩ := h1; simp [ssavedOf, stateV, K.fnOf_name fn a, K.dec_enc _ b, K.dec_enc _ c]
    | running fn x y => obtain ⟨a, b, c⟩ := h1; simp [ssavedOf, stateV, K.fnOf_name fn a, K.dec_enc _ b, K.dec_enc _ c]
    | waiting fn => simp [ssavedOf, stateV, K.fnOf_name fn h1]
    | finished v ok => simp [ssavedOf, stateV, K.dec_enc _ h1]
    | excepted e => simp [ssavedOf, stateV, K.dec_enc _ h1]
    | killed => simp [ssavedOf, stateV]
  have e2 : pfutOf K (futV K f) = some f := by
    cases f with
    | exc e => simp [pfutOf, futV, K.dec_enc _ h2]
    | _ => simp [pfutOf, futV]
  simp only [savedOf, viewOf, e1, e2]
  cases p <;> rfl

/-- the coding of a finite table of payloads and function names: the `i`-th payload is written as the integer `i` -/
def tableCodec (T : List Payload) (names : List String) : Codec where
  enc p := .nat (T.idxOf p)
  dec v := match v with | .nat i => T[i]? | _ => none
  dom p := p ∈ T
  dec_enc p hp := by
    show T[T.idxOf p]? = some p
    induction T with
    | nil => cases hp
    | cons a r ih =>
      by_cases h : a = p
      · subst h; simp
      · have hr : p ∈ r := by
          cases hp with
          | head => exact absurd rfl h
          | tail _ h' => exact h'
        have hne : (a == p) = false := by simpa using h
        simp only [List.idxOf_cons, hne, cond_false]
        rw [List.getElem?_cons_succ]
        exact ih hr
  notLive p := by intro h; cases h
  fnName n := names.getD n ""
  fnOf s := if s ∈ names then some (names.idxOf s) else none
  fnDom n := n < names.length ∧ names.idxOf (names.getD n "") = n
  fnOf_name n hn := by
    obtain ⟨h1, h2⟩ := hn
    have hm : names.getD n "" ∈ names := by
      rw [List.getD_eq_getElem?_getD, List.getElem?_eq_getElem h1]; exact List.getElem_mem h1
    simp only [hm, if_true, h2]

theorem okVal_enc (K : Codec) (p : Payload) : Persist.okVal (K.enc p) = true := by
  simp [Persist.okVal, K.notLive p]

theorem stateV_ok (K : Codec) (s : SSaved) : (stateV K s).ok = true := by
  cases s <;> simp [stateV, Persist.StateV.ok, Persist.okVal, K.notLive]

theorem futV_ok (K : Codec) (f : PFut) : (futV K f).ok = true := by
  cases f <;> simp [futV, Persist.FutV.ok, Persist.okVal, K.notLive]

theorem savable_viewOf (K : Codec) (C : Persist.Cls) (hC : C.outline = none) (base : Persist.View)
    (hb : Persist.savable C base = true) (b : Saved) : Persist.savable C (viewOf K base b) = true := by
  simp only [Persist.savable, Bool.and_eq_true, viewOf, hC] at hb ⊢
  simp only [hb, stateV_ok, futV_ok, and_true, true_and]
  cases b.paused <;> simp [Persist.FutV.ok]

end PMF
