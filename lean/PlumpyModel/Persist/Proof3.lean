import PlumpyModel.PM.Writes
/-!
# The logs of a configuration are write-only (helper lemmas for C08, plain processes)

`ext c L` is `c` with older entries `L` under its three logs (user-call trace, ENTERED log, listener notifications).  No
function of the process-control model reads a log, so a function commutes with `ext` (proved here for the functions on the path of
a callback of the stepping task and of a `resume`): a restored instance, whose logs start empty, behaves like the same instance
carrying the logs of its predecessors.
-/
namespace PMF

structure Logs where
  t : List Act := []
  e : List Label := []
  n : List Notif := []

def ext (c : Cfg) (L : Logs) : Cfg :=
  { c with trace := c.trace ++ L.t, entered := c.entered ++ L.e, notif := c.notif ++ L.n }

section proj
variable (c : Cfg) (L : Logs)
@[simp] theorem ext_st : (ext c L).st = c.st := rfl
@[simp] theorem ext_stepping : (ext c L).stepping = c.stepping := rfl
@[simp] theorem ext_actions : (ext c L).actions = c.actions := rfl
@[simp] theorem ext_handed : (ext c L).handed = c.handed := rfl
@[simp] theorem ext_pausing : (ext c L).pausing = c.pausing := rfl
@[simp] theorem ext_killing : (ext c L).killing = c.killing := rfl
@[simp] theorem ext_interrupt : (ext c L).interrupt = c.interrupt := rfl
@[simp] theorem ext_nextCookie : (ext c L).nextCookie = c.nextCookie := rfl
@[simp] theorem ext_wfs : (ext c L).wfs = c.wfs := rfl
@[simp] theorem ext_pfs : (ext c L).pfs = c.pfs := rfl
@[simp] theorem ext_paused : (ext c L).paused = c.paused := rfl
@[simp] theorem ext_fut : (ext c L).fut = c.fut := rfl
@[simp] theorem ext_futHasKillCb : (ext c L).futHasKillCb = c.futHasKillCb := rfl
@[simp] theorem ext_closed : (ext c L).closed = c.closed := rfl
@[simp] theorem ext_cleanups : (ext c L).cleanups = c.cleanups := rfl
@[simp] theorem ext_efs : (ext c L).efs = c.efs := rfl
@[simp] theorem ext_efCb : (ext c L).efCb = c.efCb := rfl
@[simp] theorem ext_efKeys : (ext c L).efKeys = c.efKeys := rfl
@[simp] theorem ext_ctx : (ext c L).ctx = c.ctx := rfl
@[simp] theorem ext_ready : (ext c L).ready = c.ready := rfl
@[simp] theorem ext_pc : (ext c L).pc = c.pc := rfl
@[simp] theorem ext_loopErrs : (ext c L).loopErrs = c.loopErrs := rfl
@[simp] theorem ext_trace : (ext c L).trace = c.trace ++ L.t := rfl
@[simp] theorem ext_entered : (ext c L).entered = c.entered ++ L.e := rfl
@[simp] theorem ext_notif : (ext c L).notif = c.notif ++ L.n := rfl
end proj

variable (L : Logs)

theorem actionStatus_ext (c : Cfg) (i : Nat) : actionStatus (ext c L) i = actionStatus c i := rfl

theorem setActionStatus_ext (c : Cfg) (i : Nat) (s : AStatus) :
    setActionStatus (ext c L) i s = ext (setActionStatus c i s) L := by
  unfold setActionStatus
  simp only [ext_actions]
  split <;> rfl

theorem cancelAction_ext (c : Cfg) (i : Nat) : cancelAction (ext c L) i = ext (cancelAction c i) L := by
  unfold cancelAction
  rw [actionStatus_ext, setActionStatus_ext]
  split <;> rfl

theorem setInterrupt_ext (c : Cfg) (n : Option Nat) : setInterrupt (ext c L) n = ext (setInterrupt c n) L := by
  unfold setInterrupt
  simp only [ext_interrupt]
  split
  · rw [cancelAction_ext]; rfl
  · rfl

theorem ext_ite (p : Prop) [Decidable p] (a b : Cfg) : ext (if p then a else b) L = if p then ext a L else ext b L := by
  split <;> rfl

theorem cancelInterrupt_ext (c : Cfg) : cancelInterrupt (ext c L) = ext (cancelInterrupt c) L := by
  unfold cancelInterrupt
  simp only [ext_interrupt]
  split
  · rw [cancelAction_ext]
  · rfl

theorem setInterruptFromExc_ext (c : Cfg) (k : AKind) (n : Nat) :
    setInterruptFromExc (ext c L) k n = ext (setInterruptFromExc c k n) L := by
  unfold setInterruptFromExc
  rw [cancelInterrupt_ext]; rfl

theorem freshFutIfCancelled_ext (c : Cfg) : freshFutIfCancelled (ext c L) = ext (freshFutIfCancelled c) L := by
  unfold freshFutIfCancelled futCancelled
  simp only [ext_fut, ext_ite]
  rfl

theorem setFutExc_ext (c : Cfg) (e : Exc) : setFutExc (ext c L) e = ext (setFutExc c e) L := by
  unfold setFutExc
  rw [ext_fut]
  split <;> rfl

theorem onClose_ext (c : Cfg) : onClose (ext c L) = ext (onClose c) L := by
  unfold onClose
  simp only [ext_closed, ext_ite]
  rfl

theorem releasePause_ext (c : Cfg) : releasePause (ext c L) = ext (releasePause c) L := by
  unfold releasePause
  simp only [ext_paused, ext_pfs]
  split
  · simp only [ext_ite]; rfl
  · rfl

theorem onTerminated_ext (c : Cfg) : onTerminated (ext c L) = ext (onTerminated c) L := by
  unfold onTerminated
  rw [releasePause_ext, onClose_ext]

theorem exitState_ext (c : Cfg) : exitState (ext c L) = ext (exitState c) L := by
  unfold exitState
  rw [ext_st]; split
  · dsimp only; rw [ext_wfs]; split <;> rfl
  · rfl

theorem enteringHooks_ext (c : Cfg) (s : SObj) :
    enteringHooks (ext c L) s = (enteringHooks c s).map (fun d => ext d L) := by
  unfold enteringHooks
  split
  · simp only [freshFutIfCancelled_ext, ext_fut]
    split <;> rfl
  · simp only [freshFutIfCancelled_ext, ext_fut]
    split <;> rfl
  · rw [setFutExc_ext]; rfl
  · rfl

theorem enterState_ext (c : Cfg) (s : SObj) : enterState (ext c L) s = ext (enterState c s) L := by
  unfold enterState
  split
  · rename_i aw
    induction aw generalizing c with
    | nil => rfl
    | cons p rest ih =>
      rw [List.foldl_cons, List.foldl_cons, ← ih]
      congr 1
      simp only [ext_efs]
      split <;> rfl
  · rfl

theorem enteredHooks_ext (c : Cfg) (s : SObj) : enteredHooks (ext c L) s = ext (enteredHooks c s) L := by
  rw [enteredHooks_eq, enteredHooks_eq]; unfold ext; rw [List.append_assoc]

theorem setState_ext (c : Cfg) (s : SObj) : setState (ext c L) s = ext (setState c s) L := rfl

theorem enterNext_ext (c : Cfg) (s : SObj) : enterNext (ext c L) s = ext (enterNext c s) L := by
  unfold enterNext
  dsimp only
  rw [enterState_ext, setState_ext, enteredHooks_ext]
  split
  · rw [onTerminated_ext]
  · rfl

theorem forceExcepted_ext (c : Cfg) (e : Exc) : forceExcepted (ext c L) e = ext (forceExcepted c e) L := by
  cases h : c.closed with
  | true => unfold forceExcepted; rw [ext_closed, h]; rfl
  | false => rw [forceExcepted_open c e h, forceExcepted_open (ext c L) e h, setFutExc_ext, enterNext_ext]

theorem transitionTo_ext (c : Cfg) (s : SObj) : transitionTo (ext c L) s = ext (transitionTo c s) L := by
  unfold transitionTo
  simp only [ext_st, ext_closed, exitState_ext, enteringHooks_ext]
  split
  · split
    · rfl
    · cases enteringHooks (exitState c) s with
      | error e => simp only [Except.map]; rw [forceExcepted_ext]
      | ok c2 => simp only [Except.map]; rw [enterNext_ext]
  · rw [forceExcepted_ext]

theorem doPauseHooks_ext (c : Cfg) : doPauseHooks (ext c L) = ext (doPauseHooks c) L := rfl

theorem runAction_ext (c : Cfg) (i : Nat) (next : Option SObj) : runAction (ext c L) i next = ext (runAction c i next) L := by
  unfold runAction
  rw [ext_actions]; split
  · rfl
  · split
    · rfl
    · split
      · cases next with
        | none => dsimp only; rw [doPauseHooks_ext, setActionStatus_ext]
        | some s => dsimp only; rw [transitionTo_ext, doPauseHooks_ext, setActionStatus_ext]
      · dsimp only; rw [transitionTo_ext]
        exact setActionStatus_ext L { transitionTo c .killed with killing := none } i .done

theorem kindOfCookie_ext (c : Cfg) (k : Nat) : kindOfCookie (ext c L) k = kindOfCookie c k := rfl

theorem prepare_ext (c : Cfg) (r : StepEnd) : prepare (ext c L) r = ((ext (prepare c r).1 L), (prepare c r).2) := by
  unfold prepare
  split
  · rw [setInterrupt_ext]
  · rfl
  · simp only [ext_interrupt]
    split
    · rfl
    · rw [kindOfCookie_ext, setInterruptFromExc_ext]
  · rw [setInterrupt_ext]

theorem dispatch_ext (c : Cfg) (next : Option SObj) : dispatch (ext c L) next = ext (dispatch c next) L := by
  unfold dispatch
  rw [ext_st, ext_interrupt]
  by_cases ht : terminal c.st.label = true
  · rw [if_pos ht, if_pos ht]
  rw [if_neg ht, if_neg ht]
  cases next with
  | none =>
    split
    · rw [actionStatus_ext, runAction_ext, ext_ite]
    · rfl
  | some s =>
    dsimp only; rw [transitionTo_ext]
    split
    · rw [actionStatus_ext, runAction_ext, ext_ite]
    · rfl

theorem finally_ext (c : Cfg) : finally_ (ext c L) = ext (finally_ c) L := by
  unfold finally_
  exact setInterrupt_ext L { c with stepping := false } none

theorem endOfStep_ext (c : Cfg) (r : StepEnd) : endOfStep (ext c L) r = ext (endOfStep c r) L := by
  unfold endOfStep
  simp only [prepare_ext, dispatch_ext, finally_ext]

theorem cmdToState_ext (c : Cfg) (cmd : Cmd) : cmdToState (ext c L) cmd = (ext (cmdToState c cmd).1 L, (cmdToState c cmd).2) := by
  cases cmd <;> rfl

theorem rearm_ext (c : Cfg) (wf : Nat) : PMF.L.rearm (ext c L) wf = ext (PMF.L.rearm c wf) L := by
  unfold PMF.L.rearm
  rw [ext_st]; split
  · split <;> rfl
  · rfl

/-- the stepping task (`PM/Task.lean`) runs in step on `c` and on `ext c L` -/
theorem ext_task : Task.Sim2 Task.base Task.base fun c d => d = ext c L where
  view h := by subst h; exact ⟨rfl, rfl, rfl, rfl, rfl, rfl, rfl⟩
  start h := by subst h; rfl
  eos r h := by subst h; exact endOfStep_ext L _ r
  setPc p h := by subst h; rfl
  activate fn args kw h := by subst h; rfl
  alloc cmd h := by subst h; exact congrArg Prod.fst (cmdToState_ext L _ cmd)
  rearm wf h := by subst h; exact rearm_ext L _ wf

theorem finishUser_ext (c : Cfg) (o : Outcome) : finishUser (ext c L) o = ext (finishUser c o) L := by
  simpa only [Task.finishUser_base] using (ext_task L).finishUser o (x := c) rfl

theorem wake_ext (c : Cfg) (fn wf : Nat) (w : WF) : wake (ext c L) fn wf w = ext (wake c fn wf w) L := by
  simpa only [Task.wake_base] using (ext_task L).wake fn wf w (x := c) rfl

theorem loopHead_ext (P : Prog) (fuel : Nat) (c : Cfg) : loopHead P fuel (ext c L) = ext (loopHead P fuel c) L := by
  simpa only [Task.loopHead_base] using (ext_task L).loopHead P fuel (x := c) rfl

theorem deliver_ext (c : Cfg) (o : WF) : deliver (ext c L) o = ext (deliver c o) L := by
  unfold deliver
  rw [ext_st]; split
  · rw [ext_wfs]; split
    · rfl
    · rw [ext_ite]; rfl
    · rfl
  · rfl

theorem resume_ext (c : Cfg) (v : Option Val) : (resume (ext c L) v).1 = ext (resume c v).1 L := by
  rw [resume_eq_deliver, resume_eq_deliver, deliver_ext]

end PMF
