import PlumpyModel.Ports.Proof1
/-! `validate` accepts exactly the conforming values (the popping / cloning / early-return discipline of
`PortNamespace.validate` implements the declarative rule). -/
namespace Ports

theorem ite_some_eq_none {α} {c : Prop} [Decidable c] {x : α} {y : Option α} :
    (if c then some x else y) = none ↔ ¬ c ∧ y = none := by
  by_cases h : c <;> simp [h]

theorem nsItems_eq_mappingOf (val : Option V) : nsItems val = mappingOf val := by
  unfold mappingOf
  split <;> simp_all [nsItems, V.falsy]

theorem hasKey_cons {α} (k k' : String) (v : α) (l : List (String × α)) :
    hasKey k ((k', v) :: l) = (decide (k = k') || hasKey k l) := by
  unfold hasKey; simp only [lookup_cons]; by_cases h : k = k' <;> simp [h]

theorem wfPort_ns (a : NsA) (ps : PortList) : wfPort (.ns a ps) = wfPorts ps := rfl

theorem wfPorts_cons (k : String) (p : Port) (rest : PortList) :
    wfPorts ((k, p) :: rest) = true ↔ hasKey k rest = false ∧ wfPort p = true ∧ wfPorts rest = true := by
  simp [wfPorts, and_assoc]

theorem validatePorts_rem (vd : Nat → V → Bool) (bc : List String) (ps : PortList) (vals rem : Items)
    (h : validatePorts vd bc ps vals = .ok rem) (kv : String × V) : kv ∈ rem ↔ kv ∈ vals ∧ lookup kv.1 ps = none := by
  induction ps generalizing vals with
  | nil => simp only [validatePorts, Except.ok.injEq] at h; simp [h]
  | cons e rest ih =>
    obtain ⟨name, p⟩ := e
    simp only [validatePorts] at h
    split at h
    · cases h
    · rw [ih _ h, mem_eraseKey, lookup_cons]
      by_cases hk : kv.1 = name <;> simp [hk]

theorem ConformsPorts_eraseKey (vd : Nat → V → Bool) (k : String) (rest : PortList) (items : Items)
    (h : hasKey k rest = false) : ConformsPorts vd rest (eraseKey k items) ↔ ConformsPorts vd rest items := by
  induction rest with
  | nil => simp [ConformsPorts]
  | cons e rest ih =>
    rw [hasKey_cons k e.1 e.2 rest, Bool.or_eq_false_iff, decide_eq_false_iff_not] at h
    simp only [ConformsPorts, lookup_eraseKey_ne (Ne.symm h.1), ih h.2]

theorem validateDynamic_none_iff (a : NsA) (name : String) (bc : List String) (rem : Items) :
    validateDynamic a name bc rem = none ↔
      (∀ k v, (k, v) ∈ rem → a.dynamic = true ∧ ∀ ty, a.validType = some ty → DynOk ty v) := by
  unfold validateDynamic
  by_cases h : (!rem.isEmpty && !a.dynamic) = true
  · simp only [h, if_true, reduceCtorEq, false_iff]
    intro hall
    simp only [Bool.and_eq_true, Bool.not_eq_true', List.isEmpty_eq_false_iff] at h
    obtain ⟨hne, hd⟩ := h
    match rem, hne with
    | (k, v) :: _, _ => have := (hall k v (List.mem_cons_self)).1; simp_all
  · simp only [h]
    have hd : rem = [] ∨ a.dynamic = true := by
      cases rem with
      | nil => exact Or.inl rfl
      | cons hd tl => right; simpa using h
    cases hty : a.validType with
    | none =>
      simp only [true_iff, Bool.false_eq_true, if_false]
      intro k v hm
      refine ⟨?_, fun ty h => by cases h⟩
      rcases hd with hd | hd
      · subst hd; cases hm
      · exact hd
    | some ty =>
      simp only [Bool.false_eq_true, if_false, validateDynamicL_none_iff, DynOkL_iff]
      constructor
      · intro hall k v hm
        refine ⟨?_, fun ty' h => by cases h; exact hall k v hm⟩
        rcases hd with hd | hd
        · subst hd; cases hm
        · exact hd
      · intro hall k v hm; exact (hall k v hm).2 ty rfl

theorem validateDynamic_rem {vd : Nat → V → Bool} {bc' : List String} {ports : PortList} {items rem : Items}
    (h : validatePorts vd bc' ports items = .ok rem) (a : NsA) (name : String) (bc : List String) :
    validateDynamic a name bc rem = none ↔
      ∀ k v, (k, v) ∈ items → lookup k ports = none → a.dynamic = true ∧ ∀ ty, a.validType = some ty → DynOk ty v := by
  rw [validateDynamic_none_iff]
  exact ⟨fun H k v hm hl => H k v ((validatePorts_rem vd bc' ports items rem h (k, v)).2 ⟨hm, hl⟩),
    fun H k v hm => have := (validatePorts_rem vd bc' ports items rem h (k, v)).1 hm; H k v this.1 this.2⟩

theorem validate_none_iff (vd : Nat → V → Bool) :
    (∀ (p : Port), wfPort p = true → ∀ (name : String) (bc : List String) (val : Option V),
      validatePort vd name bc p val = none ↔ ConformsPort vd p val) ∧
    ∀ (ps : PortList), wfPorts ps = true → ∀ (bc : List String) (vals : Items),
      (∃ rem, validatePorts vd bc ps vals = .ok rem) ↔ ConformsPorts vd ps vals := by
  apply Port.induct
  · intro a _ name bc val
    cases val with
    | none => cases hr : a.required <;> cases hd : a.default <;> simp [validatePort, ConformsPort, LeafA.req, hr, hd]
    | some v =>
      simp only [validatePort, ConformsPort, ite_some_eq_none, and_true, Bool.not_eq_true]
      cases a.validType <;> simp
  · intro a ports ih hwf name bc val
    simp only [validatePort, ConformsPort, nsItems_eq_mappingOf]
    cases mappingOf val with
    | none => simp
    | some items =>
      simp only [Option.some.injEq, exists_eq_left']
      by_cases hc : (items.isEmpty && !a.required) = true
      · simpa [hc] using Or.inl (by simpa using hc)
      · have hleft : ¬ (items = [] ∧ a.required = false) := fun ⟨h1, h2⟩ => hc (by simp [h1, h2])
        rw [if_neg hc, or_iff_right hleft, ← ih hwf (bc ++ [name]) items]
        cases hvp : validatePorts vd (bc ++ [name]) ports items with
        | error e => simp
        | ok rem =>
          simp only [Except.ok.injEq, exists_eq', true_and, ← validateDynamic_rem hvp a name bc]
          cases validateDynamic a name bc rem <;> cases rejects vd a.validator (.dict false items) <;> simp
  · intro _ bc vals; simp [validatePorts, ConformsPorts]
  · intro name p rest ihp ihr hwf bc vals
    obtain ⟨h1, h2, h3⟩ := (wfPorts_cons name p rest).1 hwf
    simp only [validatePorts, ConformsPorts, ← ihp h2 name bc, ← ConformsPorts_eraseKey vd name rest vals h1, ← ihr h3 bc]
    cases validatePort vd name bc p (lookup name vals) <;> simp

theorem validatePort_none_iff (vd : Nat → V → Bool) : ∀ (p : Port), wfPort p = true → ∀ (name : String) (bc : List String)
    (val : Option V), validatePort vd name bc p val = none ↔ ConformsPort vd p val :=
  (validate_none_iff vd).1

theorem validatePorts_ok_iff (vd : Nat → V → Bool) : ∀ (ps : PortList), wfPorts ps = true → ∀ (bc : List String) (vals : Items),
    (∃ rem, validatePorts vd bc ps vals = .ok rem) ↔ ConformsPorts vd ps vals :=
  (validate_none_iff vd).2

end Ports
