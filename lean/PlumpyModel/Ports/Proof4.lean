import PlumpyModel.Ports.Proof3
/-! Acceptance does not depend on which completion is looked at (given validators that cannot tell two completions of
the same inputs apart), and a completion exists exactly when `pre_process` does not raise. -/
namespace Ports

/-- validators cannot tell two completions of the same supplied mapping apart (they may differ in the order of keys only) -/
def VdStable (vd : Nat → V → Bool) : Prop :=
  ∀ n ports sup items1 items2, DefaultsExact ports sup items1 → DefaultsExact ports sup items2 →
    vd n (.dict false items1) = vd n (.dict false items2)

theorem DefaultsPort_none (p : Port) (sup r2 : Option V) (h1 : DefaultsPort p sup none) (h2 : DefaultsPort p sup r2) :
    r2 = none := by
  cases p with
  | leaf a => simp only [DefaultsPort] at h1 h2; rw [h2, ← h1]
  | ns a ports =>
    rw [DefaultsPort_ns] at h1 h2
    cases hs : nsStart a (!ports.isEmpty) sup with
    | skip => rw [hs] at h2; exact h2
    | bad => rw [hs] at h2; cases h2
    | go items => rw [hs] at h1; obtain ⟨_, h, _⟩ := h1; cases h

theorem completion_nil (ports : PortList) (items i1 i2 : Items) (h1 : DefaultsExact ports items i1)
    (h2 : DefaultsExact ports items i2) (he : i1 = []) : i2 = [] := by
  subst he
  apply List.eq_nil_iff_forall_not_mem.2
  rintro ⟨k, v⟩ hm
  cases hp : lookup k ports with
  | none =>
    have := (h1.2.2 (k, v) hp).2 ((h2.2.2 (k, v) hp).1 hm); cases this
  | some p =>
    have d1 := DefaultsPorts_lookup ports items [] k p h1.1 hp
    have d2 := DefaultsPorts_lookup ports items i2 k p h2.1 hp
    have := DefaultsPort_none p _ _ d1 d2
    have hs := lookup_isSome_of_mem hm
    rw [this] at hs; cases hs

theorem Conforms_transfer (vd : Nat → V → Bool) (H : VdStable vd) :
    (∀ (p : Port) (sup r1 r2 : Option V), DefaultsPort p sup r1 → DefaultsPort p sup r2 →
      ConformsPort vd p r1 → ConformsPort vd p r2) ∧
    ∀ (ps : PortList) (vals o1 o2 : Items), DefaultsPorts ps vals o1 → DefaultsPorts ps vals o2 →
      ConformsPorts vd ps o1 → ConformsPorts vd ps o2 := by
  apply Port.induct
  · intro a sup r1 r2 h1 h2 hc
    simp only [DefaultsPort] at h1 h2; rw [h2, ← h1]; exact hc
  · intro a ports ih sup r1 r2 h1 h2 hc
    rw [DefaultsPort_ns] at h1 h2
    cases hs : nsStart a (!ports.isEmpty) sup with
    | skip => rw [hs] at h1 h2; rw [h2, ← h1]; exact hc
    | bad => rw [hs] at h1; cases h1
    | go items =>
      -- both results are completions of the same mapping `items`
      rw [hs] at h1 h2
      obtain ⟨i1, rfl, d1⟩ := h1
      obtain ⟨i2, rfl, d2⟩ := h2
      simp only [ConformsPort, mappingOf, Option.some.injEq, exists_eq_left'] at hc ⊢
      rcases hc with ⟨he, hr⟩ | ⟨hp, hu, hv⟩
      · exact Or.inl ⟨completion_nil ports items i1 i2 d1 d2 he, hr⟩
      · refine Or.inr ⟨ih items i1 i2 d1.1 d2.1 hp, ?_, ?_⟩
        · intro k v hm hl
          exact hu k v ((d1.2.2 (k, v) hl).2 ((d2.2.2 (k, v) hl).1 hm)) hl
        · unfold rejects at hv ⊢
          cases hval : a.validator with
          | none => rfl
          | some n => rw [hval] at hv; simp only at hv ⊢; rw [← H n ports items i1 i2 d1 d2]; exact hv
  · intro _ _ _ _ _ _; trivial
  · intro name p rest ihp ihr vals o1 o2 h1 h2 hc
    exact ⟨ihp _ _ _ h1.1 h2.1 hc.1, ihr vals o1 o2 h1.2 h2.2 hc.2⟩

theorem ConformsPort_transfer (vd : Nat → V → Bool) (H : VdStable vd) : ∀ (p : Port) (sup r1 r2 : Option V),
    DefaultsPort p sup r1 → DefaultsPort p sup r2 → ConformsPort vd p r1 → ConformsPort vd p r2 :=
  (Conforms_transfer vd H).1

theorem ConformsPorts_transfer (vd : Nat → V → Bool) (H : VdStable vd) : ∀ (ps : PortList) (vals o1 o2 : Items),
    DefaultsPorts ps vals o1 → DefaultsPorts ps vals o2 → ConformsPorts vd ps o1 → ConformsPorts vd ps o2 :=
  (Conforms_transfer vd H).2

theorem preProcessPort_total : ∀ (p : Port), wfPort p = true → ∀ (name : String) (vals : Items) (r : Option V),
    DefaultsPort p (lookup name vals) r → ∃ vals', preProcessPort name p vals = .ok vals' := by
  intro p hwf name vals r hd
  have := preProcess_char.1 p hwf name vals
  split at this
  · exact ⟨_, ‹_›⟩
  · exact absurd hd (this.2 r)

theorem preProcess_total : ∀ (ps : PortList), wfPorts ps = true → ∀ (vals out : Items),
    DefaultsPorts ps vals out → ∃ out', preProcess ps vals = .ok out' := by
  intro ps hwf vals out hd
  have := preProcess_char.2 ps hwf vals
  split at this
  · exact ⟨_, ‹_›⟩
  · exact absurd hd (this.2 out)

theorem construct_ok_iff (vd : Nat → V → Bool) (top : NsA) (ports : PortList) (raw : Items) (parsed : V) :
    construct vd top ports raw = .ok parsed ↔
      ∃ items, preProcess ports raw = .ok items ∧
        validatePort vd "inputs" [] (.ns top ports) (some (.dict true items)) = none ∧ parsed = .dict true items := by
  unfold construct
  cases hp : preProcess ports raw with
  | error e => simp
  | ok items =>
    simp only [Except.ok.injEq, exists_eq_left']
    cases hv : validatePort vd "inputs" [] (.ns top ports) (some (.dict true items)) with
    | some e => simp
    | none => simp [eq_comm]

end Ports
