import PlumpyModel.Ports.Spec
/-! Helper lemmas for C11: induction over port trees and values, association lists, the dynamic check. -/
namespace Ports

/-! A statement about ports and one about port lists, proved together; likewise for values and their items.  (Written as mutually
recursive theorems these go through the equation compiler for nested inductive types, which is slow to check.) -/

theorem Port.induct {P : Port → Prop} {Q : PortList → Prop} (leaf : ∀ a, P (.leaf a))
    (ns : ∀ a ports, Q ports → P (.ns a ports)) (nil : Q [])
    (cons : ∀ name p rest, P p → Q rest → Q ((name, p) :: rest)) : (∀ p, P p) ∧ ∀ ps, Q ps :=
  ⟨Port.rec (motive_2 := Q) (motive_3 := fun e => P e.2) leaf ns nil (fun e rest => cons e.1 e.2 rest) fun _ _ h => h,
   Port.rec_1 (motive_1 := P) (motive_3 := fun e => P e.2) leaf ns nil (fun e rest => cons e.1 e.2 rest) fun _ _ h => h⟩

theorem V.induct {P : V → Prop} {Q : Items → Prop} (atom : ∀ ty id, P (.atom ty id))
    (dict : ∀ frozen items, Q items → P (.dict frozen items)) (nil : Q [])
    (cons : ∀ k v rest, P v → Q rest → Q ((k, v) :: rest)) : (∀ v, P v) ∧ ∀ items, Q items :=
  ⟨V.rec (motive_2 := Q) (motive_3 := fun e => P e.2) atom dict nil (fun e rest => cons e.1 e.2 rest) fun _ _ h => h,
   V.rec_1 (motive_1 := P) (motive_3 := fun e => P e.2) atom dict nil (fun e rest => cons e.1 e.2 rest) fun _ _ h => h⟩

@[simp] theorem lookup_nil {α} (k : String) : lookup k ([] : List (String × α)) = none := rfl

theorem lookup_cons {α} (k k' : String) (v : α) (l : List (String × α)) :
    lookup k ((k', v) :: l) = if k = k' then some v else lookup k l := rfl

theorem lookup_setKey_self {α} (k : String) (v : α) (l : List (String × α)) : lookup k (setKey k v l) = some v := by
  fun_induction setKey k v l <;> simp_all [lookup]

theorem lookup_setKey_ne {α} {k k' : String} (h : k ≠ k') (v : α) (l : List (String × α)) :
    lookup k (setKey k' v l) = lookup k l := by
  fun_induction setKey k' v l <;> simp_all [lookup]

theorem mem_setKey_ne {α} (k : String) (v : α) (kv : String × α) (hne : kv.1 ≠ k) (l : List (String × α)) :
    kv ∈ setKey k v l ↔ kv ∈ l := by
  have h1 : ∀ v', kv ≠ (k, v') := fun v' e => hne (e ▸ rfl)
  fun_induction setKey k v l <;> simp_all

theorem mem_eraseKey {α} (k : String) (kv : String × α) (l : List (String × α)) :
    kv ∈ eraseKey k l ↔ kv ∈ l ∧ kv.1 ≠ k := by
  fun_induction eraseKey k l
  case case1 => simp
  case case2 v rest ih =>
    rw [ih, List.mem_cons]
    exact ⟨fun h => ⟨Or.inr h.1, h.2⟩, fun h => ⟨h.1.resolve_left fun e => h.2 (e ▸ rfl), h.2⟩⟩
  case case3 k' v rest hk ih =>
    rw [List.mem_cons, ih, List.mem_cons]
    exact ⟨fun h => h.elim (fun e => ⟨Or.inl e, e ▸ Ne.symm hk⟩) fun h => ⟨Or.inr h.1, h.2⟩,
      fun h => h.1.imp_right fun h' => ⟨h', h.2⟩⟩

theorem lookup_eraseKey_ne {α} {k k' : String} (h : k ≠ k') (l : List (String × α)) :
    lookup k (eraseKey k' l) = lookup k l := by
  fun_induction eraseKey k' l <;> simp_all [lookup]

theorem lookup_none_of_hasKey_false {α} {k : String} {l : List (String × α)} (h : hasKey k l = false) : lookup k l = none := by
  unfold hasKey at h; cases hl : lookup k l <;> simp_all

theorem lookup_isSome_of_mem {α} {k : String} {v : α} {l : List (String × α)} (h : (k, v) ∈ l) : (lookup k l).isSome = true := by
  fun_induction lookup k l <;> simp_all

theorem validateDynamic_none_iff_DynOk (ty : Nat) (name : String) :
    (∀ (v : V) (bc : List String), validateDynamicV ty name bc v = none ↔ DynOk ty v) ∧
    ∀ (items : Items) (bc : List String), validateDynamicL ty name bc items = none ↔ DynOkL ty items := by
  apply V.induct
  · intro t i bc; simp [validateDynamicV, DynOk]
  · intro fr items ih bc; cases fr <;> simp [validateDynamicV, DynOk, ih]
  · intro bc; simp [validateDynamicL, DynOkL]
  · intro k v rest ihv ihr bc
    simp only [validateDynamicL, DynOkL, ← ihv (bc ++ [name, k]), ← ihr bc]
    cases validateDynamicV ty name (bc ++ [name, k]) v <;> simp

theorem validateDynamicV_none_iff (ty : Nat) (name : String) : ∀ (v : V) (bc : List String),
    validateDynamicV ty name bc v = none ↔ DynOk ty v :=
  (validateDynamic_none_iff_DynOk ty name).1

theorem validateDynamicL_none_iff (ty : Nat) (name : String) : ∀ (items : Items) (bc : List String),
    validateDynamicL ty name bc items = none ↔ DynOkL ty items :=
  (validateDynamic_none_iff_DynOk ty name).2

theorem DynOkL_iff (ty : Nat) (items : Items) : DynOkL ty items ↔ ∀ k v, (k, v) ∈ items → DynOk ty v := by
  induction items with
  | nil => simp [DynOkL]
  | cons hd tl ih =>
    obtain ⟨k, v⟩ := hd
    simp only [DynOkL, ih, List.mem_cons]
    constructor
    · rintro ⟨h1, h2⟩ k' v' (h | h)
      · cases h; exact h1
      · exact h2 k' v' h
    · intro h; exact ⟨h k v (Or.inl rfl), fun k' v' hm => h k' v' (Or.inr hm)⟩

end Ports
