import PlumpyModel.Ports.SpecOut
import PlumpyModel.Ports.Proof2
/-! Helper lemmas for C12: `get_port` with dynamic creation resolves exactly the names of `resolveRef` and keeps the
spec well formed; the validation step of `out` accepts exactly the conforming values; `store` is nested insertion. -/
namespace Ports

theorem hasKey_setKey {α} (k k' : String) (v : α) (l : List (String × α)) :
    hasKey k (setKey k' v l) = (decide (k = k') || hasKey k l) := by
  unfold hasKey
  by_cases h : k = k'
  · simp [h, lookup_setKey_self]
  · simp [h, lookup_setKey_ne h]

theorem wfPorts_setKey (k : String) (p : Port) (hp : wfPort p = true) (l : PortList) (h : wfPorts l = true) :
    wfPorts (setKey k p l) = true := by
  fun_induction setKey k p l
  case case1 => simp [wfPorts, hp, hasKey]
  case case2 => simp_all [wfPorts]
  case case3 k' p' tl hk ih =>
    obtain ⟨h1, h2, h3⟩ := (wfPorts_cons k' p' tl).1 h
    exact (wfPorts_cons ..).2 ⟨by rw [hasKey_setKey, h1]; simpa using Ne.symm hk, h2, ih h3⟩

theorem wfPort_of_lookup (ps : PortList) (k : String) (p : Port) (hwf : wfPorts ps = true) (h : lookup k ps = some p) :
    wfPort p = true := by
  fun_induction lookup k ps <;> simp_all [wfPorts]

theorem wfPorts_of_resolveRef (segs : List String) (a : NsA) (ps : PortList) (b : NsA) (qs : PortList)
    (hwf : wfPorts ps = true) (h : resolveRef a ps segs = some (b, qs)) : wfPorts qs = true := by
  fun_induction resolveRef a ps segs
  case case1 => cases h; exact hwf
  case case3 hl ih => exact ih (wfPort_of_lookup _ _ _ hwf hl) h
  case case5 ih => exact ih rfl h
  all_goals cases h

/-- the second half of `get_port`, for a port `p` found or just created under `seg`, `ports1` well formed; `hrec`: the claim
for the recursive call -/
theorem getPortStep_spec (seg : String) (p : Port) (ports1 : PortList) (rest : List String)
    (rec : NsA → PortList → PortList × Except Err Port) (hw1 : wfPorts ports1 = true) (hwp : wfPort p = true)
    (hrec : rest ≠ [] → ∀ a' sub, wfPorts sub = true → wfPorts (rec a' sub).1 = true ∧
      ∀ b qs, (rec a' sub).2 = .ok (.ns b qs) ↔ resolveRef a' sub rest = some (b, qs)) :
    wfPorts (getPortStep seg p ports1 rest rec).1 = true ∧
    ∀ b qs, (getPortStep seg p ports1 rest rec).2 = .ok (.ns b qs) ↔
      (match p with | .ns a' sub => resolveRef a' sub rest | .leaf _ => none) = some (b, qs) := by
  cases rest with
  | nil => cases p <;> simp [getPortStep, hw1, resolveRef]
  | cons r rs =>
    cases p with
    | leaf l => simp [getPortStep, hw1]
    | ns a' sub =>
      have ih := hrec (by simp) a' sub hwp
      exact ⟨wfPorts_setKey seg (.ns a' _) ih.1 ports1 hw1, ih.2⟩

theorem getPort_spec (segs : List String) (a : NsA) (ps : PortList) (hne : segs ≠ []) (hwf : wfPorts ps = true) :
    wfPorts (getPort a ps segs).1 = true ∧
    ∀ b qs, (getPort a ps segs).2 = .ok (.ns b qs) ↔ resolveRef a ps segs = some (b, qs) := by
  fun_induction getPort a ps segs
  case case1 => exact absurd rfl hne
  case case2 hc => simp [resolveRef, hc, hwf]
  case case3 a ps seg rest hc p hl ih =>
    have := getPortStep_spec seg p ps rest _ hwf (wfPort_of_lookup _ _ p hwf hl) fun hr a' sub hs => ih a' sub hr hs
    cases p <;> simpa [resolveRef, hc, hl] using this
  case case4 a _ _ _ hc hl hd =>
    have hd : a.dynamic = false := by simpa using hd
    simp [resolveRef, hc, hl, hwf, hd]
  case case5 a ps seg rest hc hl hd ih =>
    have hd : a.dynamic = true := by simpa using hd
    have hw : wfPort (.ns a []) = true := rfl
    have := getPortStep_spec seg (.ns a []) _ rest _ (wfPorts_setKey seg _ hw ps hwf) hw
      fun hr a' sub hs => ih a' sub hr hs
    simpa [resolveRef, hc, hl, hd] using this

theorem validateDynamic_error_class_both (ty : Nat) (name : String) :
    (∀ (v : V) (bc : List String) (e : Err), validateDynamicV ty name bc v = some e → ∃ p, e = .validation p) ∧
    ∀ (items : Items) (bc : List String) (e : Err), validateDynamicL ty name bc items = some e → ∃ p, e = .validation p := by
  apply V.induct
  · intro t i bc e h
    simp only [validateDynamicV] at h; split at h <;> cases h; exact ⟨_, rfl⟩
  · intro fr items ih bc e h
    cases fr
    · exact ih bc e h
    · cases h; exact ⟨_, rfl⟩
  · intro bc e h; cases h
  · intro k v rest ihv ihr bc e h
    simp only [validateDynamicL] at h
    split at h
    · cases h; exact ihv _ _ ‹_›
    · exact ihr bc e h

theorem validateDynamicV_error_class (ty : Nat) (name : String) : ∀ (v : V) (bc : List String) (e : Err),
    validateDynamicV ty name bc v = some e → ∃ p, e = .validation p :=
  (validateDynamic_error_class_both ty name).1

theorem validateDynamic_error_class (a : NsA) (name : String) (bc : List String) (rem : Items) (e : Err)
    (h : validateDynamic a name bc rem = some e) : ∃ p, e = .validation p := by
  unfold validateDynamic at h
  split at h
  · cases h; exact ⟨_, rfl⟩
  · split at h
    · cases h
    · exact (validateDynamic_error_class_both _ _).2 _ _ _ h

theorem of_ite_some {c : Prop} [Decidable c] {x e : Err} {y : Option Err} (h : (if c then some x else y) = some e) :
    e = x ∨ y = some e := by
  split at h
  · cases h; exact Or.inl rfl
  · exact Or.inr h

theorem validate_error_class (vd : Nat → V → Bool) :
    (∀ (p : Port) (name : String) (bc : List String) (val : Option V) (e : Err),
      validatePort vd name bc p val = some e → ∃ q, e = .validation q) ∧
    ∀ (ps : PortList) (bc : List String) (vals : Items) (e : Err),
      validatePorts vd bc ps vals = .error e → ∃ q, e = .validation q := by
  apply Port.induct
  · intro a name bc val e h
    cases val with
    | none =>
      rcases of_ite_some (by simpa only [validatePort] using h) with rfl | h
      · exact ⟨_, rfl⟩
      · cases h
    | some v =>
      rcases of_ite_some (by simpa only [validatePort] using h) with rfl | h
      · exact ⟨_, rfl⟩
      · rcases of_ite_some h with rfl | h
        · exact ⟨_, rfl⟩
        · cases h
  · intro a ports ih name bc val e h
    simp only [validatePort] at h
    split at h
    · cases h; exact ⟨_, rfl⟩
    · split at h
      · cases h
      · split at h
        · rename_i e' he'; cases h; exact ih _ _ e he'
        · split at h
          · rename_i e' he'; cases h; exact validateDynamic_error_class _ _ _ _ e he'
          · split at h
            · cases h; exact ⟨_, rfl⟩
            · cases h
  · intro bc vals e h; cases h
  · intro name p rest ihp ihr bc vals e h
    simp only [validatePorts] at h
    split at h
    · rename_i e' he'; cases h; exact ihp _ _ _ e he'
    · exact ihr _ _ _ h

theorem validatePort_error_class (vd : Nat → V → Bool) : ∀ (p : Port) (name : String) (bc : List String) (val : Option V)
    (e : Err), validatePort vd name bc p val = some e → ∃ q, e = .validation q :=
  (validate_error_class vd).1

theorem validatePorts_error_class (vd : Nat → V → Bool) : ∀ (ps : PortList) (bc : List String) (vals : Items) (e : Err),
    validatePorts vd bc ps vals = .error e → ∃ q, e = .validation q :=
  (validate_error_class vd).2

/-- what the spec says about the last name of the path inside the resolved namespace `(b, qs)` -/
def LastOk (vd : Nat → V → Bool) (b : NsA) (qs : PortList) (name : String) (v : V) : Prop :=
  match lookup name qs with
  | some p => ConformsPort vd p (some v)
  | none => b.dynamic = true ∧ ∀ ty, b.validType = some ty → DynOk ty v

theorem outValidate_none_iff (vd : Nat → V → Bool) (nsName : String) (b : NsA) (qs : PortList) (hwf : wfPorts qs = true)
    (name : String) (v : V) : (outValidate vd nsName b qs name v).2 = none ↔ LastOk vd b qs name v := by
  unfold outValidate LastOk
  cases hl : lookup name qs with
  | some p => simp only; exact validatePort_none_iff vd p (wfPort_of_lookup qs name p hwf hl) name [] (some v)
  | none =>
    simp only [validateDynamic_none_iff, List.mem_singleton, Prod.mk.injEq]
    constructor
    · intro h; exact h name v ⟨rfl, rfl⟩
    · rintro h k v' ⟨rfl, rfl⟩; exact h

theorem outValidate_dyn (vd : Nat → V → Bool) (nsName : String) (b : NsA) (qs : PortList) (name : String) (v : V) :
    (outValidate vd nsName b qs name v).1 = (lookup name qs).isNone := by
  unfold outValidate; cases lookup name qs <;> rfl

/-! At a segment `s` the storage loop goes on in the plain dict it finds there, or in a new empty one where there is nothing; any
other value stops it (`below`).  `store`, `Storable` and `getPath` see one step of the path through `below`. -/

theorem getPath_none : ∀ (q : List String), getPath none q = none
  | [] => rfl
  | _ :: _ => rfl

theorem getPath_empty (f : Bool) : ∀ (q : List String), q ≠ [] → getPath (some (.dict f [])) q = none
  | [], h => absurd rfl h
  | k :: r, _ => by simp [getPath, getPath_none]

def below (s : String) (outputs : Items) : Option Items :=
  match lookup s outputs with
  | none => some []
  | some (.dict false sub) => some sub
  | some _ => none

theorem store_cons (outputs : Items) (s : String) (rest : List String) (name : String) (v : V) :
    store outputs (s :: rest) name v =
      match below s outputs with
      | some sub =>
          (match store sub rest name v with
           | .ok sub' => .ok (setKey s (.dict false sub') outputs)
           | .error e => .error e)
      | none => .error (if rest = [] then .typeError else .attributeError) := by
  simp only [store, below]
  cases lookup s outputs with
  | none => rfl
  | some w =>
    cases w with
    | atom => cases rest <;> rfl
    | dict f sub => cases f <;> cases rest <;> rfl

theorem Storable_cons (outputs : Items) (s : String) (rest : List String) :
    Storable outputs (s :: rest) ↔ ∃ sub, below s outputs = some sub ∧ Storable sub rest := by
  have h0 : Storable [] rest := by cases rest <;> simp [Storable]
  rw [Storable, below]
  cases lookup s outputs with
  | none => simpa using h0
  | some w =>
    cases w with
    | atom => simp
    | dict f sub => cases f <;> simp

theorem getPath_below {s : String} {outputs sub : Items} (h : below s outputs = some sub) (q : List String) (hq : q ≠ []) :
    getPath (lookup s outputs) q = getPath (some (.dict false sub)) q := by
  unfold below at h
  split at h
  · cases h; rename_i hl; rw [hl, getPath_none, getPath_empty _ _ hq]
  · cases h; rename_i hl; rw [hl]
  · cases h

theorem below_eq_none {s : String} {outputs : Items} :
    below s outputs = none ↔ ∃ w, lookup s outputs = some w ∧ w.isDict = false := by
  unfold below
  cases lookup s outputs with
  | none => exact ⟨nofun, fun ⟨_, h, _⟩ => nomatch h⟩
  | some w =>
    cases w with
    | atom => exact ⟨fun _ => ⟨_, rfl, rfl⟩, fun _ => rfl⟩
    | dict f sub =>
      cases f
      · exact ⟨nofun, fun ⟨w, h, hd⟩ => by cases h; cases hd⟩
      · exact ⟨fun _ => ⟨_, rfl, rfl⟩, fun _ => rfl⟩

theorem store_ok_iff (name : String) (v : V) (segs : List String) (outputs : Items) :
    (∃ o, store outputs segs name v = .ok o) ↔ Storable outputs segs := by
  induction segs generalizing outputs with
  | nil => simp [store, Storable]
  | cons s rest ih =>
    rw [store_cons, Storable_cons]
    cases below s outputs with
    | none => simp
    | some sub =>
      simp only [Option.some.injEq, exists_eq_left', ← ih]
      cases store sub rest name v <;> simp

theorem store_cons_ok {outputs o : Items} {s : String} {rest : List String} {name : String} {v : V}
    (h : store outputs (s :: rest) name v = .ok o) :
    ∃ sub sub', below s outputs = some sub ∧ store sub rest name v = .ok sub' ∧ o = setKey s (.dict false sub') outputs := by
  rw [store_cons] at h
  cases hb : below s outputs with
  | none => simp only [hb] at h; cases h
  | some sub =>
    simp only [hb] at h
    cases hs : store sub rest name v with
    | error e => simp only [hs] at h; cases h
    | ok sub' => simp only [hs] at h; cases h; exact ⟨sub, sub', rfl, hs, rfl⟩

theorem store_getPath_self (name : String) (v : V) (segs : List String) (outputs o : Items) (f : Bool)
    (h : store outputs segs name v = .ok o) : getPath (some (.dict f o)) (segs ++ [name]) = some v := by
  induction segs generalizing outputs o f with
  | nil => cases h; simp [getPath, lookup_setKey_self]
  | cons s rest ih =>
    obtain ⟨sub, sub', _, hs, rfl⟩ := store_cons_ok h
    simp only [List.cons_append, getPath, lookup_setKey_self]
    exact ih sub sub' false hs

theorem store_getPath_other (name : String) (v : V) (segs : List String) (outputs o : Items) (f : Bool) (q : List String)
    (h : store outputs segs name v = .ok o) (h1 : ¬ q <+: segs ++ [name]) (h2 : ¬ (segs ++ [name]) <+: q) :
    getPath (some (.dict f o)) q = getPath (some (.dict f outputs)) q := by
  induction segs generalizing outputs o f q with
  | nil =>
    cases h
    match q with
    | [] => exact absurd List.nil_prefix h1
    | k :: q' =>
      have hk : k ≠ name := fun e => h2 (by simp [e])
      simp only [getPath, lookup_setKey_ne hk]
  | cons s rest ih =>
    obtain ⟨sub, sub', hb, hs, rfl⟩ := store_cons_ok h
    match q with
    | [] => exact absurd List.nil_prefix h1
    | k :: q' =>
      simp only [getPath]
      by_cases hk : k = s
      · subst hk
        have h1' : ¬ q' <+: rest ++ [name] := fun e => h1 (by simpa using e)
        have h2' : ¬ (rest ++ [name]) <+: q' := fun e => h2 (by simpa using e)
        rw [lookup_setKey_self, getPath_below hb q' (fun e => h1' (by simp [e]))]
        exact ih sub sub' false q' hs h1' h2'
      · rw [lookup_setKey_ne hk]

/-- why `store` fails, exactly: walking the namespace part of the path it meets, at a non-empty prefix `q`, a value `w` that
is not a plain dict (an atom or an immutable mapping); `TypeError` when `w` sits exactly where the entry is to be assigned
(`w[name] = value`), `AttributeError` when path segments remain below it (`w.setdefault(...)`) -/
theorem store_error_exact (name : String) (v : V) : ∀ (segs : List String) (outputs : Items) (e : Err),
    store outputs segs name v = .error e →
    ∃ q w rest, segs = q ++ rest ∧ q ≠ [] ∧ getPath (some (.dict false outputs)) q = some w ∧ w.isDict = false ∧
      e = (if rest = [] then .typeError else .attributeError) := by
  intro segs
  induction segs with
  | nil => intro _ _ h; cases h
  | cons s rest ih =>
    intro outputs e h
    rw [store_cons] at h
    cases hb : below s outputs with
    | none =>
      simp only [hb, Except.error.injEq] at h
      obtain ⟨w, hw, hd⟩ := below_eq_none.mp hb
      exact ⟨[s], w, rest, rfl, by simp, by simp [getPath, hw], hd, h.symm⟩
    | some sub =>
      simp only [hb] at h
      cases hs : store sub rest name v with
      | ok sub' => simp only [hs] at h; cases h
      | error e' =>
        simp only [hs, Except.error.injEq] at h; subst h
        obtain ⟨q, w, r, h1, hq, h3, h4, h5⟩ := ih sub e' hs
        exact ⟨s :: q, w, r, by rw [h1]; rfl, by simp, by rw [getPath, getPath_below hb q hq]; exact h3, h4, h5⟩

theorem store_error_class (name : String) (v : V) (segs : List String) (outputs : Items) (e : Err)
    (h : store outputs segs name v = .error e) : e = .typeError ∨ e = .attributeError := by
  obtain ⟨_, _, rest, _, _, _, _, rfl⟩ := store_error_exact name v segs outputs e h
  cases rest <;> simp

theorem store_blocked (name : String) (v : V) : ∀ (segs : List String) (outputs : Items) (q : List String) (w : V),
    q <+: segs → getPath (some (.dict false outputs)) q = some w → w.isDict = false → ∃ e, store outputs segs name v = .error e := by
  intro segs
  induction segs with
  | nil =>
    intro outputs q w hp hg hw
    cases List.prefix_nil.mp hp; cases hg; cases hw
  | cons s rest ih =>
    intro outputs q w hp hg hw
    match q with
    | [] => cases hg; cases hw
    | k :: q' =>
      obtain ⟨rfl, hp'⟩ : k = s ∧ q' <+: rest := by simpa using hp
      rw [store_cons]
      cases hb : below k outputs with
      | none => exact ⟨_, rfl⟩
      | some sub =>
        rw [getPath] at hg
        match q' with
        | [] => rw [below_eq_none.mpr ⟨w, hg, hw⟩] at hb; cases hb
        | k' :: q'' =>
          rw [getPath_below hb _ (by simp)] at hg
          obtain ⟨e, he⟩ := ih sub (k' :: q'') w hp' hg hw
          exact ⟨e, by simp only [he]⟩

theorem resolveNs_spec (st : OutSt) (hwf : wfPorts st.ports = true) (segs : List String) :
    wfPorts (resolveNs st segs).1 = true ∧
    ∀ b qs, (resolveNs st segs).2 = .ok (.ns b qs) ↔ resolveRef st.top st.ports segs = some (b, qs) := by
  cases segs with
  | nil => simp [resolveNs, resolveRef, hwf, eq_comm]
  | cons s rest => simpa [resolveNs] using getPort_spec (s :: rest) st.top st.ports (by simp) hwf

theorem out_master (vd : Nat → V → Bool) (st : OutSt) (hwf : wfPorts st.ports = true) (path : List String) (v : V) :
    wfPorts (out vd st path v).1.ports = true ∧ (out vd st path v).1.top = st.top ∧
    (∀ d, (out vd st path v).2 = .ok d →
        ∃ b qs, resolveRef st.top st.ports path.dropLast = some (b, qs) ∧ LastOk vd b qs (path.getLastD "") v ∧
          d = (lookup (path.getLastD "") qs).isNone ∧
          store st.outputs path.dropLast (path.getLastD "") v = .ok (out vd st path v).1.outputs ∧
          (out vd st path v).1.emitted = (path, v, d) :: st.emitted) ∧
    (∀ e, (out vd st path v).2 = .error e →
        (out vd st path v).1.outputs = st.outputs ∧ (out vd st path v).1.emitted = st.emitted ∧
          ∀ b qs, resolveRef st.top st.ports path.dropLast = some (b, qs) →
            (¬ LastOk vd b qs (path.getLastD "") v ∧ ∃ p, e = .validation p) ∨
            (LastOk vd b qs (path.getLastD "") v ∧ ¬ Storable st.outputs path.dropLast ∧ (e = .typeError ∨ e = .attributeError) ∧
              store st.outputs path.dropLast (path.getLastD "") v = .error e)) := by
  obtain ⟨hw1, hres⟩ := resolveNs_spec st hwf path.dropLast
  unfold out
  simp only
  cases hr : (resolveNs st path.dropLast).2 with
  | error e =>
    refine ⟨hw1, rfl, nofun, fun _ _ => ⟨rfl, rfl, ?_⟩⟩
    intro b qs hq; have := (hres b qs).2 hq; rw [hr] at this; cases this
  | ok p =>
    cases p with
    | leaf l =>
      refine ⟨hw1, rfl, nofun, fun _ _ => ⟨rfl, rfl, ?_⟩⟩
      intro b qs hq; have := (hres b qs).2 hq; rw [hr] at this; cases this
    | ns a sub =>
      have hq : resolveRef st.top st.ports path.dropLast = some (a, sub) := (hres a sub).1 hr
      have hwsub := wfPorts_of_resolveRef _ _ _ _ _ hwf hq
      have hval := outValidate_none_iff vd (path.dropLast.getLastD "outputs") a sub hwsub (path.getLastD "") v
      have hdyn := outValidate_dyn vd (path.dropLast.getLastD "outputs") a sub (path.getLastD "") v
      simp only
      cases hv : (outValidate vd (path.dropLast.getLastD "outputs") a sub (path.getLastD "") v).2 with
      | some e =>
        refine ⟨hw1, rfl, nofun, fun _ he => ⟨rfl, rfl, ?_⟩⟩
        cases he
        intro b qs hq'; rw [hq] at hq'; cases hq'
        left
        refine ⟨fun h => ?_, ?_⟩
        · have := hval.2 h; rw [hv] at this; cases this
        · -- every error of the validation step is a validation error
          unfold outValidate at hv
          cases hl : lookup (path.getLastD "") sub with
          | some p' =>
            rw [hl] at hv; simp only at hv
            exact validatePort_error_class vd p' _ _ _ e hv
          | none =>
            rw [hl] at hv; simp only at hv
            exact validateDynamic_error_class a _ _ _ e hv
      | none =>
        have hlast : LastOk vd a sub (path.getLastD "") v := hval.1 hv
        cases hs : store st.outputs path.dropLast (path.getLastD "") v with
        | error e =>
          refine ⟨hw1, rfl, nofun, fun _ he => ⟨rfl, rfl, ?_⟩⟩
          cases he
          intro b qs hq'; rw [hq] at hq'; cases hq'
          right
          refine ⟨hlast, fun hst => ?_, store_error_class _ _ _ _ _ hs, rfl⟩
          obtain ⟨o, ho⟩ := (store_ok_iff (path.getLastD "") v path.dropLast st.outputs).2 hst
          rw [hs] at ho; cases ho
        | ok o =>
          exact ⟨hw1, rfl, fun _ hd => by cases hd; exact ⟨a, sub, hq, hlast, hdyn, rfl, rfl⟩, nofun⟩

theorem dropLast_append_getLastD : ∀ (l : List String), l ≠ [] → l.dropLast ++ [l.getLastD ""] = l
  | [], h => absurd rfl h
  | [a], _ => rfl
  | a :: b :: t, _ => by
      have := dropLast_append_getLastD (b :: t) (by simp)
      simp only [List.dropLast_cons_cons, List.cons_append, List.getLastD_cons] at this ⊢
      rw [this]

theorem replay_append (o : Items) : ∀ (l l' : List (List String × V × Bool)), replay o (l ++ l') = replay (replay o l) l'
  | [], l' => rfl
  | (path, v, d) :: l, l' => by
      simp only [List.cons_append, replay]
      cases store o path.dropLast (path.getLastD "") v <;> exact replay_append _ l l'

theorem outs_master (vd : Nat → V → Bool) (ems : List (List String × V)) (st : OutSt) (hwf : wfPorts st.ports = true) :
    wfPorts (outs vd st ems).1.ports = true ∧ (outs vd st ems).1.top = st.top ∧
    (outs vd st ems).1.emitted.reverse = st.emitted.reverse ++ accepted ems (outs vd st ems).2 ∧
    (st.outputs = replay [] st.emitted.reverse →
      (outs vd st ems).1.outputs = replay [] (outs vd st ems).1.emitted.reverse) := by
  induction ems generalizing st with
  | nil => exact ⟨hwf, rfl, (List.append_nil _).symm, id⟩
  | cons e rest ih =>
    obtain ⟨path, v⟩ := e
    obtain ⟨hw1, ht1, hok, herr⟩ := out_master vd st hwf path v
    obtain ⟨ihw, iht, ihe, iho⟩ := ih (out vd st path v).1 hw1
    simp only [outs]
    -- a call that returned has told the listeners and stored the value; one that raised has done neither
    cases hr : (out vd st path v).2 with
    | ok d =>
      obtain ⟨_, _, _, _, _, h4, h5⟩ := hok d hr
      refine ⟨ihw, iht.trans ht1, ?_, fun hinv => iho ?_⟩
      · rw [ihe, h5, List.reverse_cons, List.append_assoc]; rfl
      · rw [h5, List.reverse_cons, replay_append, ← hinv]
        simp only [replay, h4]
    | error e =>
      obtain ⟨h1, h2, _⟩ := herr e hr
      refine ⟨ihw, iht.trans ht1, ?_, fun hinv => iho ?_⟩
      · rw [ihe, h2]; rfl
      · rw [h1, h2]; exact hinv

/-- `toFinished` in closed form: it always ends FINISHED (the second `on_finish`, entered with `successful = False`,
validates nothing), successful when the step was and the outputs validate -/
theorem toFinished_eq (vd : Nat → V → Bool) (st : OutSt) (result : Nat) (ok : Bool) :
    toFinished vd st result ok =
      { label := .finished, result,
        successful := ok && (validatePort vd "outputs" [] (.ns st.top st.ports) (some (.dict false st.outputs))).isNone,
        future := some st.outputs, listener := some st.outputs } := by
  unfold toFinished onFinish
  cases ok with
  | false => rfl
  | true => cases validatePort vd "outputs" [] (.ns st.top st.ports) (some (.dict false st.outputs)) <;> rfl

end Ports
