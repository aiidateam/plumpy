import PlumpyModel.Ports.Proof2
/-! `pre_process` completes the supplied mapping with exactly the declared defaults; the declared namespace levels of
the result are read-only. -/
namespace Ports

/-- what `DefaultsPort` asks of the result for a namespace, by the case `nsStart` finds -/
def NsResult (ports : PortList) (res : Option V) : Start → Prop
  | .skip => res = none
  | .bad => False
  | .go items => ∃ items', res = some (.dict true items') ∧ DefaultsPorts ports items items' ∧ Undeclared ports items items'

theorem DefaultsPort_ns (a : NsA) (ports : PortList) (sup res : Option V) :
    DefaultsPort (.ns a ports) sup res ↔ NsResult ports res (nsStart a (!ports.isEmpty) sup) := by
  cases sup with
  | some v => cases v <;> simp only [DefaultsPort, nsStart, NsResult]
  | none =>
    cases hp : a.populate with
    | false => simp only [DefaultsPort, nsStart, NsResult, hp, Bool.not_false, ↓reduceIte]
    | true =>
      cases hd : a.default with
      | none => cases ports <;> simp [DefaultsPort, nsStart, NsResult, hp, hd]
      | some d => cases d <;> simp only [DefaultsPort, nsStart, NsResult, hp, hd, Bool.true_eq_false, Bool.not_true,
          Bool.false_eq_true, ↓reduceIte]

theorem nsStart_skip {a : NsA} {hp : Bool} {sup : Option V} (h : nsStart a hp sup = .skip) : sup = none := by
  unfold nsStart at h; split at h <;> first | rfl | cases h

theorem DefaultsPorts_congr (rest : PortList) (vals vals' out : Items)
    (h : ∀ k, hasKey k rest = true → lookup k vals' = lookup k vals) :
    DefaultsPorts rest vals' out ↔ DefaultsPorts rest vals out := by
  induction rest with
  | nil => simp [DefaultsPorts]
  | cons e rest ih =>
    simp only [DefaultsPorts]
    rw [h e.1 (by simp [hasKey_cons e.1 e.1 e.2 rest]),
      ih fun k' hk' => h k' (by simp [hasKey_cons k' e.1 e.2 rest, hk'])]

/-- `vals'` is `vals` except possibly at the key `name` -/
def AgreeOff (name : String) (vals' vals : Items) : Prop :=
  (∀ k, k ≠ name → lookup k vals' = lookup k vals) ∧ ∀ kv : String × V, kv.1 ≠ name → (kv ∈ vals' ↔ kv ∈ vals)

theorem AgreeOff.rfl {name : String} {vals : Items} : AgreeOff name vals vals := ⟨fun _ _ => Eq.refl _, fun _ _ => Iff.rfl⟩

theorem AgreeOff.setKey (name : String) (v : V) (vals : Items) : AgreeOff name (setKey name v vals) vals :=
  ⟨fun _ hk => lookup_setKey_ne hk _ _, fun kv hk => mem_setKey_ne _ _ kv hk _⟩

/-- what `pre_process` returns: when it returns, the result is a completion that agrees with the supplied mapping wherever
nothing is declared; when it raises, it raises `TypeError` and there is no completion -/
theorem preProcess_char :
    (∀ (p : Port), wfPort p = true → ∀ (name : String) (vals : Items),
      match preProcessPort name p vals with
      | .ok vals' => AgreeOff name vals' vals ∧ DefaultsPort p (lookup name vals) (lookup name vals')
      | .error e => e = .typeError ∧ ∀ r, ¬ DefaultsPort p (lookup name vals) r) ∧
    ∀ (ps : PortList), wfPorts ps = true → ∀ (vals : Items),
      match preProcess ps vals with
      | .ok out => DefaultsPorts ps vals out ∧ Undeclared ps vals out
      | .error e => e = .typeError ∧ ∀ out, ¬ DefaultsPorts ps vals out := by
  apply Port.induct
  · intro a _ name vals
    simp only [preProcessPort]
    cases hl : lookup name vals with
    | some v => exact ⟨.rfl, by simp [DefaultsPort, hl]⟩
    | none =>
      cases hd : a.default with
      | some d => exact ⟨.setKey .., by simp [DefaultsPort, lookup_setKey_self, hd]⟩
      | none => exact ⟨.rfl, by simp [DefaultsPort, hl, hd]⟩
  · intro a ports ih hwf name vals
    simp only [preProcessPort, DefaultsPort_ns]
    cases hs : nsStart a (!ports.isEmpty) (lookup name vals) with
    | skip => exact ⟨.rfl, nsStart_skip hs⟩
    | bad => exact ⟨rfl, fun _ h => h⟩
    | go items =>
      have := ih hwf items
      dsimp only
      cases hp : preProcess ports items with
      | error e => rw [hp] at this; exact ⟨this.1, fun r ⟨items', _, hd, _⟩ => this.2 items' hd⟩
      | ok items' => rw [hp] at this; exact ⟨.setKey .., items', lookup_setKey_self .., this⟩
  · intro _ vals
    simp [preProcess, DefaultsPorts, Undeclared]
  · intro name p rest ihp ihr hwf vals
    obtain ⟨h1, h2, h3⟩ := (wfPorts_cons name p rest).1 hwf
    have hP := ihp h2 name vals
    simp only [preProcess]
    cases hp : preProcessPort name p vals with
    | error e => rw [hp] at hP; exact ⟨hP.1, fun out h => hP.2 _ h.1⟩
    | ok vals' =>
      rw [hp] at hP
      dsimp only
      obtain ⟨⟨hA1, hA1'⟩, hA2⟩ := hP
      have hne : ∀ k, hasKey k rest = true → k ≠ name := by
        intro k hk e; subst e; rw [h1] at hk; cases hk
      -- the ports still to come read the same supplied values before and after this assignment
      have hcongr := fun out => DefaultsPorts_congr rest vals vals' out (fun k hk => hA1 k (hne k hk))
      have hR := ihr h3 vals'
      cases hr : preProcess rest vals' with
      | error e => rw [hr] at hR; exact ⟨hR.1, fun out h => hR.2 out ((hcongr out).2 h.2)⟩
      | ok out =>
        rw [hr] at hR
        obtain ⟨hB1, hB2, hB3⟩ := hR
        have hsplit : ∀ k, lookup k ((name, p) :: rest) = none → k ≠ name ∧ lookup k rest = none := by
          intro k hk
          simp only [lookup_cons] at hk
          by_cases hkn : k = name
          · simp [hkn] at hk
          · simp only [hkn, if_false] at hk; exact ⟨hkn, hk⟩
        refine ⟨?_, ?_, ?_⟩
        · simp only [DefaultsPorts]
          refine ⟨?_, (hcongr out).1 hB1⟩
          rw [hB2 name (lookup_none_of_hasKey_false h1)]; exact hA2
        · intro k hk
          obtain ⟨hkn, hkr⟩ := hsplit k hk
          rw [hB2 k hkr, hA1 k hkn]
        · intro kv hk
          obtain ⟨hkn, hkr⟩ := hsplit kv.1 hk
          rw [hB3 kv hkr, hA1' kv hkn]

theorem preProcess_spec : ∀ (ps : PortList), wfPorts ps = true → ∀ (vals out : Items),
    preProcess ps vals = .ok out → DefaultsPorts ps vals out ∧ Undeclared ps vals out := by
  intro ps hwf vals out h
  have := preProcess_char.2 ps hwf vals; rwa [h] at this

theorem DefaultsPorts_lookup (ps : PortList) (vals out : Items) (k : String) (p : Port)
    (hd : DefaultsPorts ps vals out) (h : lookup k ps = some p) : DefaultsPort p (lookup k vals) (lookup k out) := by
  induction ps with
  | nil => cases h
  | cons e rest ih =>
    simp only [DefaultsPorts] at hd
    rw [lookup_cons] at h
    split at h
    · cases h; subst k; exact hd.1
    · exact ih hd.2 h

theorem Frozen_of_Defaults :
    (∀ (p : Port) (sup res : Option V), DefaultsPort p sup res → FrozenPort p res) ∧
    ∀ (ps : PortList) (vals out : Items), DefaultsPorts ps vals out → FrozenPorts ps out := by
  apply Port.induct
  · intro a sup res _; simp [FrozenPort]
  · intro a ports ih sup res h
    rw [DefaultsPort_ns] at h
    cases hs : nsStart a (!ports.isEmpty) sup with
    | skip => rw [hs] at h; cases h; simp [FrozenPort]
    | bad => rw [hs] at h; cases h
    | go items =>
      rw [hs] at h
      obtain ⟨items', rfl, hd, _⟩ := h
      exact ⟨rfl, ih items items' hd⟩
  · intro _ _ _; trivial
  · intro name p rest ihp ihr vals out h
    exact ⟨ihp _ _ h.1, ihr vals out h.2⟩

theorem FrozenPort_of_DefaultsPort : ∀ (p : Port) (sup res : Option V), DefaultsPort p sup res → FrozenPort p res :=
  Frozen_of_Defaults.1

theorem FrozenPorts_of_DefaultsPorts : ∀ (ps : PortList) (vals out : Items), DefaultsPorts ps vals out → FrozenPorts ps out :=
  Frozen_of_Defaults.2

end Ports
