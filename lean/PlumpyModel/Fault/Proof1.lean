import PlumpyModel.Fault.Process
import PlumpyModel.PM.Proof6
/-!
# Fault twins — frame facts, the invariant `K`, the hook wrapper

`K a0 x`: what holds of every configuration of a run whose injected fault is `a0` (any hook, before / after, except the two points
after `close()`):
* the lifecycle part of C02's invariant without the count of terminal notifications (`Inv2w`: live ⇒ future unresolved, not
  closed, no cleanup run; terminated ⇒ closed, cleanups ran once, the future holds the outcome of the state object);
* if the fault is a lifecycle hook of a transition (`mainHK`) and has fired, the state is EXCEPTED with exactly the fault;
* no transition is in progress; the armed fault is still `a0`'s hook and variant, and nothing is armed once it has fired.
The alternative `Bad` (the state machine's own "cannot transition" error met the fault inside the failing transition) is
absorbing, and excluded in some statements by a hypothesis on the final state; it is in fact unreachable (`Fault/Proof17.lean`).
-/
namespace PMF
namespace FP
open L

@[simp] theorem updC_l (x : FCfg) (f : Cfg → Cfg) : (x.updC f).l = x.l.upd f := rfl
@[simp] theorem updC_arm (x : FCfg) (f : Cfg → Cfg) : (x.updC f).arm = x.arm := rfl
@[simp] theorem updC_fired (x : FCfg) (f : Cfg → Cfg) : (x.updC f).fired = x.fired := rfl
@[simp] theorem updC_called (x : FCfg) (f : Cfg → Cfg) : (x.updC f).called = x.called := rfl
@[simp] theorem updC_rep (x : FCfg) (f : Cfg → Cfg) : (x.updC f).rep = x.rep := rfl
@[simp] theorem updL_l (x : FCfg) (f : LCfg → LCfg) : (x.updL f).l = f x.l := rfl
@[simp] theorem updL_arm (x : FCfg) (f : LCfg → LCfg) : (x.updL f).arm = x.arm := rfl
@[simp] theorem updL_fired (x : FCfg) (f : LCfg → LCfg) : (x.updL f).fired = x.fired := rfl
@[simp] theorem updL_called (x : FCfg) (f : LCfg → LCfg) : (x.updL f).called = x.called := rfl
@[simp] theorem updL_rep (x : FCfg) (f : LCfg → LCfg) : (x.updL f).rep = x.rep := rfl
@[simp] theorem setC_c (x : FCfg) (c : Cfg) : (x.setC c).l.c = c := rfl
@[simp] theorem setC_trans (x : FCfg) (c : Cfg) : (x.setC c).l.trans = x.l.trans := rfl
@[simp] theorem setC_plan (x : FCfg) (c : Cfg) : (x.setC c).l.plan = x.l.plan := rfl
@[simp] theorem setC_executing (x : FCfg) (c : Cfg) : (x.setC c).l.executing = x.l.executing := rfl
@[simp] theorem setC_arm (x : FCfg) (c : Cfg) : (x.setC c).arm = x.arm := rfl
@[simp] theorem setC_fired (x : FCfg) (c : Cfg) : (x.setC c).fired = x.fired := rfl
@[simp] theorem setC_called (x : FCfg) (c : Cfg) : (x.setC c).called = x.called := rfl
@[simp] theorem setC_rep (x : FCfg) (c : Cfg) : (x.setC c).rep = x.rep := rfl

@[simp] theorem bind_ok (y : FCfg) (f : FCfg → Res) : bind (y, none) f = f y := rfl
@[simp] theorem bind_err (y : FCfg) (e : Exc) (f : FCfg → Res) : bind (y, some e) f = (y, some e) := rfl
theorem bind_of_none {r : Res} (k : FCfg → Res) (h : r.2 = none) : bind r k = k r.1 := by
  obtain ⟨y, e⟩ := r; cases h; rfl
theorem bind_of_some {r : Res} (k : FCfg → Res) {e : Exc} (h : r.2 = some e) : bind r k = r := by
  obtain ⟨y, e'⟩ := r; cases h; rfl

theorem transitionToF_busy (N : Hook → FCfg → FCfg) (x : FCfg) (s : SObj) (htr : x.l.trans.isSome = true) :
    transitionToF N x s = (x, some .assertion) := by
  unfold transitionToF; rw [if_pos htr]

theorem forceExceptedF_open (N : Hook → FCfg → FCfg) (x : FCfg) (e : Exc) (hc : x.l.c.closed = false) :
    forceExceptedF N x e =
      enterNextF N (N .entering ((lateExitF (x.updL fun l => { l with trans := some .excepted })).updC fun c => setFutExc c e))
        (.excepted e) := by
  unfold forceExceptedF; rw [if_neg (by rw [hc]; decide)]; rfl

/-- the lifecycle part of `Inv2` without the count of terminal notifications (a fault that fires after the listeners were told
about the state entered makes them hear about two terminal states) -/
structure Inv2w (c : Cfg) : Prop where
  live : terminal c.st.label = false → (c.fut = .pending ∨ c.fut = .cancelled) ∧ c.closed = false ∧ c.cleanups = 0
  term : terminal c.st.label = true → c.closed = true ∧ c.cleanups = 1 ∧ outcomeOf c.st = some c.fut

theorem Inv2w.same2 {c c' : Cfg} (h : Inv2w c) (s : Same2 c c') : Inv2w c' := by
  obtain ⟨s1, s2, s3, s4, s5, _⟩ := s
  constructor
  · intro hl; rw [s1] at hl; rw [s3, s4, s5]; exact h.live hl
  · intro ht; rw [s1] at ht; rw [s2, s3, s4, s5]; exact h.term ht

theorem Inv2w.of_inv2 {c : Cfg} (h : Inv2 c) : Inv2w c :=
  ⟨fun hl => ⟨(h.live hl).1, (h.live hl).2.1, (h.live hl).2.2.1⟩, fun ht => ⟨(h.term ht).1, (h.term ht).2.1, (h.term ht).2.2.2⟩⟩

def LiveW (c : Cfg) : Prop := (c.fut = .pending ∨ c.fut = .cancelled) ∧ c.closed = false ∧ c.cleanups = 0

theorem LiveW.same2 {c c' : Cfg} (h : LiveW c) (s : Same2 c c') : LiveW c' := by
  obtain ⟨_, _, s3, s4, s5, _⟩ := s
  unfold LiveW; rw [s3, s4, s5]; exact h

/-- the hooks of a transition (a fault there must end the process EXCEPTED); the others are the pause / play hooks -/
def mainHK : HK → Bool
  | .onPausing => false | .onPaused => false | .onPlaying => false | _ => true

/-- the two fault points that lie after the process has been closed (finding F18) -/
def afterClose (a : Arm) : Bool := a.after && (a.hk == .onTerminated || a.hk == .onClose)

def ArmOk (a0 : Arm) (x : FCfg) : Prop :=
  (∀ b, x.arm = some b → b.hk = a0.hk ∧ b.after = a0.after) ∧ (x.fired = true → x.arm = none)

/-- an error of the state machine itself -/
def Internal (e : Exc) : Prop := e = .assertion ∨ e = .invalidState ∨ ∃ a b, e = .noTransition a b

/-- an error of the state machine itself ("cannot transition", a failed assertion) met the fault inside the failing transition: only
`on_terminated` / `on_close` run there -/
def Bad (a0 : Arm) (x : FCfg) : Prop :=
  (a0.hk = .onTerminated ∨ a0.hk = .onClose) ∧ x.fired = true ∧ ∃ e, Internal e ∧ x.l.c.st = .excepted e

theorem Bad.main {a0 : Arm} {x : FCfg} (h : Bad a0 x) : mainHK a0.hk = true := by
  rcases h.1 with h | h <;> rw [h] <;> rfl

theorem Bad.terminal {a0 : Arm} {x : FCfg} (h : Bad a0 x) : terminal x.l.c.st.label = true := by
  obtain ⟨_, _, e, _, hs⟩ := h
  rw [hs]; rfl

def Kg (a0 : Arm) (x : FCfg) : Prop :=
  Inv2w x.l.c ∧ (mainHK a0.hk = true → x.fired = true → x.l.c.st = .excepted faultExc)

structure K (a0 : Arm) (x : FCfg) : Prop where
  arm : ArmOk a0 x
  tr : x.l.trans = none
  g : Bad a0 x ∨ Kg a0 x

structure Fr (x y : FCfg) : Prop where
  s2 : Same2 x.l.c y.l.c
  st : y.l.c.st = x.l.c.st ∨ terminal x.l.c.st.label = false      -- (a live state object may be re-armed / delivered to)
  fired : y.fired = x.fired
  arm : y.arm = x.arm
  trans : y.l.trans = x.l.trans

theorem Fr.rfl' (x : FCfg) : Fr x x := ⟨Same2.rfl' _, Or.inl rfl, rfl, rfl, rfl⟩
theorem Fr.trans' {x y z : FCfg} (h1 : Fr x y) (h2 : Fr y z) : Fr x z := by
  refine ⟨Same2.trans h1.s2 h2.s2, ?_, h2.fired.trans h1.fired, h2.arm.trans h1.arm, h2.trans.trans h1.trans⟩
  rcases h1.st with e1 | l1
  · exact h2.st.imp (·.trans e1) (e1 ▸ ·)
  · exact Or.inr l1

theorem ArmOk.of_none {a0 : Arm} {y : FCfg} (h : y.arm = none) : ArmOk a0 y :=
  ⟨fun b hb => (by rw [h] at hb; cases hb), fun _ => h⟩

theorem ArmOk.of_eq {a0 : Arm} {x y : FCfg} (h : ArmOk a0 x) (ha : y.arm = x.arm) (hf : y.fired = x.fired) : ArmOk a0 y := by
  unfold ArmOk; rw [ha, hf]; exact h

theorem Fr.excepted {x y : FCfg} (f : Fr x y) {e : Exc} (hs : x.l.c.st = .excepted e) : y.l.c.st = .excepted e := by
  rcases f.st with h1 | h1
  · rw [h1]; exact hs
  · rw [hs] at h1; cases h1

theorem Kg.fr {a0 : Arm} {x y : FCfg} (h : Kg a0 x) (f : Fr x y) : Kg a0 y :=
  ⟨h.1.same2 f.s2, fun hm hf => f.excepted (h.2 hm (f.fired ▸ hf))⟩

theorem K.fr {a0 : Arm} {x y : FCfg} (h : K a0 x) (f : Fr x y) : K a0 y :=
  ⟨h.arm.of_eq f.arm f.fired, f.trans ▸ h.tr,
    h.g.imp (fun ⟨hm, hf, e, he, hs⟩ => ⟨hm, f.fired ▸ hf, e, he, f.excepted hs⟩) (·.fr f)⟩

theorem Fr.updC (x : FCfg) (f : Cfg → Cfg) (hs : Same2 x.l.c (f x.l.c)) (hst : (f x.l.c).st = x.l.c.st) : Fr x (x.updC f) :=
  ⟨hs, Or.inl hst, rfl, rfl, rfl⟩

theorem Fr.live (x : FCfg) (f : Cfg → Cfg) (hs : Same2 x.l.c (f x.l.c))
    (hst : terminal x.l.c.st.label = true → (f x.l.c).st = x.l.c.st) : Fr x (x.updC f) :=
  ⟨hs, (Bool.eq_false_or_eq_true _).symm.imp_right hst |>.symm, rfl, rfl, rfl⟩

theorem Fr.of_off {W : List Fld} {x : FCfg} {c' : Cfg} (o : Off W x.l.c c')
    (hW : ∀ f ∈ [Fld.st, .fut, .closed, .cleanups, .notif], f ∉ W := by decide) : Fr x (x.setC c') :=
  ⟨.of_off o hW, Or.inl (o.st (hW _ (by decide))), rfl, rfl, rfl⟩

theorem Fr.updL' (x : FCfg) (f : LCfg → LCfg) (hc : (f x.l).c = x.l.c) (ht : (f x.l).trans = x.l.trans) : Fr x (x.updL f) :=
  ⟨by rw [updL_l, hc]; exact Same2.rfl' _, Or.inl (by rw [updL_l, hc]), rfl, rfl, ht⟩

theorem Kg.like {a0 : Arm} {x y : FCfg} (h : Kg a0 x) (hl : y.l = x.l) (hf : mainHK a0.hk = true → y.fired = x.fired) :
    Kg a0 y :=
  ⟨hl ▸ h.1, fun hm hf' => hl ▸ h.2 hm (hf hm ▸ hf')⟩

theorem K.like {a0 : Arm} {x y : FCfg} (h : K a0 x) (hl : y.l = x.l) (ha : ArmOk a0 y)
    (hf : mainHK a0.hk = true → y.fired = x.fired) : K a0 y :=
  ⟨ha, hl ▸ h.tr, h.g.imp (fun hb => ⟨hb.1, (hf hb.main).trans hb.2.1, hl ▸ hb.2.2⟩) (·.like hl hf)⟩

theorem armStep_cases {a0 : Arm} (hk : HK) (x : FCfg) (h : ArmOk a0 x) :
    ((armStep hk x.arm).1 = .pass ∧ (∀ b, (armStep hk x.arm).2 = some b → b.hk = a0.hk ∧ b.after = a0.after) ∧
      (x.arm = none → (armStep hk x.arm).2 = none)) ∨
    (a0.hk = hk ∧ x.fired = false ∧ x.arm ≠ none ∧ (armStep hk x.arm).2 = none ∧
      (((armStep hk x.arm).1 = .before ∧ a0.after = false) ∨ ((armStep hk x.arm).1 = .after ∧ a0.after = true))) := by
  cases ha : x.arm with
  | none => left; simp [armStep]
  | some b =>
    obtain ⟨hb1, hb2⟩ := h.1 b ha
    have hnf : x.fired = false := by
      cases hf : x.fired with
      | false => rfl
      | true => have := h.2 hf; rw [ha] at this; cases this
    unfold armStep
    by_cases h1 : b.hk = hk
    · by_cases h2 : b.left = 0
      · right
        refine ⟨hb1 ▸ h1, hnf, (fun h => nomatch h), by simp [h1, h2], ?_⟩
        cases h3 : b.after
        · left; exact ⟨by simp [h1, h2, h3], by rw [← hb2]; exact h3⟩
        · right; exact ⟨by simp [h1, h2, h3], by rw [← hb2]; exact h3⟩
      · left
        simp only [h1, h2, if_true, if_false]
        exact ⟨trivial, fun b' hb' => by cases hb'; exact ⟨h1 ▸ hb1, hb2⟩, fun h => by cases h⟩
    · left
      simp only [h1, if_false]
      exact ⟨trivial, fun b' hb' => by cases hb'; exact ⟨hb1, hb2⟩, fun h => by cases h⟩

/-- `y'` is `y` up to the call counter and the `fired` flag -/
def UpTo (y y' : FCfg) : Prop := y'.l = y.l ∧ y'.arm = y.arm ∧ y'.rep = y.rep ∧ y'.inState = y.inState

/-- `super().on_x()`: the base implementation runs on `x'`, which is `x` up to the call counter; if it returns and has kept the
counter, the counter is one less afterwards (`super_check`) -/
theorem supF_cases (hk : HK) (base : FCfg → Res) (x : FCfg) :
    ∃ x', UpTo x x' ∧ x'.fired = x.fired ∧ ∃ y e y', base x' = (y, e) ∧ supF hk base x = (y', e) ∧ UpTo y y' ∧
      y'.fired = y.fired ∧ (e ≠ none → y' = y) ∧ (e = none → y.called = x'.called → y'.called = x.called - 1) := by
  unfold supF
  split
  · exact ⟨{ x with called := x.called - 1 }, ⟨rfl, rfl, rfl, rfl⟩, rfl, _, _, _, rfl, rfl, ⟨rfl, rfl, rfl, rfl⟩, rfl, fun _ => rfl, fun _ => id⟩
  · refine ⟨x, ⟨rfl, rfl, rfl, rfl⟩, rfl, ?_⟩
    cases hb : base x with
    | mk y e =>
      cases e with
      | none => exact ⟨y, none, _, rfl, rfl, ⟨rfl, rfl, rfl, rfl⟩, rfl, fun h => absurd rfl h, fun _ h => congrArg (· - 1) h⟩
      | some e => exact ⟨y, _, y, rfl, rfl, ⟨rfl, rfl, rfl, rfl⟩, rfl, fun _ => rfl, fun h => nomatch h⟩

/-- case analysis of a hook call.  `x'` is the configuration handed to the base implementation: `x` with the armed fault advanced
(and another value of the call counter); an exception leaves the configuration the base implementation reached, up to the call
counter (which is put back). -/
theorem hookF_cases {a0 : Arm} (hk : HK) (base : FCfg → Res) (x : FCfg) (h : ArmOk a0 x) :
    (a0.hk = hk ∧ a0.after = false ∧ x.fired = false ∧ x.arm ≠ none ∧
      ∃ y, hookF hk base x = (y, some faultExc) ∧ y.l = x.l ∧ y.fired = true ∧ y.arm = none ∧ y.rep = x.rep ∧
        y.inState = x.inState) ∨
    (∃ x', x'.l = x.l ∧ x'.fired = x.fired ∧ x'.rep = x.rep ∧ ArmOk a0 x' ∧ ((x.arm = none → x'.arm = none) ∧ x'.inState = x.inState) ∧
      ((a0.hk = hk ∧ a0.after = true ∧ x.fired = false ∧ x.arm ≠ none ∧ x'.arm = none ∧
          ((∃ y y' e, base x' = (y, some e) ∧ hookF hk base x = (y', some e) ∧ UpTo y y' ∧ y'.fired = y.fired) ∨
           (∃ y y', base x' = (y, none) ∧ hookF hk base x = (y', some faultExc) ∧ y'.l = y.l ∧ y'.rep = y.rep ∧
             y'.arm = none ∧ y'.fired = true ∧ y'.inState = y.inState))) ∨
       ((∃ y y' e, base x' = (y, some e) ∧ hookF hk base x = (y', some e) ∧ UpTo y y' ∧ y'.fired = y.fired) ∨
        (∃ y y' e, base x' = (y, none) ∧ hookF hk base x = (y', e) ∧ (e = none ∨ e = some .assertion) ∧ UpTo y y' ∧
          y'.fired = y.fired ∧ (y.called = x'.called → e = none ∧ y'.called = x.called))))) := by
  -- `x'`: the counter incremented, the armed fault advanced
  obtain ⟨x', ⟨hl, ha, hr, hi⟩, hf, y, e, y', hb, hs, hu, hfy, hye, hcd⟩ :=
    supF_cases hk base { x with called := x.called + 1, arm := (armStep hk x.arm).2 }
  have ⟨hl, ha, hr, hi, hf⟩ : x'.l = x.l ∧ x'.arm = (armStep hk x.arm).2 ∧ x'.rep = x.rep ∧ x'.inState = x.inState ∧
      x'.fired = x.fired := ⟨hl, ha, hr, hi, hf⟩
  -- the base implementation raised: its exception propagates, the counter is put back
  have hraise : ∀ e', e = some e' → (armStep hk x.arm).1 ≠ .before →
      ∃ y y' e, base x' = (y, some e) ∧ hookF hk base x = (y', some e) ∧ UpTo y y' ∧ y'.fired = y.fired := fun e' he hnb => by
    subst he
    cases hye (fun h => nomatch h)
    refine ⟨y, { y with called := x.called }, e', hb, ?_, ⟨rfl, rfl, rfl, rfl⟩, rfl⟩
    unfold hookF; dsimp only; rw [hs]
    cases hd : (armStep hk x.arm).1 <;> first | rfl | exact absurd hd hnb
  rcases armStep_cases hk x h with ⟨hp, h2, h3⟩ | ⟨hhk, hnf, hxa, harm, ⟨hb4, haf⟩ | ⟨ha4, haf⟩⟩
  · -- the fault does not fire in this call
    refine Or.inr ⟨x', hl, hf, hr, ⟨fun b hb' => h2 b (ha ▸ hb'), fun hf' => ha.trans (h3 (h.2 (hf ▸ hf')))⟩,
      ⟨fun hn => ha.trans (h3 hn), hi⟩, Or.inr ?_⟩
    cases e with
    | some e' => exact Or.inl (hraise e' rfl (by rw [hp]; exact fun h => nomatch h))
    | none =>
      refine Or.inr ⟨y, y', if y'.called = x.called then none else some .assertion, hb, ?_, ?_, hu, hfy, fun hc => ?_⟩
      · unfold hookF; dsimp only; rw [hs, hp]
        by_cases hc : y'.called = x.called <;> simp [hc]
      · by_cases hc : y'.called = x.called <;> simp [hc]
      · have := hcd rfl hc
        exact ⟨if_pos (by simpa using this), by simpa using this⟩
  · -- before `super()`
    refine Or.inl ⟨hhk, haf, hnf, hxa, { x with called := x.called, arm := (armStep hk x.arm).2, fired := true }, ?_,
      rfl, rfl, harm, rfl, rfl⟩
    unfold hookF; simp only [hb4]
  · -- after `super()` returned
    refine Or.inr ⟨x', hl, hf, hr, .of_none (ha.trans harm), ⟨fun _ => ha.trans harm, hi⟩,
      Or.inl ⟨hhk, haf, hnf, hxa, ha.trans harm, ?_⟩⟩
    cases e with
    | some e' => exact Or.inl (hraise e' rfl (by rw [ha4]; exact fun h => nomatch h))
    | none =>
      refine Or.inr ⟨y, { y' with called := x.called, arm := none, fired := true }, hb, ?_, hu.1, hu.2.2.1, rfl, rfl, hu.2.2.2⟩
      unfold hookF; dsimp only; rw [hs, ha4]; rfl

/-- a pause / play hook keeps what its base implementation keeps: when the fault is this hook's, it is not a transition hook's -/
theorem hookF_keeps {a0 : Arm} {I : FCfg → Prop} (harm : ∀ {x}, I x → ArmOk a0 x)
    (like : ∀ {x y}, I x → y.l = x.l → ArmOk a0 y → (mainHK a0.hk = true → y.fired = x.fired) → I y)
    (hk : HK) (hnm : mainHK hk = false) (base : FCfg → Res) (hbase : ∀ x', I x' → I (base x').1) (x : FCfg) (h : I x) :
    I (hookF hk base x).1 := by
  have hnf : a0.hk = hk → mainHK a0.hk = true → False := fun hhk hm => by rw [hhk, hnm] at hm; cases hm
  rcases hookF_cases hk base x (harm h) with ⟨hhk, _, _, _, y, hy, h1, _, h3, _⟩ | ⟨x', hl, hf, _, hao, _, hcase⟩
  · rw [hy]; exact like h h1 (.of_none h3) fun hm => (hnf hhk hm).elim
  · have hb := hbase x' (like h hl hao fun _ => hf)
    -- the base implementation raised, or the hook returned: the result is what the base implementation left, up to `_called`
    have hup : ∀ {y y' : FCfg} {e}, base x' = (y, e) → UpTo y y' → y'.fired = y.fired → I y' := fun hb' hu hfy => by
      rw [hb'] at hb; exact like hb hu.1 ((harm hb).of_eq hu.2.1 hfy) fun _ => hfy
    rcases hcase with ⟨hhk, _, _, _, _, ⟨y, yy, e, hb', hy, hu, hfy⟩ | ⟨y, y', hb', hy, hu1, _, hu3, _⟩⟩ |
      ⟨y, yy, e, hb', hy, hu, hfy⟩ | ⟨y, y', e, hb', hy, _, hu, hfy, _⟩
    · rw [hy]; exact hup hb' hu hfy
    · rw [hy]; rw [hb'] at hb; exact like hb hu1 (.of_none hu3) fun hm => (hnf hhk hm).elim
    · rw [hy]; exact hup hb' hu hfy
    · rw [hy]; exact hup hb' hu hfy

def Like (y y' : FCfg) : Prop := y'.l = y.l ∧ y'.inState = y.inState

theorem Like.rfl' (y : FCfg) : Like y y := ⟨rfl, rfl⟩
theorem Like.trans' {a b c : FCfg} (h1 : Like a b) (h2 : Like b c) : Like a c := ⟨h2.1.trans h1.1, h2.2.trans h1.2⟩

/-- **a hook call is transparent**: it raises the fault at once and leaves the configuration it was called in; or the base
implementation runs on that configuration (`x'`) and the call leaves what the base implementation left — each time up to the call
counter, the armed fault and a `fired` flag that may have been set. -/
theorem hookF_frame (hk : HK) (base : FCfg → Res) (x : FCfg) :
    (Like x (hookF hk base x).1 ∧ (hookF hk base x).1.fired = true ∧ (hookF hk base x).1.called = x.called ∧
      (hookF hk base x).2 = some faultExc) ∨
    ∃ x', Like x x' ∧ x'.fired = x.fired ∧ Like (base x').1 (hookF hk base x).1 ∧
      ((base x').1.fired = true → (hookF hk base x).1.fired = true) ∧
      ((hookF hk base x).2 = none → (base x').2 = none) ∧
      ((base x').1.called = x'.called → (hookF hk base x).1.called = x.called ∧
        ∀ e, (hookF hk base x).2 = some e → e = faultExc ∨ (base x').2 = some e) := by
  obtain ⟨x', ⟨hl, _, _, hi⟩, hf, y, e, y', hb, hs, ⟨ul, _, _, ui⟩, hfy, hye, hcd⟩ :=
    supF_cases hk base { x with called := x.called + 1, arm := (armStep hk x.arm).2 }
  unfold hookF
  dsimp only
  split
  · exact Or.inl ⟨⟨rfl, rfl⟩, rfl, rfl, rfl⟩
  · refine Or.inr ⟨x', ⟨hl, hi⟩, hf, ?_⟩
    rw [hs, hb]
    cases e with
    | some e =>
      cases hye (fun h => nomatch h)
      dsimp only
      exact ⟨⟨rfl, rfl⟩, id, id, fun _ => ⟨rfl, fun _ he => Or.inr he⟩⟩
    | none =>
      have hc : y.called = x'.called → y'.called = x.called := fun h => (hcd rfl h).trans (Nat.add_sub_cancel ..)
      dsimp only
      split
      · exact ⟨⟨ul, ui⟩, fun _ => rfl, fun _ => rfl, fun _ => ⟨rfl, fun _ he => Or.inl (Option.some.inj he).symm⟩⟩
      · split
        · exact ⟨⟨ul, ui⟩, fun h => hfy.trans h, fun _ => rfl, fun h => ⟨hc h, fun _ he => nomatch he⟩⟩
        · rename_i hne
          exact ⟨⟨ul, ui⟩, fun h => hfy.trans h, fun _ => rfl, fun h => absurd (hc h) hne⟩

theorem hookF_shape (hk : HK) (base : FCfg → Res) (x : FCfg) :
    (Like x (hookF hk base x).1 ∧ (hookF hk base x).2 ≠ none) ∨
    (∃ x', Like x x' ∧ Like (base x').1 (hookF hk base x).1 ∧ ((hookF hk base x).2 = none → (base x').2 = none)) := by
  rcases hookF_frame hk base x with ⟨hl, _, _, he⟩ | ⟨x', hl, _, hb, _, hn, _⟩
  · exact Or.inl ⟨hl, by rw [he]; exact fun h => nomatch h⟩
  · exact Or.inr ⟨x', hl, hb, hn⟩

theorem hookF_inv {I : FCfg → Prop} (like : ∀ {x y : FCfg}, I x → y.l = x.l → (x.fired = true → y.fired = true) → I y)
    (hk : HK) (base : FCfg → Res) (hb : ∀ x', I x' → I (base x').1) (x : FCfg) (h : I x) : I (hookF hk base x).1 := by
  rcases hookF_frame hk base x with ⟨l1, f1, _, _⟩ | ⟨x', l1, f1, l2, f2, _, _⟩
  · exact like h l1.1 fun _ => f1
  · exact like (hb x' (like h l1.1 fun hf => f1.trans hf)) l2.1 f2

theorem hookF_rel {R : FCfg → FCfg → Prop} (hl : ∀ x y : FCfg, y.l = x.l → (x.fired = true → y.fired = true) → R x y)
    (ht : ∀ {x y z : FCfg}, R x y → R y z → R x z) (hk : HK) (base : FCfg → Res) (hb : ∀ x', R x' (base x').1) (x : FCfg) :
    R x (hookF hk base x).1 :=
  hookF_inv (I := R x) (fun h e f => ht h (hl _ _ e f)) hk base (fun x' h => ht h (hb x')) x (hl x x rfl id)

theorem bind_rel {R : FCfg → FCfg → Prop} (ht : ∀ {x y z : FCfg}, R x y → R y z → R x z) {x : FCfg} {r : Res} {k : FCfg → Res}
    (h1 : R x r.1) (hk : ∀ y, R y (k y).1) : R x (bind r k).1 := by
  obtain ⟨y, _ | e⟩ := r
  · exact ht h1 (hk y)
  · exact h1

end FP
end PMF
