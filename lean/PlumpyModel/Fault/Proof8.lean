import PlumpyModel.Fault.ClosedF
import PlumpyModel.PM.LProof18
/-!
# Fault twins — a terminated process

* A wake-up of the stepping task on a terminated process is the wake-up of `PM/Model.lean` (no hook, no listener is consulted: the
  closing part of a step does nothing once the process has terminated), so `stepper_returns_gen` of `PM/Proof9.lean` applies to the
  twins' configurations.
* `TM x y`: if the process of `x` has terminated, `y` has the same state object and `fired` has not been reset.  Every control call,
  every notification, every wake-up of the stepping task and every other event is such a step (`kill()`, `fail()`, `pause()` return at
  once, `play()` and the pause hooks only touch the pause).  Hence the alternative `Bad` of the invariant `K` is absorbing: once it
  holds it holds in every later configuration of the run (`Bad.run`), and a hypothesis on the final configuration excludes it in all
  earlier ones.
-/
namespace PMF
namespace FP
open L

section
variable {N : Hook → FCfg → FCfg}

theorem endOfStepF_terminal (x : FCfg) (r : StepEnd) (ht : terminal x.l.c.st.label = true) :
    endOfStepF N x r = (x.updL fun l => { l with executing := false }).setC (endOfStep x.l.c r) := by
  have hp : terminal (prepare x.l.c r).1.st.label = true := by rw [(prepare_off x.l.c r).st]; exact ht
  unfold endOfStepF endOfStep dispatchF
  dsimp only
  have h1 : terminal ((x.updL fun l => { l with executing := false }).setC
      (prepare (x.updL fun l => { l with executing := false }).l.c r).1).l.c.st.label = true := hp
  rw [if_pos h1, dispatch_terminal _ _ hp]
  rfl

theorem tickStepperF_terminal_c (P : Prog) (x : FCfg) (ht : terminal x.l.c.st.label = true) :
    (tickStepperF N P x).l.c = tickStepper P x.l.c := by
  have := ((Task.terminal_sim (O := Task.flt N) fun x r ht => congrArg (·.l.c) (endOfStepF_terminal x r ht)).tickStepper P
    (x := x) (y := x.l.c) ⟨rfl, ht⟩).1
  rwa [Task.tickStepper_flt, Task.tickStepper_base] at this

end

theorem ticksF_terminal_c (P : Prog) : ∀ (n : Nat) (x : FCfg), terminal x.l.c.st.label = true →
    (runF P x (List.replicate n .tick)).l.c = ticks P n x.l.c
  | 0, _, _ => rfl
  | n+1, x, ht => by
    have h1 : (stepF P x .tick).1.l.c = tickStepper P x.l.c := tickStepperF_terminal_c P x ht
    have hst : (stepF P x .tick).1.l.c.st = x.l.c.st := by rw [h1]; exact ((fix_closed ht).tickStepper P x.l.c (Fix.rfl' _)).1
    show (runF P (stepF P x .tick).1 (List.replicate n .tick)).l.c = ticks P n (tickStepper P x.l.c)
    rw [ticksF_terminal_c P n _ (hst ▸ ht), h1]

def TM (x y : FCfg) : Prop :=
  terminal x.l.c.st.label = true → y.l.c.st = x.l.c.st ∧ (x.fired = true → y.fired = true)

theorem TM.rfl' (x : FCfg) : TM x x := fun _ => ⟨rfl, id⟩

theorem TM.trans' {x y z : FCfg} (h1 : TM x y) (h2 : TM y z) : TM x z := by
  intro ht
  obtain ⟨a, b⟩ := h1 ht
  obtain ⟨c, d⟩ := h2 (by rw [a]; exact ht)
  exact ⟨c.trans a, fun hf => d (b hf)⟩

theorem TM.of_eq {x y : FCfg} (hl : y.l.c.st = x.l.c.st) (hf : x.fired = true → y.fired = true) : TM x y := fun _ => ⟨hl, hf⟩

theorem TM.of_live {x y : FCfg} (hl : terminal x.l.c.st.label = false) : TM x y := fun ht => by rw [hl] at ht; cases ht

theorem TM.updC (x : FCfg) (f : Cfg → Cfg) (hst : terminal x.l.c.st.label = true → (f x.l.c).st = x.l.c.st) :
    TM x (x.updC f) := fun ht => ⟨hst ht, id⟩

theorem TM.off (x : FCfg) (f : Cfg → Cfg) {W : List Fld} (o : Off W x.l.c (f x.l.c)) (hW : Fld.st ∉ W := by decide) :
    TM x (x.updC f) := TM.updC x f fun _ => o.st hW

theorem Bad.tm {a0 : Arm} {x y : FCfg} (h : Bad a0 x) (t : TM x y) : Bad a0 y := by
  obtain ⟨a, b⟩ := t h.terminal
  obtain ⟨hm, hf, e, he, hs⟩ := h
  exact ⟨hm, b hf, e, he, by rw [a]; exact hs⟩

def FTM (N : Hook → FCfg → FCfg) : Prop := ∀ h x, TM x (N h x)

theorem TM.live {x0 y z : FCfg} (h : TM x0 y) (hl : terminal y.l.c.st.label = false) : TM x0 z :=
  fun ht => by rw [(h ht).1, ht] at hl; cases hl

theorem TM.fr {x0 y z : FCfg} (h : TM x0 y) (f : Fr y z) : TM x0 z := fun ht =>
  have ⟨a, b⟩ := h ht
  ⟨(f.st.resolve_right (by rw [a, ht]; exact Bool.noConfusion)).trans a, fun hf => f.fired ▸ b hf⟩

/-- `TM x₀` is closed under the leaf updates of a step: it respects the frame `Fr`, and a transition is made on a live process only -/
theorem tm_step {N : Hook → FCfg → FCfg} (hN : FTM N) (x0 : FCfg) : StepLeavesF N (fun _ _ => True) (TM x0) :=
  .of_fr TM.fr
    (fun hk _ base hb y h => hookF_inv (I := TM x0) (fun h hl hf => h.trans' (TM.of_eq (by rw [hl]) hf)) hk base hb y h)
    (fun k y h => h.trans' (hN k y)) (fun _ _ hl _ h => h.live hl) (fun _ => trivial)
    fun y h => h.trans' (TM.off y _ (cancelFut_off _))

section
variable {N : Hook → FCfg → FCfg}

theorem doPauseF_tm (hN : FTM N) (x : FCfg) : TM x (doPauseF N x).1 := (tm_step hN x).doPauseF x (TM.rfl' x)

/-- on a terminated process the two loops of a step do nothing, whatever the notification function -/
theorem endOfStepF_tm (x : FCfg) (r : StepEnd) : TM x (endOfStepF N x r) := fun ht => by
  rw [endOfStepF_terminal x r ht]
  exact ⟨((fix_closed ht).endOfStep x.l.c r (Fix.rfl' _)).1, id⟩

theorem enactLoopF_tm : ∀ (n : Nat) (x : FCfg), TM x (enactLoopF N n x).1
  | 0, x => TM.rfl' x
  | n+1, x => by
    intro ht
    unfold enactLoopF
    split
    · split
      · rename_i hc; simp [ht] at hc
      · exact ⟨rfl, id⟩
    · exact ⟨rfl, id⟩

end

theorem fireNF_tm : ∀ n, FTM (fireNF n)
  | 0 => fun _ _ => TM.of_eq rfl id
  | n+1 => fun h x => (tm_step (fireNF_tm n) x).fireKF (tm_step (fireNF_tm n) x).reqKF h x (TM.rfl' x)

theorem stepF_tm (P : Prog) (x : FCfg) (ev : Ev) : TM x (stepF P x ev).1 :=
  (tm_step (fireNF_tm _) x).stepFN P x ev (fun _ _ _ _ _ => trivial) (TM.rfl' x)

theorem runF_tm (P : Prog) (x0 : FCfg) (evs : List Ev) : TM x0 (runF P x0 evs) :=
  runF_ind (I := TM x0) (fun x e h => h.trans' (stepF_tm P x e)) evs x0 (TM.rfl' x0)

/-- **`Bad` is absorbing** -/
theorem Bad.step {a0 : Arm} {x : FCfg} (h : Bad a0 x) (P : Prog) (ev : Ev) : Bad a0 (stepF P x ev).1 := h.tm (stepF_tm P x ev)

theorem Bad.run {a0 : Arm} {x : FCfg} (h : Bad a0 x) (P : Prog) (evs : List Ev) : Bad a0 (runF P x evs) := h.tm (runF_tm P x evs)

end FP
end PMF
