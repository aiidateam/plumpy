import PlumpyModel.Fault.TransF
/-!
# Fault twins — the call counter is balanced, no state is ever CREATED again, and a hook raises only what its base raises

`CF x y`: `y` has the value of `_called` that `x` has, and the state of `y` is CREATED only if that of `x` is.  It holds between the
argument and the result of every twin below the closing part of a step, whether or not the fault fires in it, whether or not an
exception propagates (`call_with_super_check` puts the counter back when the hook raises, repair 6c8055d; `super_check` decrements
it when the base implementation returns).  Consequently the final check `assert self._called == call_count` of
`call_with_super_check` never fails, and the only exception that a hook call lets through is the injected fault or what its base
implementation raised (`hookF_cf`).  `EF r`: the only exception the result `r` carries is the fault — what the pieces of the `try`
block of a transition raise, given that every base implementation keeps the counter (`cf_leaves`).
-/
namespace PMF
namespace FP
open L

structure CF (x y : FCfg) : Prop where
  called : y.called = x.called
  ncr : y.l.c.st.label = .created → x.l.c.st.label = .created

theorem CF.rfl' (x : FCfg) : CF x x := ⟨rfl, id⟩
theorem CF.trans' {x y z : FCfg} (h1 : CF x y) (h2 : CF y z) : CF x z :=
  ⟨h2.called.trans h1.called, fun h => h1.ncr (h2.ncr h)⟩
theorem CF.of_l {x y : FCfg} (hc : y.called = x.called) (hl : y.l = x.l) : CF x y := ⟨hc, fun h => by rw [← hl]; exact h⟩
theorem CF.of_st {x y : FCfg} (hc : y.called = x.called) (hl : y.l.c.st = x.l.c.st) : CF x y := ⟨hc, fun h => by rw [← hl]; exact h⟩
theorem CF.updL (x : FCfg) (f : LCfg → LCfg) (h : (f x.l).c = x.l.c) : CF x (x.updL f) :=
  CF.of_st rfl (by rw [updL_l, h])
theorem CF.not_created {x y : FCfg} (hc : y.called = x.called) (hn : y.l.c.st.label ≠ .created) : CF x y :=
  ⟨hc, fun h => absurd h hn⟩

def FCF (N : Hook → FCfg → FCfg) : Prop := ∀ h x, CF x (N h x)

theorem hookF_cf (hk : HK) (base : FCfg → Res) (hb : ∀ x', CF x' (base x').1) (x : FCfg) :
    CF x (hookF hk base x).1 ∧
    ∀ e, (hookF hk base x).2 = some e → e = faultExc ∨ ∃ x', x'.l = x.l ∧ (base x').2 = some e := by
  rcases hookF_frame hk base x with ⟨l1, _, c1, e1⟩ | ⟨x', l1, _, l2, _, _, hc⟩
  · exact ⟨.of_l c1 l1.1, fun e he => Or.inl (Option.some.inj (e1.symm.trans he)).symm⟩
  · obtain ⟨c2, e2⟩ := hc (hb x').called
    exact ⟨⟨c2, fun h => l1.1 ▸ (hb x').ncr (l2.1 ▸ h)⟩, fun e he => (e2 e he).imp_right fun h => ⟨x', l1.1, h⟩⟩

/-- only a hook call touches the call counter, and it puts it back (`hookF_cf`); no target of a transition is CREATED -/
theorem cf_leaves : LeafRelF CF where
  refl := CF.rfl'
  trans := CF.trans'
  hook hk base hb x := (hookF_cf hk base hb x).1
  lcfg := CF.updL
  quiet o hW := CF.of_st rfl (o.mono hW).st
  releasePause _ := CF.of_st rfl (releasePause_off _).st
  entered _ s := CF.of_st rfl (enteredHooks_off _ s).st
  exit x := CF.of_st rfl (exitState_off _).st
  enter _ _ hs := CF.not_created rfl hs
  closedTo _ _ hs := CF.not_created rfl hs
  closedExc _ _ := CF.not_created rfl (fun h => nomatch h)
  requestPause x _ := CF.of_st rfl (requestL_st x.l .pause)
  requestKill x _ := CF.of_st rfl (requestL_st x.l .kill)
  played _ := CF.of_st rfl (play_st _)
  paused _ := CF.of_st rfl rfl
  rep _ _ := CF.of_l rfl rfl

variable {N : Hook → FCfg → FCfg} in
theorem transitionToF_cf (hN : FCF N) (x : FCfg) (s : SObj) : CF x (transitionToF N x s).1 :=
  cf_leaves.transitionToF hN x s

theorem fireNF_cf : ∀ n, FCF (fireNF n) := cf_leaves.fireNF

def EF (r : Res) : Prop := ∀ e, r.2 = some e → e = faultExc

theorem EF.ok' (y : FCfg) : EF (ok y) := fun _ he => nomatch he

theorem bind_ef {r : Res} {k : FCfg → Res} (h1 : EF r) (hk : ∀ y, EF (k y)) : EF (bind r k) := by
  obtain ⟨y, _ | e⟩ := r
  · exact hk y
  · exact h1

theorem hookF_ef (hk : HK) (base : FCfg → Res) (hb : ∀ x', CF x' (base x').1) (he : ∀ x', EF (base x')) (x : FCfg) :
    EF (hookF hk base x) := fun e h =>
  ((hookF_cf hk base hb x).2 e h).elim id fun ⟨x', _, hx'⟩ => he x' e hx'

theorem hookOpt_ef (hk : Option HK) (base : FCfg → Res) (hb : ∀ x', CF x' (base x').1) (he : ∀ x', EF (base x')) (x : FCfg) :
    EF (hookOpt hk base x) := by
  cases hk with
  | none => exact he x
  | some k => exact hookF_ef k base hb he x

theorem closeF_ef (x : FCfg) : EF (closeF x) := by
  unfold closeF; split
  · exact EF.ok' x
  · exact hookF_ef _ _ (fun _ => cf_leaves.quiet (onClose_off _)) (fun x' => EF.ok' _) x

theorem terminatedF_ef (x : FCfg) : EF (terminatedF x) :=
  hookF_ef _ _ (fun x' => cf_leaves.trans (cf_leaves.releasePause x') (cf_leaves.closeF _)) (fun _ => closeF_ef _) x

section
variable {N : Hook → FCfg → FCfg}

theorem enterNextF_ef (hN : FCF N) (x : FCfg) (s : SObj) : EF (enterNextF N x s) := by
  unfold enterNextF; dsimp only
  refine bind_ef (hookOpt_ef _ _ (cf_leaves.enteredBaseF hN s) (fun _ => EF.ok' _) _) fun y => ?_
  split
  · exact terminatedF_ef y
  · exact EF.ok' y

theorem exitOnceF_ef (x : FCfg) : EF (exitOnceF N x) :=
  bind_ef (hookOpt_ef _ _ CF.rfl' EF.ok' x) fun _ => EF.ok' _

theorem exitPhaseF_ef (x : FCfg) (s : SObj) : EF (exitPhaseF N x s) := by
  unfold exitPhaseF
  refine bind_ef (exitOnceF_ef x) fun y => ?_
  split
  · exact exitOnceF_ef y
  · exact EF.ok' y

/-- the ENTERING callbacks: the only exception other than the fault is the one the base implementation of
`on_finish / on_kill` raises when the future is already resolved -/
theorem enteringF_ef (x : FCfg) (s : SObj) (e : Exc) (he : (enteringF N x s).2 = some e) :
    e = faultExc ∨ enteringHooks x.l.c s = .error e := by
  have hexc : ∀ (x' : FCfg) e, (enteringBaseF s x').2 = some e → enteringHooks x'.l.c s = .error e := by
    intro x' e he
    unfold enteringBaseF at he
    split at he
    · rename_i e' herr
      cases he; exact herr
    · cases he
  unfold enteringF at he
  generalize hr : hookOpt (enteringHK s) (enteringBaseF s) x = r at he
  obtain ⟨y, _ | e'⟩ := r
  · cases he
  · cases he
    unfold hookOpt at hr
    split at hr
    · rcases (hookF_cf _ (enteringBaseF s) (cf_leaves.enteringBaseF s) x).2 e (by rw [hr]) with h | ⟨x', hl, hx'⟩
      · exact Or.inl h
      · exact Or.inr (hl ▸ hexc x' e hx')
    · exact Or.inr (hexc x e (by rw [hr]))

end

end FP
end PMF
