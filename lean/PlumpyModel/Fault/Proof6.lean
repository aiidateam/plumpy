import PlumpyModel.PM.LProof11
import PlumpyModel.PM.LProof16
import PlumpyModel.PM.LProof2
/-!
# Faults in user code that is not a lifecycle hook, on the process-control model with listeners itself

A step function (or an `out()` call in it) that raises is a program whose body raises (`Outcome.raise e`); a failing `call_soon`
callback is the event `tickCb (.usercb true)`.  No twin is needed: these are statements about `PM/Listener.lean`.
-/
namespace PMF
namespace L

theorem setInterrupt_st (c : Cfg) (n : Option Nat) : (setInterrupt c n).st = c.st := (setInterrupt_off c n).st

section
variable {F : Hook → LCfg → LCfg}

theorem transitionToL_excepted (l : LCfg) (e : Exc) (hc : l.c.closed = false) (hl : terminal l.c.st.label = false) :
    (transitionToL F l (.excepted e)).c.st = .excepted e := by
  have he : ∀ c : Cfg, enteringHooks c (.excepted e) = .ok (setFutExc c e) := fun _ => rfl
  unfold transitionToL
  dsimp only
  split
  · split
    · rename_i h; rw [hc] at h; cases h
    · split
      · rename_i e1 heq; rw [he] at heq; cases heq
      · exact enterNextL_label_terminal _ _ (by simp [SObj.label, terminal, allowed])
  · rename_i h; exact absurd (live_excepted _ hl) h

/-- the closing part of a step whose step function raised `e`, whatever request is pending -/
theorem finishUserL_raise (hF3 : FG3 F) (hFq : FQ F) (l : LCfg) (e : Exc) (hi : Inv2 l.c)
    (hl : terminal l.c.st.label = false) :
    (finishUserL F l (.raise e)).c.st = .excepted e ∧ Inv2 (finishUserL F l (.raise e)).c ∧
    (finishUserL F l (.raise e)).c.pc = l.c.pc ∧ (finishUserL F l (.raise e)).c.stepping = false := by
  have hinv : Inv2 (finishUserL F l (.raise e)).c := hF3.closed.task.finishUserL l _ hi
  have hl2 : terminal (setInterrupt l.c none).st.label = false := by rw [setInterrupt_st]; exact hl
  have hst := transitionToL_excepted (F := F) { l with executing := false, c := setInterrupt l.c none } e
    ((setInterrupt_off l.c none).closed.trans (hi.live hl).2.1) hl2
  -- the closing part of this step is the transition to EXCEPTED, then `finally`
  have heq : finishUserL F l (.raise e) =
      (transitionToL F { l with executing := false, c := setInterrupt l.c none } (.excepted e)).upd finally_ := by
    unfold finishUserL endOfStepL
    dsimp only [prepare]
    unfold dispatchL
    simp only [hl2, Bool.false_eq_true, if_false]
    unfold dispatch1L
    simp only [setInterrupt_interrupt]
    rw [enactLoop_terminal' _ _ (by rw [hst]; rfl)]
  rw [heq] at hinv ⊢
  refine ⟨(finally_off _).st.trans hst, hinv, ?_, finally_stepping _⟩
  rw [upd_c, (finally_off _).pc, (transitionToL_qq hFq _ (.excepted e)).pc]
  exact (setInterrupt_off _ _).pc

theorem loopHeadL_terminal (P : Prog) (n : Nat) (l : LCfg) (ht : terminal l.c.st.label = true) (hnc : ∀ e, l.c.pc ≠ .crashed e) :
    (loopHeadL F P (n + 1) l).c.pc = .done := by
  unfold loopHeadL
  split
  · rename_i e he; exact absurd he (hnc e)
  · simp only [ht, if_true]; rfl

theorem loopHeadL_raise (hF3 : FG3 F) (hFq : FQ F) (P : Prog) (n : Nat) (l : LCfg) (e : Exc) (hi : Inv2 l.c)
    (hl : terminal l.c.st.label = false) (hnc : ∀ e', l.c.pc ≠ .crashed e') :
    (loopHeadL F P (n + 1) (finishUserL F l (.raise e))).c.st = .excepted e ∧
    Inv2 (loopHeadL F P (n + 1) (finishUserL F l (.raise e))).c ∧
    (loopHeadL F P (n + 1) (finishUserL F l (.raise e))).c.pc = .done := by
  obtain ⟨h1, h2, h3, _⟩ := finishUserL_raise hF3 hFq l e hi hl
  have ht : terminal (finishUserL F l (.raise e)).c.st.label = true := by rw [h1]; rfl
  exact ⟨((fix_task (F := F) ht).loopHeadL P (n + 1) _ (Fix.rfl' _)).1.trans h1, hF3.closed.task.loopHeadL P _ _ h2,
    loopHeadL_terminal P n _ ht fun e' h => hnc e' (h3 ▸ h)⟩

/-- a wake-up of the stepping task whose step function is about to raise `e` (no await left): `step_until_terminated()` returns
normally -/
theorem tick_raise (hF3 : FG3 F) (hFq : FQ F) (P : Prog) (l : LCfg) (e : Exc) (hi : Inv2 l.c)
    (hl : terminal l.c.st.label = false) (hpc : l.c.pc = .inUser ⟨0, .raise e⟩) :
    (tickStepperL F P l).c.st = .excepted e ∧ Inv2 (tickStepperL F P l).c ∧ (tickStepperL F P l).c.pc = .done := by
  have he : tickStepperL F P l = loopHeadL F P fuel0 (finishUserL F l (.raise e)) := by
    unfold tickStepperL; rw [hpc]; simp only [if_true]
  rw [he]
  exact loopHeadL_raise hF3 hFq P 999 l e hi hl fun e' h => by rw [hpc] at h; cases h

/-- a step function that raises `e` without awaiting anything (activated by `Process.step` on a live RUNNING process): the same,
within the callback that activated it -/
theorem stepBodyL_raise (hF3 : FG3 F) (hFq : FQ F) (P : Prog) (n : Nat) (l : LCfg) (e : Exc) (fn : Nat) (args : List Val)
    (kw : List (Nat × Val)) (hi : Inv2 l.c) (hst : l.c.st = .running fn args kw) (hb : P fn args kw l.c.ctx = ⟨0, .raise e⟩)
    (hnc : ∀ e', l.c.pc ≠ .crashed e') :
    (stepBodyL F P (n + 1) l).c.st = .excepted e ∧ Inv2 (stepBodyL F P (n + 1) l).c ∧ (stepBodyL F P (n + 1) l).c.pc = .done := by
  generalize hl2 : ({ l with c := { l.c with stepping := true }, executing := true } : LCfg).upd (fun c =>
      { c with trace := { fn := fn, args := args, kw := kw, paused := c.paused.isSome } :: c.trace }) = l2
  have hc2 : l2.c.st = l.c.st ∧ l2.c.pc = l.c.pc := by rw [← hl2]; exact ⟨rfl, rfl⟩
  have hi2 : Inv2 l2.c := by rw [← hl2]; exact hi.same2 ⟨rfl, rfl, rfl, rfl, rfl, rfl⟩
  have he : stepBodyL F P (n + 1) l = loopHeadL F P (n + 1) (finishUserL F l2 (.raise e)) := by
    unfold stepBodyL stepBodyKL
    dsimp only
    split
    · rename_i h; have h' : l.c.st = .created _ := h; rw [hst] at h'; cases h'
    · rename_i fn' args' kw' h
      have h' : l.c.st = .running fn' args' kw' := h
      rw [hst] at h'
      injection h' with h1 h2 h3
      subst h1; subst h2; subst h3
      rw [show ({ l with c := { l.c with stepping := true }, executing := true } : LCfg).c.ctx = l.c.ctx from rfl, hb]
      simp only [if_true]
      rw [← hl2]
    · rename_i h; have h' : l.c.st = .waiting _ _ _ _ := h; rw [hst] at h'; cases h'
    · rename_i h1 h2 h3
      exact absurd hst (h2 fn args kw)
  rw [he]
  exact loopHeadL_raise hF3 hFq P n l2 e hi2 (by rw [hc2.1, hst]; rfl) fun e' h => hnc e' (hc2.2 ▸ h)

/-- a failing `call_soon` callback on a live process: `callback_excepted` → `fail()` -/
theorem callback_raise (hF3 : FG3 F) (l : LCfg) (hi : Inv2 l.c) (hl : terminal l.c.st.label = false)
    (hr : l.c.ready.contains (.usercb true) = true) :
    (tickCbL F l (.usercb true)).c.st = .excepted (.user 8) ∧ Inv2 (tickCbL F l (.usercb true)).c := by
  refine ⟨?_, hF3.closed.tickCbL l _ hi⟩
  unfold tickCbL
  simp only [hr, if_true]
  unfold failL
  have hl' : terminal (l.upd fun c => { c with ready := c.ready.erase (.usercb true) }).c.st.label = false := hl
  simp only [hl', Bool.false_eq_true, if_false]
  exact transitionToL_excepted _ _ (hi.live hl).2.1 hl'

/-- … on a terminated process: `callback_excepted` checks `has_terminated()` -/
theorem callback_raise_terminated (l : LCfg) (ht : terminal l.c.st.label = true) :
    tickCbL F l (.usercb true) = (if l.c.ready.contains (.usercb true) then l.upd fun c => { c with ready := c.ready.erase (.usercb true) } else l) := by
  unfold tickCbL
  split
  · unfold failL
    have ht' : terminal (l.upd fun c => { c with ready := c.ready.erase (.usercb true) }).c.st.label = true := ht
    simp only [ht', if_true]
  · rfl

end

theorem excepted_outcome {c : Cfg} {e : Exc} (hi : Inv2 c) (hs : c.st = .excepted e) :
    c.fut = .exc e ∧ c.closed = true ∧ c.cleanups = 1 ∧ termCount c.notif = 1 := by
  have ht : terminal c.st.label = true := by rw [hs]; simp [SObj.label, terminal, allowed]
  obtain ⟨h1, h2, h3, h4⟩ := hi.term ht
  rw [hs] at h4
  exact ⟨by simpa [outcomeOf] using h4.symm, h1, h2, h3⟩

end L
end PMF
