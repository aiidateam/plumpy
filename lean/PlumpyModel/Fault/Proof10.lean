import PlumpyModel.Fault.Proof2
import PlumpyModel.PM.LProof17
import PlumpyModel.Fault.Proof9
/-!
# Fault twins — the linking invariant of the stepping task (`InvS` of `PM/Proof10.lean`) through a transition with the fault

`InvM` (`PM/Proof10.lean`): `InvS` without "on a terminated process the current pause future is released" (which a transition re-establishes at its very
end, in `on_terminated`, and which is false in between when the fault cuts the transition short).  Hooks are transparent for
everything that only looks at the `LCfg` part and at `inState` (`hookF_shape`).  `MI x y`: what every piece of a transition and every
request made from inside it keeps (`InvM`, the state object, `inState`, the transition flag); none of this depends on which fault
is armed.  A transition of a live process then keeps `InvS`, for every fault: nothing propagates to its caller unless the result
is `Bad` (`transitionToF_s`, `transitionToF_s2`).
-/
namespace PMF
namespace FP
open L

def MI (x y : FCfg) : Prop := InvM y.l.c ∧ y.l.c.st = x.l.c.st ∧ y.inState = x.inState ∧ y.l.trans = x.l.trans

theorem MI.of_like {x y : FCfg} (h : InvM x.l.c) (l : Like x y) : MI x y :=
  ⟨by rw [l.1]; exact h, by rw [l.1], l.2, by rw [l.1]⟩
theorem MI.rfl' {x : FCfg} (h : InvM x.l.c) : MI x x := ⟨h, rfl, rfl, rfl⟩
theorem MI.like {x y y' : FCfg} (h : MI x y) (l : Like y y') : MI x y' :=
  ⟨by rw [l.1]; exact h.1, by rw [l.1]; exact h.2.1, l.2.trans h.2.2.1, by rw [l.1]; exact h.2.2.2⟩
theorem MI.trans' {x y z : FCfg} (h1 : MI x y) (h2 : MI y z) : MI x z :=
  ⟨h2.1, h2.2.1.trans h1.2.1, h2.2.2.1.trans h1.2.2.1, h2.2.2.2.trans h1.2.2.2⟩
theorem MI.isSome {x y : FCfg} (h : MI x y) (htr : x.l.trans.isSome = true) : y.l.trans.isSome = true := by
  rw [h.2.2.2]; exact htr
theorem MI.updC {x : FCfg} (h : InvM x.l.c) (f : Cfg → Cfg) (r : TR x.l.c (f x.l.c)) (hst : (f x.l.c).st = x.l.c.st) :
    MI x (x.updC f) := ⟨h.tr r (Or.inl hst), hst, rfl, rfl⟩
theorem MI.off {x : FCfg} (h : InvM x.l.c) (f : Cfg → Cfg) {W : List Fld} (o : Off W x.l.c (f x.l.c))
    (hW : ∀ g ∈ [Fld.pc, .interrupt, .actions, .stepping, .paused, .wfs, .pfs, .st], g ∉ W := by decide) :
    MI x (x.updC f) :=
  MI.updC h f (.of_off o fun g hg => hW g (List.mem_append_left _ hg)) (o.st (hW _ (by decide)))

theorem hookF_mi (hk : HK) (base : FCfg → Res) (x : FCfg) (h : InvM x.l.c) (hb : ∀ x', Like x x' → MI x (base x').1) :
    MI x (hookF hk base x).1 := by
  rcases hookF_shape hk base x with ⟨hl, _⟩ | ⟨x', hl, hb', _⟩
  · exact MI.of_like h hl
  · exact (hb x' hl).like hb'

theorem hookOpt_mi (hk : Option HK) (base : FCfg → Res) (x : FCfg) (h : InvM x.l.c) (hb : ∀ x', Like x x' → MI x (base x').1) :
    MI x (hookOpt hk base x).1 := by
  unfold hookOpt; split
  · exact hookF_mi _ base x h hb
  · exact hb x (Like.rfl' x)

theorem hookF_ok_like (hk : HK) (x : FCfg) : Like x (hookF hk ok x).1 := by
  rcases hookF_shape hk ok x with ⟨hl, _⟩ | ⟨x', hl, hb, _⟩
  · exact hl
  · exact hl.trans' hb

/-- what the proofs need of the notification function inside a transition -/
def NM (N : Hook → FCfg → FCfg) : Prop := ∀ h x, x.l.trans.isSome = true → InvM x.l.c → MI x (N h x)

structure NS (a0 : Arm) (N : Hook → FCfg → FCfg) : Prop where
  m : ∀ h x, x.l.trans.isSome = true → InvM x.l.c → InvM (N h x).l.c
  mst : ∀ h x, x.l.trans.isSome = true → InvM x.l.c →
    (N h x).l.c.st = x.l.c.st ∧ (N h x).inState = x.inState ∧ (N h x).l.trans = x.l.trans
  s : ∀ h x, K a0 x → InvS x.l.c → x.inState = true → InvS (N h x).l.c ∧ (N h x).inState = true

theorem NS.nm {a0 : Arm} {N : Hook → FCfg → FCfg} (h : NS a0 N) : NM N := fun hk x htr hm => ⟨h.m hk x htr hm, h.mst hk x htr hm⟩

theorem closeF_m (x : FCfg) (h : InvM x.l.c) :
    MI x (closeF x).1 ∧ ((closeF x).2 = none → (closeF x).1.l = x.l.upd onClose) := by
  unfold closeF
  split
  · rename_i hc
    refine ⟨MI.rfl' h, fun _ => ?_⟩
    show x.l = { x.l with c := onClose x.l.c }
    unfold onClose; rw [if_pos hc]
  · rcases hookF_shape .onClose (fun x => ok (x.updC onClose)) x with ⟨hl, hne⟩ | ⟨x', hl, hb, _⟩
    · exact ⟨MI.of_like h hl, fun hn => absurd hn hne⟩
    · have m1 := MI.of_like h hl
      exact ⟨(m1.trans' (MI.off m1.1 _ (onClose_off _))).like hb,
        fun _ => hb.1.trans (by show x'.l.upd onClose = _; rw [hl.1])⟩

theorem terminatedF_m (x : FCfg) (h : InvM x.l.c) :
    MI x (terminatedF x).1 ∧ ((terminatedF x).2 = none → (terminatedF x).1.l = x.l.upd onTerminated) := by
  unfold terminatedF
  rcases hookF_shape .onTerminated termBaseF x with ⟨hl, hne⟩ | ⟨x', hl, hb, hn⟩
  · exact ⟨MI.of_like h hl, fun hn => absurd hn hne⟩
  · have m1 := MI.of_like h hl
    have m2 : MI x' (x'.updC releasePause) := MI.updC m1.1 _ (releasePause_tr _) (releasePause_off _).st
    obtain ⟨m3, c4⟩ := closeF_m (x'.updC releasePause) m2.1
    refine ⟨((m1.trans' m2).trans' m3).like hb, fun hh => ?_⟩
    rw [hb.1, show termBaseF x' = closeF (x'.updC releasePause) from rfl, c4 (hn hh), updC_l, hl.1]
    rfl

/-- `on_terminated` that returns has released the pause: the linking invariant is complete again -/
theorem terminatedF_s (x : FCfg) (h : InvM x.l.c) (hn : (terminatedF x).2 = none) : InvS (terminatedF x).1.l.c := by
  obtain ⟨q1, q4⟩ := terminatedF_m x h
  refine q1.1.to_s fun _ _ _ => ?_
  rw [q4 hn, upd_c]
  exact onTerminated_rel _ h.pv

section
variable {N : Hook → FCfg → FCfg}

theorem enteredHooksF_m (hS : NM N) (x : FCfg) (s : SObj) (h : InvM x.l.c) (htr : x.l.trans.isSome = true) :
    MI x (enteredHooksF N x s).1 := by
  unfold enteredHooksF
  refine hookOpt_mi _ _ x h fun x' hl => ?_
  have m0 := MI.of_like h hl
  have m1 : MI x (x'.updC fun c => enteredHooks c s) :=
    m0.trans' (MI.off m0.1 _ (enteredHooks_off _ _))
  unfold enteredBaseF; dsimp only [ok]
  split
  · exact m1.trans' (hS _ _ (m1.isSome htr) m1.1)
  · exact m1

/-- the configurations from which the failing path of `transition_to` can go on: the linking invariant holds up to the pause, and
a state that is no longer entered has completed its wait -/
def MQ (y : FCfg) : Prop := InvM y.l.c ∧ (y.inState = false → Exited y.l.c)

theorem MQ.of_entered {y : FCfg} (h : InvM y.l.c) (hi : y.inState = true) : MQ y :=
  ⟨h, fun hf => by rw [hi] at hf; cases hf⟩

theorem MQ.mi {x y : FCfg} (h : MQ x) (m : MI x y) (w : MonoW x.l.c.wfs y.l.c.wfs) : MQ y :=
  ⟨m.1, fun hf => (h.2 (by rw [← m.2.2.1]; exact hf)).mono m.2.1 w h.1.wv⟩

theorem exitOnceF_m (hS : NM N) (x : FCfg) (h : MQ x) (htr : x.l.trans.isSome = true) :
    MQ (exitOnceF N x).1 ∧ (exitOnceF N x).1.l.c.st = x.l.c.st ∧ (exitOnceF N x).1.l.trans = x.l.trans ∧
    ((exitOnceF N x).2 = none → (exitOnceF N x).1.inState = false) := by
  have hl : Like x (hookOpt (exitHK x.l.c.st.label) ok x).1 := by
    unfold hookOpt; split
    · exact hookF_ok_like _ x
    · exact Like.rfl' x
  unfold exitOnceF
  generalize hookOpt (exitHK x.l.c.st.label) ok x = r at hl
  obtain ⟨y, _ | e⟩ := r
  · have m0 := MI.of_like h.1 hl
    have m1 : MI x (N .exiting y) := m0.trans' (hS _ _ (m0.isSome htr) m0.1)
    refine ⟨⟨m1.1.tr (exitState_tr _) (Or.inl (exitState_off _).st), fun _ => exitState_exited _ m1.1.wv⟩, ?_, m1.2.2.2, fun _ => rfl⟩
    show (exitState (N .exiting y).l.c).st = _
    rw [(exitState_off _).st, m1.2.1]
  · have m0 := MI.of_like h.1 hl
    exact ⟨h.mi m0 (MonoW.of_eq (show y.l.c.wfs = x.l.c.wfs by rw [show y.l = x.l from hl.1])), m0.2.1, m0.2.2.2, fun hn => nomatch hn⟩

theorem exitPhaseF_m (hS : NM N) (x : FCfg) (s : SObj) (h : MQ x) (htr : x.l.trans.isSome = true) :
    MQ (exitPhaseF N x s).1 ∧ (exitPhaseF N x s).1.l.c.st = x.l.c.st ∧ (exitPhaseF N x s).1.l.trans = x.l.trans ∧
    ((exitPhaseF N x s).2 = none → (exitPhaseF N x s).1.inState = false) := by
  unfold exitPhaseF
  obtain ⟨p1, p2, p3, p4⟩ := exitOnceF_m hS x h htr
  generalize exitOnceF N x = r at p1 p2 p3 p4
  obtain ⟨y, _ | e⟩ := r
  · rw [bind_ok]
    split
    · obtain ⟨q1, q2, q3, q4⟩ := exitOnceF_m hS y p1 (by rw [p3]; exact htr)
      exact ⟨q1, q2.trans p2, q3.trans p3, q4⟩
    · exact ⟨p1, p2, p3, fun _ => p4 rfl⟩
  · exact ⟨p1, p2, p3, fun hn => nomatch hn⟩

theorem enteringF_m (hS : NM N) (x : FCfg) (s : SObj) (h : InvM x.l.c) (htr : x.l.trans.isSome = true) :
    MI x (enteringF N x s).1 := by
  have m1 : MI x (hookOpt (enteringHK s) (enteringBaseF s) x).1 := by
    refine hookOpt_mi _ _ x h fun x' hl => ?_
    unfold enteringBaseF
    split
    · exact MI.of_like h hl
    · rename_i c2 hok
      have hst := (enteringHooks_off _ hok).st
      rw [hl.1] at hok hst
      exact ⟨h.tr (.of_off (enteringHooks_off _ hok)) (Or.inl hst), hst, hl.2, by show x'.l.trans = _; rw [hl.1]⟩
  unfold enteringF
  generalize hookOpt (enteringHK s) (enteringBaseF s) x = r at m1
  obtain ⟨y, _ | e⟩ := r
  · exact m1.trans' (hS _ _ (m1.isSome htr) m1.1)
  · exact m1

theorem enterNextF_m (hS : NM N) (x : FCfg) (s : SObj) (h : InvM x.l.c) (hex : Exited x.l.c) (hs : TargetOk x.l.c s)
    (htr : x.l.trans.isSome = true) :
    InvM (enterNextF N x s).1.l.c ∧ (enterNextF N x s).1.inState = true ∧
    ((enterNextF N x s).2 = none → InvS (enterNextF N x s).1.l.c) := by
  unfold enterNextF; dsimp only
  have p := enteredHooksF_m hS { x.updC fun c => setState (enterState c s) s with inState := true } s
    (setState_invM _ _ h hex hs) htr
  generalize enteredHooksF N { x.updC fun c => setState (enterState c s) s with inState := true } s = r at p
  obtain ⟨y, _ | e⟩ := r
  · rw [bind_ok]
    split
    · rename_i ht
      have q := (terminatedF_m y p.1).1
      exact ⟨q.1, q.2.2.1.trans p.2.2.1, terminatedF_s y p.1⟩
    · rename_i ht
      refine ⟨p.1, p.2.2.1, fun _ => p.1.to_s fun _ _ htt => ?_⟩
      have htt' : terminal y.l.c.st.label = true := htt
      rw [show y.l.c.st = s from p.2.1] at htt'
      exact absurd htt' ht
  · exact ⟨p.1, p.2.2.1, fun hn => nomatch hn⟩

theorem lateExitF_m (x : FCfg) (h : MQ x) : InvM (lateExitF x).l.c ∧ Exited (lateExitF x).l.c ∧
    (lateExitF x).l.trans = x.l.trans := by
  unfold lateExitF
  split
  · exact ⟨h.1.tr (exitState_tr _) (Or.inl (exitState_off _).st), exitState_exited _ h.1.wv, rfl⟩
  · rename_i hc
    refine ⟨h.1, ?_, rfl⟩
    cases hi : x.inState with
    | false => exact h.2 hi
    | true =>
      -- still entered, hence terminal: not a WAITING state
      have ht : terminal x.l.c.st.label = true := by
        cases ht : terminal x.l.c.st.label with
        | true => rfl
        | false => simp [hi, ht] at hc
      exact exited_of_not_waiting (fun fn wf wk aw hs => (not_live_of_terminal ht).2.2 fn wf wk aw hs)

theorem forceExceptedF_m (hS : NM N) (hq : FQF N) (x : FCfg) (e : Exc) (h : MQ x) (hc : x.l.c.closed = false) :
    (forceExceptedF N x e).1.inState = true ∧ ((forceExceptedF N x e).2 = none → InvS (forceExceptedF N x e).1.l.c) := by
  rw [forceExceptedF_open N x e hc]
  obtain ⟨w1, w2, w3⟩ := lateExitF_m (x.updL fun l => { l with trans := some Label.excepted }) h
  generalize lateExitF (x.updL fun l => { l with trans := some Label.excepted }) = x1 at w1 w2 w3 ⊢
  have htr1 : x1.l.trans.isSome = true := by rw [w3]; rfl
  -- `on_except`, the other ENTERING callbacks
  have m2 : MI x1 (x1.updC fun c => setFutExc c e) := MI.off w1 _ (setFutExc_off _ e)
  have m3 : MI x1 (N .entering (x1.updC fun c => setFutExc c e)) := m2.trans' (hS _ _ htr1 m2.1)
  have hx3 : Exited (N .entering (x1.updC fun c => setFutExc c e)).l.c :=
    w2.mono m3.2.1 (MonoW.trans (.of_eq (setFutExc_off _ e).wfs) (hq .entering (x1.updC fun c => setFutExc c e)).wfs) w1.wv
  exact (enterNextF_m hS _ (.excepted e) m3.1 hx3 (targetOk_excepted _ e) (m3.isSome htr1)).2

theorem tryTransitionF_m (hS : NM N) (hq : FQF N) (x : FCfg) (s : SObj) (h : MQ x) (hc : x.l.c.closed = false)
    (hs : TargetOk x.l.c s) (htr : x.l.trans.isSome = true) :
    MQ (tryTransitionF N x s).1 ∧ ((tryTransitionF N x s).2 = none → InvS (tryTransitionF N x s).1.l.c ∧
      (tryTransitionF N x s).1.inState = true) := by
  unfold tryTransitionF
  split
  · rw [if_neg (by rw [hc]; exact Bool.false_ne_true)]
    obtain ⟨p1, _, p3, p4⟩ := exitPhaseF_m hS x s h htr
    have pq := qf_leaves.exitPhaseF hq x s
    generalize exitPhaseF N x s = r at p1 p3 p4 pq
    obtain ⟨y, _ | e⟩ := r
    · rw [bind_ok]
      have htry : y.l.trans.isSome = true := by rw [show y.l.trans = x.l.trans from p3]; exact htr
      have q := enteringF_m hS y s p1.1 htry
      have qq := qf_leaves.enteringF hq y s
      generalize enteringF N y s = r at q qq
      obtain ⟨z, _ | e⟩ := r
      · rw [bind_ok]
        have q1 : MQ z := p1.mi q (show QQ y.l z.l from qq).wfs
        have hts : TargetOk z.l.c s := hs.mono (MonoW.trans (show QQ x.l y.l from pq).wfs (show QQ y.l z.l from qq).wfs)
        obtain ⟨r1, r2, r4⟩ := enterNextF_m hS z s q1.1 (q1.2 (q.2.2.1.trans (p4 rfl))) hts (q.isSome htry)
        exact ⟨MQ.of_entered r1 r2, fun hn => ⟨r4 hn, r2⟩⟩
      · exact ⟨p1.mi q (show QQ y.l z.l from qq).wfs, fun hn => nomatch hn⟩
    · exact ⟨p1, fun hn => nomatch hn⟩
  · exact ⟨h, fun hn => nomatch hn⟩

/-- the fault is not one of the two hooks that also run in the failing path of `transition_to` -/
def NoTC (a0 : Arm) : Prop := ¬ (a0.hk = .onTerminated ∨ a0.hk = .onClose)

theorem NoTC.afterClose {a : Arm} (h : NoTC a) : afterClose a = false := by
  unfold FP.afterClose
  cases a.after with
  | false => rfl
  | true => simpa using ⟨fun e => h (Or.inl e), fun e => h (Or.inr e)⟩

variable {a0 : Arm}

theorem transitionToF_s (hN : NK a0 N) (hS : NM N) (hq : FQF N) (hac : afterClose a0 = false)
    (x : FCfg) (s : SObj) (hk : K a0 x) (hi : InvS x.l.c) (hin : x.inState = true)
    (hl : terminal x.l.c.st.label = false) (hs : TargetOk x.l.c s) :
    ((transitionToF N x s).2 = none ∨ Bad a0 (transitionToF N x s).1) ∧
    ((transitionToF N x s).2 = none → InvS (transitionToF N x s).1.l.c ∧ (transitionToF N x s).1.inState = true) := by
  refine ⟨(transitionToF_K' hN x s hk hac hl).2, ?_⟩
  have hlive : LiveW x.l.c := (hk.kg_of_live hl).1.live hl
  unfold transitionToF
  rw [if_neg (by rw [hk.tr]; exact Bool.false_ne_true)]
  dsimp only
  generalize hx0 : (x.updL fun l => { l with trans := some s.label }) = x0
  have hsp := tryTransitionF_spec hN x0 s (by rw [← hx0]; exact hk.arm.updL _) hac (by rw [← hx0]; rfl) (by rw [← hx0]; exact hlive)
  obtain ⟨p1, p2⟩ := tryTransitionF_m hS hq x0 s (by rw [← hx0]; exact MQ.of_entered (InvM.of_s hi) hin)
    (by rw [← hx0]; exact hlive.2.1) (by rw [← hx0]; exact hs) (by rw [← hx0]; rfl)
  generalize tryTransitionF N x0 s = r at p1 p2 hsp
  obtain ⟨y, _ | e⟩ := r
  · exact p2
  · have hyc : y.l.c.closed = false := by
      rcases hsp with ⟨h1, _⟩ | ⟨e', h1, h2, _⟩
      · cases h1
      · exact h2
    obtain ⟨f2, f3⟩ := forceExceptedF_m hS hq y e p1 hyc
    exact fun hr2 => ⟨f3 hr2, f2⟩

end

/-- a fault that is not `on_terminated` / `on_close` -/
def armD : Arm := ⟨.onRun, 0, false⟩

theorem armD_notc : NoTC armD := by unfold NoTC armD; intro h; rcases h with h | h <;> cases h

section
variable {a0 : Arm} {N : Hook → FCfg → FCfg}

/-- `transitionToF_s` assumes of the notification function only what it keeps inside a transition (`NM`), which does not mention
the fault; with the hypothesis `NS a N` for a fixed fault `a` — of which only the fields `m` / `mst` are used — it reads: -/
theorem transitionToF_s2 (hN : NK a0 N) (hS : NS armD N) (hq : FQF N) (hac : afterClose a0 = false)
    (x : FCfg) (s : SObj) (hk : K a0 x) (hi : InvS x.l.c) (hin : x.inState = true)
    (hl : terminal x.l.c.st.label = false) (hs : TargetOk x.l.c s) :
    ((transitionToF N x s).2 = none ∨ Bad a0 (transitionToF N x s).1) ∧
    ((transitionToF N x s).2 = none → InvS (transitionToF N x s).1.l.c ∧ (transitionToF N x s).1.inState = true) :=
  transitionToF_s hN hS.nm hq hac x s hk hi hin hl hs

end
end FP
end PMF
