import PlumpyModel.Fault.Proof11
/-!
# Fault twins — the linking invariant through the closing part of a step, the stepping task, every event, every run

`JF`: `Inv10` of `PM/Proof10.lean` on the `Cfg` part (the stepping task has not crashed; blocked on a waiting future it holds the one
the current state owns or a completed one; blocked on a pause future it holds the current one or a released one; the interrupt slot
never holds an action that already ran) + "the current state is entered".  For every fault, every event leads from `JF` to `Bad` or
`JF` (`JB`, `stepF_jb`): a transition lets an exception propagate to its caller only when the result is `Bad`, and since `Bad` is
absorbing (`Bad.run`) whatever follows inside the same event is `Bad` again.  So in a run whose final configuration is not `Bad` the
linking invariant holds in the final configuration, whatever the injected fault was (`runF_jf2`, `stepperF_returns_run2`).  `Bad`
needs the fault to be `on_terminated` / `on_close` (those two also run in the failing path of `transition_to`, where a second failure
propagates), so for the other hooks (`NoTC`) `JF` holds in every configuration of a run without that hypothesis (`runF_jf`).
-/
namespace PMF
namespace FP
open L

section
variable {a0 : Arm} {N : Hook → FCfg → FCfg}

/-- what the closing part of a step carries: the invariant `K`, the linking invariant with the state entered, and the pause future the
task was blocked on (if any) released -/
def KS (a0 : Arm) (x : FCfg) : Prop := K a0 x ∧ SI x ∧ Hq x.l.c

/-- what a piece of the closing part of a step leaves: `Bad`, or `KS` with nothing propagating -/
def RB (a0 : Arm) (r : Res) : Prop := Bad a0 r.1 ∨ (KS a0 r.1 ∧ r.2 = none)

theorem KS.ar {x : FCfg} (h : KS a0 x) (f : Cfg → Cfg) {W : List Fld} (o : Off W x.l.c (f x.l.c))
    (h1 : ∀ g ∈ [Fld.st, .fut, .closed, .cleanups, .notif], g ∉ W := by decide)
    (h2 : ∀ g ∈ [Fld.pc, .st, .wfs, .pfs, .paused, .stepping, .closed], g ∉ W := by decide) : KS a0 (x.updC f) :=
  ⟨h.1.fr (.of_off o h1), h.2.1.updC _ (h.2.1.1.ar (.of_off o h2)), h.2.2.ar (.of_off o h2)⟩

/-- `Bad` stays when the piece is followed by something that leaves a terminated process as it is -/
theorem RB.bind {r : Res} {k : FCfg → Res} (h : RB a0 r) (ht : ∀ y, TM y (k y).1) (hk : ∀ y, KS a0 y → RB a0 (k y)) :
    RB a0 (bind r k) := by
  rcases h with hb | ⟨h1, e1⟩
  · exact Or.inl (hb.tm (bind_rel (R := TM) TM.trans' (TM.rfl' _) ht))
  · obtain ⟨y, ye⟩ := r
    cases e1
    exact hk y h1

/-- storing the outcome of the action: nothing propagates any more (repair e94edb5) -/
theorem setDone_rb (i : Nat) (st : AStatus) (y : FCfg) (h : Bad a0 y ∨ KS a0 y) :
    RB a0 (ok (if actionStatus y.l.c i = AStatus.pending then y.updC (fun c => setActionStatus c i st) else y)) := by
  show Bad a0 (if _ then _ else y) ∨ (KS a0 (if _ then _ else y) ∧ _)
  split
  · exact h.elim (fun hb => Or.inl (hb.tm (TM.off _ _ (setActionStatus_off ..)))) fun h =>
      Or.inr ⟨h.ar _ (setActionStatus_off ..), rfl⟩
  · exact h.elim Or.inl fun h => Or.inr ⟨h, rfl⟩

theorem storeOutcome_rb (i : Nat) (r : Res) : (Bad a0 r.1 ∨ KS a0 r.1) →
    RB a0 (match r with
      | (x, none) => ok (if actionStatus x.l.c i = AStatus.pending then x.updC (fun c => setActionStatus c i .done) else x)
      | (x, some e) =>
          ok (if actionStatus x.l.c i = AStatus.pending then x.updC (fun c => setActionStatus c i (.failed e)) else x)) := by
  obtain ⟨y, _ | e⟩ := r
  · exact setDone_rb i .done y
  · exact setDone_rb i (.failed e) y

theorem transitionToF_rb (hA : NB a0 N) (hac : afterClose a0 = false) (x : FCfg) (s : SObj) (h : KS a0 x)
    (hl : terminal x.l.c.st.label = false) (ht : TargetOk x.l.c s) : RB a0 (transitionToF N x s) := by
  obtain ⟨r0, r1⟩ := transitionToF_s hA.k hA.m hA.q hac x s h.1 h.2.1.1 h.2.1.2 hl ht
  exact r0.elim (fun h0 => Or.inr ⟨⟨(transitionToF_K' hA.k x s h.1 hac hl).1, r1 h0, Hq.qq h.2.2 (transitionToF_qf hA.q x s)⟩, h0⟩)
    Or.inl

theorem runActionF_rb (hA : NB a0 N) (hac : afterClose a0 = false) (x : FCfg) (i : Nat) (next : Option SObj)
    (h : KS a0 x) (hl : terminal x.l.c.st.label = false) (hM : RunOk x.l.c i next)
    (ht : ∀ s, next = some s → TargetOk x.l.c s) :
    RB a0 (runActionF N x i next) := by
  have pause : ∀ y : FCfg, KS a0 y → (∀ pf, y.l.c.pc = .awaitPaused pf → terminal y.l.c.st.label = false) →
      Bad a0 (doPauseF N y).1 ∨ KS a0 (doPauseF N y).1 := fun y hy ly =>
    (doPauseF_sb hA y hy.1 hy.2.1 hy.2.2 ly).imp id fun hs =>
      ⟨(k_step hA.k hac).doPauseF y hy.1, hs, Hq.qq hy.2.2 (qf_leaves.doPauseF hA.q y)⟩
  unfold runActionF
  split
  · exact Or.inr ⟨h, rfl⟩
  · rename_i a ha
    rw [if_neg fun hne => hne (hM.1 a ha)]
    apply storeOutcome_rb
    split
    · cases next with
      | none => exact pause x h fun _ _ => hl
      | some s =>
        dsimp only
        obtain ⟨r0, r1⟩ := transitionToF_s hA.k hA.m hA.q hac x s h.1 h.2.1.1 h.2.1.2 hl (ht s rfl)
        have tk := (transitionToF_K' hA.k x s h.1 hac hl).1
        have tq := transitionToF_qf hA.q x s
        generalize transitionToF N x s = r at r0 r1 tk tq
        obtain ⟨y, _ | e⟩ := r
        · have hy : KS a0 y := ⟨tk, r1 rfl, Hq.qq h.2.2 tq⟩
          show Bad a0 (if y.l.c.pausing.isNone then ok y else doPauseF N y).1 ∨
            KS a0 (if y.l.c.pausing.isNone then ok y else doPauseF N y).1
          split
          · exact Or.inr hy
          · refine pause y hy fun pf hpf => ?_
            -- a pause action whose step has a next state was not requested while the task waited on the pause future
            rw [(show QQ x.l y.l from tq).pc] at hpf
            cases hM.2 ⟨pf, hpf⟩
        · exact Or.inl ((r0.resolve_left (fun h0 => nomatch h0)).tm (TM.off _ _ (Off.set _ .pausing none)))
    · have t := transitionToF_rb hA hac x .killed h hl (targetOk_killed _)
      generalize transitionToF N x .killed = r at t
      exact t.elim (fun hb => Or.inl (hb.tm (TM.off _ _ (Off.set _ .killing none)))) fun ⟨t1, _⟩ =>
        Or.inr (t1.ar _ (Off.set _ .killing none))

theorem enactLoopF_rb (hA : NB a0 N) (hac : afterClose a0 = false) : ∀ (n : Nat) (x : FCfg), KS a0 x → RB a0 (enactLoopF N n x)
  | 0, _, h => Or.inr ⟨h, rfl⟩
  | n+1, x, h => by
    unfold enactLoopF
    split
    · rename_i i _
      split
      · rename_i hc
        simp only [Bool.and_eq_true, decide_eq_true_eq, Bool.not_eq_true'] at hc
        exact (runActionF_rb hA hac x i none h hc.2 ⟨pending_of_status hc.1, fun _ => rfl⟩ (fun s hs => nomatch hs)).bind
          (enactLoopF_tm n) (enactLoopF_rb hA hac n)
      · exact Or.inr ⟨h, rfl⟩
    · exact Or.inr ⟨h, rfl⟩

theorem dispatchF_rb (hA : NB a0 N) (hac : afterClose a0 = false) (x : FCfg) (next : Option SObj) (h : KS a0 x) (hia : IA x.l.c)
    (hn : (∃ pf, x.l.c.pc = .awaitPaused pf) → x.l.c.interrupt = none ∨ next = none)
    (ht : ∀ s, next = some s → TargetOk x.l.c s) :
    RB a0 (dispatchF N x next) := by
  unfold dispatchF
  split
  · exact Or.inr ⟨h, rfl⟩
  · rename_i hl
    have hl' : terminal x.l.c.st.label = false := Bool.eq_false_iff.mpr hl
    refine RB.bind ?_ (fun y => enactLoopF_tm _ y) fun y => enactLoopF_rb hA hac _ y
    have nominal : RB a0 (match (generalizing := false) next with | some s => transitionToF N x s | none => ok x) := by
      cases next with
      | none => exact Or.inr ⟨h, rfl⟩
      | some s => exact transitionToF_rb hA hac x s h hl' (ht s rfl)
    unfold dispatch1F
    split
    · rename_i i hint
      split
      · rename_i hnc; exact runActionF_rb hA hac x i next h hl' (RunOk.of_ia hia hn hint hnc) ht
      · exact nominal
    · exact nominal

theorem endOfStepF_eq (x : FCfg) (r : StepEnd) :
    endOfStepF N x r =
      match (dispatchF N ((x.updL fun l => { l with executing := false }).setC (prepare x.l.c r).1) (prepare x.l.c r).2).2 with
      | none => (dispatchF N ((x.updL fun l => { l with executing := false }).setC (prepare x.l.c r).1) (prepare x.l.c r).2).1.updC finally_
      | some e => ((dispatchF N ((x.updL fun l => { l with executing := false }).setC (prepare x.l.c r).1)
          (prepare x.l.c r).2).1.updC finally_).updC (fun c => { c with pc := .crashed e }) := rfl

theorem endOfStepF_tick (hA : NB a0 N) (hac : afterClose a0 = false) (x : FCfg) (r : StepEnd) (k : K a0 x)
    (h : StepIn (fun _ => True) x.l.c) (hi : x.inState = true) (hr : ∀ s, r = .next (some s) → TargetOk x.l.c s) :
    Bad a0 (endOfStepF N x r) ∨
      (Tick (fun _ => True) (endOfStepF N x r).l.c ∧ K a0 (endOfStepF N x r) ∧ (endOfStepF N x r).inState = true) := by
  have a : AR x.l.c (prepare x.l.c r).1 := .of_off (prepare_off x.l.c r)
  have d := dispatchF_rb hA hac ((x.updL fun l => { l with executing := false }).setC (prepare x.l.c r).1) (prepare x.l.c r).2
    ⟨(k.fr (Fr.updL' x _ rfl rfl)).fr (.of_off (prepare_off ..)), ⟨h.s.ar a, hi⟩, h.q.ar a⟩ (prepare_ia x.l.c r h.ia)
    (prepare_hn_pc x.l.c r h.qi) (prepare_target x.l.c r hr)
  rw [endOfStepF_eq]
  generalize dispatchF N ((x.updL fun l => { l with executing := false }).setC (prepare x.l.c r).1) (prepare x.l.c r).2 = rr at d ⊢
  obtain ⟨y, ye⟩ := rr
  rcases d with hb | ⟨⟨d0, d1, d2⟩, d3⟩
  · have hb1 : Bad a0 (y.updC finally_) := hb.tm (TM.off _ _ (finally_off _))
    cases ye with
    | none => exact Or.inl hb1
    | some e => exact Or.inl (hb1.tm (TM.off _ _ (Off.set _ .pc _)))
  · cases d3
    exact Or.inr ⟨⟨finally_invS _ d1.1, finally_hq _ d2, trivial, finally_interrupt _, finally_stepping _⟩,
      d0.fr (.of_off (finally_off _)), d1.2⟩

/-- the invariant between two events -/
structure JF (a0 : Arm) (x : FCfg) : Prop where
  k : K a0 x
  s : SI x
  ia : IA x.l.c
  qi : PMF.Quiet x.l.c → x.l.c.interrupt = none
  qs : PMF.Quiet x.l.c → x.l.c.stepping = false

def JB (a0 : Arm) (x : FCfg) : Prop := Bad a0 x ∨ JF a0 x

theorem JF.old {x : FCfg} (h : JF a0 x) : Inv10 x.l.c := ⟨h.s.1, h.ia, h.qi, h.qs⟩

theorem jf_of_old {y : FCfg} (k : K a0 y) (h : Inv10 y.l.c) (hi : y.inState = true) : JF a0 y :=
  ⟨k, ⟨h.s, hi⟩, h.ia, h.qi, h.qs⟩

theorem JF.off {x : FCfg} (h : JF a0 x) (f : Cfg → Cfg) {W : List Fld} (o : Off W x.l.c (f x.l.c))
    (hW : ∀ g ∈ [Fld.st, .pc, .interrupt, .actions, .stepping, .paused, .wfs, .pfs, .fut, .closed, .cleanups, .notif], g ∉ W := by
      decide) : JF a0 (x.updC f) :=
  jf_of_old (h.k.fr (.of_off o fun g hg => hW g (by revert g; decide)))
    (h.old.off o fun g hg => hW g (by revert g; decide)) h.s.2

theorem JB.off {x : FCfg} (h : JB a0 x) (f : Cfg → Cfg) {W : List Fld} (o : Off W x.l.c (f x.l.c))
    (hW : ∀ g ∈ [Fld.st, .pc, .interrupt, .actions, .stepping, .paused, .wfs, .pfs, .fut, .closed, .cleanups, .notif], g ∉ W := by
      decide) : JB a0 (x.updC f) :=
  h.elim (fun hb => Or.inl (hb.tm (TM.off _ _ o (hW _ (by decide))))) fun h => Or.inr (h.off f o hW)

/-- a control call outside a step: the frame `QQ` carries what `SB` does not say -/
theorem jb_of_qf {x y : FCfg} (h : JF a0 x) (q : QF x y) (k : K a0 y) (s : SB a0 y) : JB a0 y :=
  s.imp id fun s => jf_of_old k (Inv10.of_qq h.old q s.1) s.2

theorem bad_keeps : Task.Keeps (Task.flt N) (Bad a0) where
  start _ h := h.tm (TM.of_eq rfl id)
  setPc _ _ h := h.tm (TM.off _ _ (Off.set _ .pc _))
  activate _ _ _ _ _ _ h := h.tm (TM.off _ _ (Off.set _ .trace _))
  alloc x _ h := h.tm (TM.updC x _ fun _ => (cmdToState_off ..).st)
  rearm x wf h := h.tm (TM.updC x (fun c => L.rearm c wf) fun ht => by rw [rearm_fix _ _ ht])

theorem k_keeps (hN : NK a0 N) (hac : afterClose a0 = false) : Task.Keeps (Task.flt N) fun x => K a0 x ∧ x.inState = true where
  start x h := ⟨(k_step hN hac).off (x := x.updL fun l => { l with executing := true }) (Off.set x.l.c .stepping true)
    ((k_step hN hac).setExecuting x true h.1), h.2⟩
  setPc x p h := ⟨h.1.fr (.of_off (Off.set x.l.c .pc p)), h.2⟩
  activate x fn args kw hst _ h := ⟨(k_step hN hac).activate x fn args kw hst h.1, h.2⟩
  alloc x cmd h := ⟨(k_step hN hac).alloc x cmd h.1, h.2⟩
  rearm x wf h := ⟨(k_step hN hac).rearm x wf h.1, h.2⟩

/-- **the linking invariant through the stepping task of the twins**: `inv10_taskB` of `PM/Proof10.lean` with the alternative `Bad`;
`K` and "the current state is entered" go along -/
theorem tickStepperF_jb (hA : NB a0 N) (hac : afterClose a0 = false) (P : Prog) (x : FCfg) (h : JF a0 x) :
    JB a0 (tickStepperF N P x) := by
  have := (inv10_taskB bad_keeps (k_keeps hA.k hac) (fun x d hl => ((d.1.kg_of_live hl).1.live hl).2.1) fun x r ht h =>
    h.elim (fun hb => Or.inl (hb.tm (endOfStepF_tm x r))) fun ⟨s, k, i⟩ => endOfStepF_tick hA hac x r k s i ht).tickStepper
      P (ProgCmds.true P) x (PcCmds.true _) (Or.inr ⟨h.old, h.k, h.s.2⟩)
  rw [Task.tickStepper_flt] at this
  exact this.imp id fun ⟨i, k, s⟩ => jf_of_old k i s

theorem toLoop_jb (r : FCfg × RetV) (h : JB a0 r.1) : JB a0 (toLoop r) := by
  unfold toLoop; split
  · exact h.off _ (Off.set _ .loopErrs _)
  · exact h

theorem killF_jb (hA : NB a0 N) (hac : afterClose a0 = false) (x : FCfg) (h : JF a0 x) : JB a0 (killF N x).1 :=
  jb_of_qf h (qf_leaves.killF hA.q x) ((k_step hA.k hac).killF x h.k) (killF_sb hA hac x h.k h.s)

theorem failF_jb (hA : NB a0 N) (hac : afterClose a0 = false) (x : FCfg) (e : Exc) (h : JF a0 x) : JB a0 (failF N x e).1 :=
  jb_of_qf h (qf_leaves.failF hA.q x e) ((k_step hA.k hac).failF x e h.k) (failF_sb hA hac x e h.k h.s)

theorem tickCbF_jb (hA : NB a0 N) (hac : afterClose a0 = false) (x : FCfg) (cb : Cb) (h : JF a0 x) :
    JB a0 (tickCbF N x cb) := by
  unfold tickCbF
  split
  · have h1 : JF a0 (x.updC fun c => { c with ready := c.ready.erase cb }) := h.off _ (Off.set _ .ready _)
    split
    · exact Or.inr (jf_of_old (h1.k.fr (.live _ _ (awaitableDone_same2 ..) fun ht => (awaitableDone_fix _ _ ht).1))
        (awaitableDone_inv10 _ _ h1.old) h1.s.2)
    · unfold tryKillingF
      exact (toLoop_jb _ (killF_jb hA hac _ h1)).off _ (Off.set _ .handed _)
    · split
      · exact toLoop_jb _ (failF_jb hA hac _ _ h1)
      · exact Or.inr h1
  · exact Or.inr h

theorem stepFN_jb (hA : NB a0 N) (hac : afterClose a0 = false) (P : Prog) (x : FCfg) (ev : Ev) (h : JF a0 x) :
    JB a0 (stepFN N P x ev).1 := by
  have hkr := (k_step hA.k hac).stepFN P x ev (fun _ _ _ _ _ => trivial) h.k
  cases ev with
  | tick => exact tickStepperF_jb hA hac P x h
  | tickCb cb => exact tickCbF_jb hA hac x cb h
  | pause => exact jb_of_qf h (qf_leaves.pauseF hA.q x) hkr (pauseF_sb hA x h.k h.s)
  | play => exact jb_of_qf h (qf_leaves.playF hA.q x) hkr (playF_sb hA x h.k h.s)
  | kill => exact killF_jb hA hac x h
  | resume v => exact Or.inr (jf_of_old hkr (resume_inv10 x.l.c v h.old) h.s.2)
  | fail e => exact failF_jb hA hac x e h
  | cancelFut => exact Or.inr (jf_of_old hkr (h.old.off (cancelFut_off x.l.c)) h.s.2)
  | complete f o => exact Or.inr (h.off _ (complete_off ..))
  | callSoon r => exact Or.inr (h.off _ (Off.set _ .ready _))

end

theorem stepF_jb {a0 : Arm} (hac : afterClose a0 = false) (P : Prog) (x : FCfg) (ev : Ev) (h : JB a0 x) :
    JB a0 (stepF P x ev).1 :=
  h.elim (fun hb => Or.inl (hb.step P ev)) (stepFN_jb (fireNF_nb hac _) hac P x ev)

theorem runF_jf {a0 : Arm} (hac : afterClose a0 = false) (hnb : NoTC a0) (P : Prog) (x0 : FCfg) (evs : List Ev) (h : JF a0 x0) :
    JF a0 (runF P x0 evs) :=
  runF_ind (fun x e h => (stepF_jb hac P x e (Or.inr h)).resolve_left hnb.not_bad) evs x0 h

theorem initX_jf (a0 : Arm) (nf : Nat) (plan : Plan) : JF a0 (initX nf plan (some a0)) :=
  jf_of_old (initX_K a0 nf plan) (inv10_init nf) rfl

section
variable {a0 : Arm} {N : Hook → FCfg → FCfg}

/-- everything assumed of the notification function of a fault that is not `on_terminated` / `on_close` -/
structure NA (a0 : Arm) (N : Hook → FCfg → FCfg) : Prop where
  k : NK a0 N
  s : NS a0 N
  q : FQF N

theorem runActionF_K' (hA : NA a0 N) (hac : afterClose a0 = false) (x : FCfg) (i : Nat) (next : Option SObj) (hk : K a0 x)
    (hl : terminal x.l.c.st.label = false) : K a0 (runActionF N x i next).1 :=
  (k_step hA.k hac).runActionF x i next hl (fun _ _ _ => trivial) hk

end

theorem fireNF_na {a0 : Arm} (hac : afterClose a0 = false) (hnb : NoTC a0) (n : Nat) : NA a0 (fireNF n) :=
  ⟨fireNF_nk hac n, fireNF_ns hac hnb n, fireNF_qf n⟩

theorem runF_jb {a0 : Arm} (hac : afterClose a0 = false) (P : Prog) (x0 : FCfg) (evs : List Ev) (h : JB a0 x0) :
    JB a0 (runF P x0 evs) :=
  runF_ind (stepF_jb hac P) evs x0 h

theorem runF_jf2 {a0 : Arm} (hac : afterClose a0 = false) (P : Prog) (nf : Nat) (plan : Plan) (evs : List Ev)
    (hnb : ¬ Bad a0 (runF P (initX nf plan (some a0)) evs)) : JF a0 (runF P (initX nf plan (some a0)) evs) :=
  (runF_jb hac P _ evs (Or.inr (initX_jf a0 nf plan))).resolve_left hnb

theorem not_bad_prefix {a0 : Arm} (P : Prog) (x0 : FCfg) (evs evs' : List Ev) (hnb : ¬ Bad a0 (runF P x0 (evs ++ evs'))) :
    ¬ Bad a0 (runF P x0 evs) := by
  intro hb
  apply hnb
  have : runF P x0 (evs ++ evs') = runF P (runF P x0 evs) evs' := by unfold runF; rw [List.foldl_append]
  rw [this]; exact hb.run P evs'

/-- **`step_until_terminated()` returns after a hook fault, every hook**: in every terminated configuration of a run that is not
`Bad`, finitely many wake-ups end the stepping task normally -/
theorem stepperF_returns_run2 {a0 : Arm} (hac : afterClose a0 = false) (P : Prog) (nf : Nat) (plan : Plan)
    (evs : List Ev) (ht : terminal (runF P (initX nf plan (some a0)) evs).l.c.st.label = true)
    (hnb : ¬ Bad a0 (runF P (initX nf plan (some a0)) evs)) :
    ∃ n, (runF P (runF P (initX nf plan (some a0)) evs) (List.replicate n .tick)).l.c.pc = .done := by
  obtain ⟨n, hn⟩ := (runF_jf2 hac P nf plan evs hnb).s.1.ticks_end P ht
  exact ⟨n, by rw [ticksF_terminal_c P n _ ht]; exact hn⟩

end FP
end PMF
