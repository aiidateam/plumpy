import PlumpyModel.Fault.Proof1
import PlumpyModel.PM.LProof1
/-!
# Fault twins — `transition_to` with the armed fault keeps `K`

The pieces of `transition_to` in the order of the source; for each the configurations it can leave when the fault fires in it
(before / after the base implementation) and when it does not.  `NK`: what the notification function may be assumed to do —
it keeps `K` (outside a transition) and cannot touch the lifecycle inside one (`transition_to` asserts that no transition is in
progress; `pause()` / `kill()` defer while stepping).  `ExcRes`: what a phase of the `try` block leaves behind when an exception
propagates out of it — the process is not closed, no cleanup has run, and the exception is the fault (which has fired, nothing armed
any more) or an error of the state machine itself (the fault untouched).  `transitionToF_K'`: a transition of a live process keeps
`K`, and nothing propagates to its caller except in the `Bad` case.
-/
namespace PMF
namespace FP
open L

def CR (c : Cfg) (y : FCfg) (tr : Option Label) : Prop := Same2 c y.l.c ∧ y.l.c.st = c.st ∧ y.l.trans = tr

structure NK (a0 : Arm) (N : Hook → FCfg → FCfg) : Prop where
  inv : ∀ h x, K a0 x → K a0 (N h x)
  tq : ∀ h x, x.l.trans.isSome = true → ArmOk a0 x →
    CR x.l.c (N h x) x.l.trans ∧ ArmOk a0 (N h x) ∧ (mainHK a0.hk = true → (N h x).fired = x.fired)

theorem afterClose_false {a0 : Arm} (hac : afterClose a0 = false) (hk : a0.hk = .onTerminated ∨ a0.hk = .onClose) :
    a0.after = false := by
  unfold afterClose at hac
  rcases hk with hk | hk <;> simp [hk] at hac <;> exact hac

section
variable {a0 : Arm}

theorem ArmOk.updC {x : FCfg} (h : ArmOk a0 x) (f : Cfg → Cfg) : ArmOk a0 (x.updC f) := h
theorem ArmOk.updL {x : FCfg} (h : ArmOk a0 x) (f : LCfg → LCfg) : ArmOk a0 (x.updL f) := h
theorem ArmOk.setC {x : FCfg} (h : ArmOk a0 x) (c : Cfg) : ArmOk a0 (x.setC c) := h

theorem hookF_pure (hk : HK) (f : Cfg → Cfg) (x : FCfg) (h : ArmOk a0 x) :
    ∃ y e, hookF hk (fun x => ok (x.updC f)) x = (y, e) ∧ y.rep = x.rep ∧
      ((e = none ∧ y.l = x.l.upd f ∧ y.fired = x.fired ∧ ArmOk a0 y ∧ y.called = x.called ∧ (x.arm = none → y.arm = none)) ∨
       (e = some faultExc ∧ a0.hk = hk ∧ ((y.l = x.l ∧ a0.after = false) ∨ (y.l = x.l.upd f ∧ a0.after = true)) ∧
         y.fired = true ∧ y.arm = none ∧ x.fired = false ∧ x.arm ≠ none)) := by
  rcases hookF_cases hk (fun x => ok (x.updC f)) x h with
    ⟨hhk, haf, hnf, hxa, y, hy, h1, h2, h3, h4⟩ | ⟨x', hl, hf, hr, hao, han, hcase⟩
  · exact ⟨y, _, hy, h4.1, Or.inr ⟨rfl, hhk, Or.inl ⟨h1, haf⟩, h2, h3, hnf, hxa⟩⟩
  · have hb : ∀ {y : FCfg} {e}, ok (x'.updC f) = (y, e) → y = x'.updC f ∧ e = none := fun hb => by cases hb; exact ⟨rfl, rfl⟩
    have hlf : (x'.updC f).l = x.l.upd f := congrArg (·.upd f) hl
    rcases hcase with ⟨hhk, haf, hnf, hxa, _, ⟨y, _, e, hb', _⟩ | ⟨y, y', hb', hy, hu1, hu2, hu3, hfy⟩⟩ |
      ⟨y, _, e, hb', _⟩ | ⟨y, y', e, hb', hy, _, hu, hfy, hcalled⟩
    · cases (hb hb').2
    · obtain ⟨rfl, _⟩ := hb hb'
      exact ⟨y', _, hy, hu2.trans hr, Or.inr ⟨rfl, hhk, Or.inr ⟨hu1.trans hlf, haf⟩, hfy.1, hu3, hnf, hxa⟩⟩
    · cases (hb hb').2
    · obtain ⟨rfl, _⟩ := hb hb'
      obtain ⟨rfl, hc'⟩ := hcalled rfl
      exact ⟨y', _, hy, hu.2.2.1.trans hr, Or.inl ⟨rfl, hu.1.trans hlf, hfy.trans hf, (hao.updC f).of_eq hu.2.1 hfy, hc',
        fun hn => hu.2.1.trans (han.1 hn)⟩⟩

theorem closeF_spec (x : FCfg) (h : ArmOk a0 x) (hac : afterClose a0 = false) (hc : x.l.c.closed = false) :
    ((closeF x).2 = none ∧ (closeF x).1.l = x.l.upd onClose ∧ (closeF x).1.fired = x.fired ∧ ArmOk a0 (closeF x).1 ∧
      (closeF x).1.called = x.called ∧ (x.arm = none → (closeF x).1.arm = none)) ∨
    ((closeF x).2 = some faultExc ∧ (closeF x).1.l = x.l ∧ (closeF x).1.fired = true ∧ (closeF x).1.arm = none ∧
      x.fired = false ∧ x.arm ≠ none ∧ a0.hk = .onClose) := by
  unfold closeF
  simp only [hc, Bool.false_eq_true, if_false]
  obtain ⟨y, e, hy, _, hcase⟩ := hookF_pure .onClose onClose x h
  rw [hy]
  rcases hcase with ⟨rfl, h2, h3, h4, h5, h6⟩ | ⟨rfl, hhk, h2, h3, h4, h5, h6⟩
  · exact Or.inl ⟨rfl, h2, h3, h4, h5, h6⟩
  · rcases h2 with ⟨h2, _⟩ | ⟨_, haf⟩
    · exact Or.inr ⟨rfl, h2, h3, h4, h5, h6, hhk⟩
    · rw [afterClose_false hac (Or.inr hhk)] at haf; cases haf

theorem terminatedF_spec (x : FCfg) (h : ArmOk a0 x) (hac : afterClose a0 = false) (hc : x.l.c.closed = false) :
    ((terminatedF x).2 = none ∧ (terminatedF x).1.l = x.l.upd onTerminated ∧ (terminatedF x).1.fired = x.fired ∧
      ArmOk a0 (terminatedF x).1 ∧ (x.arm = none → (terminatedF x).1.arm = none)) ∨
    ((terminatedF x).2 = some faultExc ∧ ((terminatedF x).1.l = x.l ∨ (terminatedF x).1.l = x.l.upd releasePause) ∧
      (terminatedF x).1.fired = true ∧ (terminatedF x).1.arm = none ∧ x.fired = false ∧ x.arm ≠ none ∧
      (a0.hk = .onTerminated ∨ a0.hk = .onClose)) := by
  unfold terminatedF
  rcases hookF_cases .onTerminated termBaseF x h with
    ⟨hhk, _, hnf, hxa, y, hy, h1, h2, h3, _⟩ | ⟨x', hl, hf, _, hao, han, hcase⟩
  · rw [hy]; exact Or.inr ⟨rfl, Or.inl h1, h2, h3, hnf, hxa, Or.inl hhk⟩
  · -- `super().on_terminated()` releases the pause and closes
    have hlr : (x'.updC releasePause).l = x.l.upd releasePause := congrArg (·.upd releasePause) hl
    have hsp : _ := closeF_spec (x'.updC releasePause) (hao.updC _) hac
      (by rw [hlr, upd_c, (releasePause_off _).closed]; exact hc)
    rw [show closeF (x'.updC releasePause) = termBaseF x' from rfl] at hsp
    rcases hcase with ⟨hhk, haf, _⟩ | ⟨y, y', e, hb, hy, hu, hfy⟩ | ⟨y, y', e, hb, hy, _, hu, hfy, hcalled⟩
    · rw [afterClose_false hac (Or.inl hhk)] at haf; cases haf
    · -- it raised: the fault fired in `on_close`
      rw [hb] at hsp; rw [hy]
      rcases hsp with ⟨k1, _⟩ | ⟨k1, k2, k3, k4, k5, k6, k7⟩
      · cases k1
      · exact Or.inr ⟨k1, Or.inr (hu.1.trans (k2.trans hlr)), hfy.trans k3, hu.2.1.trans k4, hf ▸ k5, fun hn => k6 (han.1 hn),
          Or.inr k7⟩
    · rw [hb] at hsp; rw [hy]
      rcases hsp with ⟨_, k2, k3, k4, k5, k6⟩ | ⟨k1, _⟩
      · obtain ⟨rfl, _⟩ := hcalled k5
        exact Or.inl ⟨rfl, hu.1.trans (k2.trans (congrArg (·.upd onClose) hlr)), hfy.trans (k3.trans hf), k4.of_eq hu.2.1 hfy,
          fun hn => hu.2.1.trans (k6 (han.1 hn))⟩
      · cases k1

theorem Inv2w.terminated {c : Cfg} (hc : c.closed = false) (hcl : c.cleanups = 0) (ht : terminal c.st.label = true)
    (hf : outcomeOf c.st = some c.fut) : Inv2w (onTerminated c) := by
  obtain ⟨o1, o2, o3, o4, _⟩ := onTerminated_fields c hc
  refine ⟨fun hl => ?_, fun _ => ⟨o3, by rw [o4, hcl], by rw [o1, o2]; exact hf⟩⟩
  rw [o1, ht] at hl; cases hl

variable {N : Hook → FCfg → FCfg}

theorem enteredBaseF_spec (hN : NK a0 N) (s : SObj) (x : FCfg) (h : ArmOk a0 x) (htr : x.l.trans.isSome = true) :
    (enteredBaseF N s x).2 = none ∧ CR (enteredHooks x.l.c s) (enteredBaseF N s x).1 x.l.trans ∧
      ArmOk a0 (enteredBaseF N s x).1 ∧ (mainHK a0.hk = true → (enteredBaseF N s x).1.fired = x.fired) := by
  unfold enteredBaseF
  dsimp only [ok]
  split
  · exact ⟨rfl, hN.tq _ _ htr (h.updC _)⟩
  · exact ⟨rfl, ⟨Same2.rfl' _, rfl, rfl⟩, h.updC _, fun _ => rfl⟩

theorem enteredHooksF_spec (hN : NK a0 N) (x : FCfg) (s : SObj) (h : ArmOk a0 x) (htr : x.l.trans.isSome = true) :
    ((enteredHooksF N x s).2 = none ∧ CR (enteredHooks x.l.c s) (enteredHooksF N x s).1 x.l.trans ∧
      ArmOk a0 (enteredHooksF N x s).1 ∧ (mainHK a0.hk = true → (enteredHooksF N x s).1.fired = x.fired)) ∨
    ((enteredHooksF N x s).2 = some faultExc ∧
      ((enteredHooksF N x s).1.l = x.l ∨ CR (enteredHooks x.l.c s) (enteredHooksF N x s).1 x.l.trans) ∧
      (enteredHooksF N x s).1.fired = true ∧ (enteredHooksF N x s).1.arm = none ∧ mainHK a0.hk = true) ∨
    ((enteredHooksF N x s).2 = some .assertion ∧ CR (enteredHooks x.l.c s) (enteredHooksF N x s).1 x.l.trans ∧
      ArmOk a0 (enteredHooksF N x s).1 ∧ (mainHK a0.hk = true → (enteredHooksF N x s).1.fired = x.fired)) := by
  unfold enteredHooksF hookOpt
  cases hk : enteredHK s with
  | none => exact Or.inl (enteredBaseF_spec hN s x h htr)
  | some k =>
    simp only []
    have hmk : a0.hk = k → mainHK a0.hk = true := fun hhk => by
      rw [hhk]; cases s <;> simp [enteredHK] at hk <;> subst hk <;> rfl
    rcases hookF_cases k (enteredBaseF N s) x h with ⟨hhk, _, _, _, y, hy, h1, h2, h3, _⟩ | ⟨x', hl, hf, _, hao, _, hcase⟩
    · rw [hy]; exact Or.inr (Or.inl ⟨rfl, Or.inl h1, h2, h3, hmk hhk⟩)
    · obtain ⟨k0, k1, k2, k3⟩ := enteredBaseF_spec hN s x' hao (hl ▸ htr)
      rw [hl] at k1
      -- what the base implementation left is what the hook leaves, up to the call counter
      have hcr : ∀ {y y' : FCfg} {e}, enteredBaseF N s x' = (y, e) → y'.l = y.l → CR (enteredHooks x.l.c s) y' x.l.trans :=
        fun hb hl' => by rw [hb] at k1; unfold CR; rw [hl']; exact k1
      rcases hcase with ⟨hhk, _, _, _, _, ⟨y, _, e, hb, _⟩ | ⟨y, y', hb, hy, hu1, _, hu3, hfy⟩⟩ |
        ⟨y, _, e, hb, _⟩ | ⟨y, y', e, hb, hy, he, hu, hfy, _⟩
      · rw [hb] at k0; cases k0
      · rw [hy]; exact Or.inr (Or.inl ⟨rfl, Or.inr (hcr hb hu1), hfy.1, hu3, hmk hhk⟩)
      · rw [hb] at k0; cases k0
      · have hrest : CR (enteredHooks x.l.c s) y' x.l.trans ∧ ArmOk a0 y' ∧ (mainHK a0.hk = true → y'.fired = x.fired) := by
          rw [hb] at k2 k3
          exact ⟨hcr hb hu.1, k2.of_eq hu.2.1 hfy, fun hm => hfy.trans ((k3 hm).trans hf)⟩
        rw [hy]
        rcases he with rfl | rfl
        · exact Or.inl ⟨rfl, hrest⟩
        · exact Or.inr (Or.inr ⟨rfl, hrest⟩)

theorem lateExitF_spec (x : FCfg) : Same2 x.l.c (lateExitF x).l.c ∧ (lateExitF x).l.c.st = x.l.c.st ∧
    (lateExitF x).l.trans = x.l.trans ∧ (lateExitF x).arm = x.arm ∧ (lateExitF x).fired = x.fired := by
  unfold lateExitF; split
  · exact ⟨.of_off (exitState_off _), (exitState_off _).st, rfl, rfl, rfl⟩
  · exact ⟨Same2.rfl' _, rfl, rfl, rfl, rfl⟩

theorem forceExceptedF_spec (hN : NK a0 N) (x : FCfg) (e : Exc) (h : ArmOk a0 x) (hac : afterClose a0 = false)
    (hc : x.l.c.closed = false) (hcl : x.l.c.cleanups = 0) :
    (forceExceptedF N x e).1.l.c.st = .excepted e ∧ ArmOk a0 (forceExceptedF N x e).1 ∧
    (((forceExceptedF N x e).2 = none ∧ Inv2w (forceExceptedF N x e).1.l.c ∧
        (mainHK a0.hk = true → (forceExceptedF N x e).1.fired = x.fired)) ∨
     ((forceExceptedF N x e).2 = some faultExc ∧ (forceExceptedF N x e).1.fired = true ∧
        (a0.hk = .onTerminated ∨ a0.hk = .onClose) ∧ x.fired = false)) := by
  unfold forceExceptedF
  simp only [hc, Bool.false_eq_true, if_false]
  obtain ⟨⟨_, _, _, w4, w5, _⟩, _, w7, w8, w9⟩ := lateExitF_spec (x.updL fun l => { l with trans := some Label.excepted })
  generalize hx1 : lateExitF (x.updL fun l => { l with trans := some Label.excepted }) = x1 at w4 w5 w7 w8 w9
  have h1 : ArmOk a0 x1 := by unfold ArmOk; rw [w8, w9]; exact h
  have hc : x1.l.c.closed = false := by rw [w4]; exact hc
  have hcl : x1.l.c.cleanups = 0 := by rw [w5]; exact hcl
  have hf1 : x1.fired = x.fired := w9
  generalize hx2 : (x1.updC fun c => setFutExc c e) = x2
  have h2 : ArmOk a0 x2 := by rw [← hx2]; exact h1.updC _
  have htr2 : x2.l.trans.isSome = true := by rw [← hx2, updC_l, upd_trans, w7]; rfl
  obtain ⟨f1, f2, f3, f4, f5⟩ := setFutExc_fields x1.l.c e
  have hc2 : x2.l.c = setFutExc x1.l.c e := by rw [← hx2]; rfl
  obtain ⟨⟨t1, t2, t3⟩, t4, t5⟩ := hN.tq .entering x2 htr2 h2
  generalize hx3 : N Hook.entering x2 = x3 at t1 t2 t3 t4 t5
  obtain ⟨_, _, s3, s4, s5, _⟩ := t1
  generalize hx4 : ({ x3.updC fun c => setState c (SObj.excepted e) with inState := true } : FCfg) = x4
  have h4 : ArmOk a0 x4 := by rw [← hx4]; exact t4
  have htr4 : x4.l.trans.isSome = true := by rw [← hx4]; show (x3.l.upd _).trans.isSome = true; rw [upd_trans, t3]; exact htr2
  have hc4 : x4.l.c = setState x3.l.c (.excepted e) := by rw [← hx4]; rfl
  -- EXCEPTED has no ENTERED hook of its own: the base implementation runs, and cannot raise
  rw [show bind (enteredHooksF N x4 (.excepted e)) terminatedF = terminatedF (enteredBaseF N (.excepted e) x4).1 from rfl]
  obtain ⟨_, ⟨⟨_, _, u3, u4, u5, _⟩, e3, _⟩, e5, e6⟩ := enteredBaseF_spec hN (.excepted e) x4 h4 htr4
  generalize (enteredBaseF N (.excepted e) x4).1 = y at u3 u4 u5 e3 e5 e6 ⊢
  have g := enteredHooks_off x4.l.c (.excepted e)
  have hyc : y.l.c.closed = false := by rw [u4, g.closed, hc4]; show x3.l.c.closed = false; rw [s4, hc2, f2]; exact hc
  have hyst : y.l.c.st = .excepted e := by rw [e3, g.st, hc4]; rfl
  have hyfut : y.l.c.fut = .exc e := by rw [u3, g.fut, hc4]; show x3.l.c.fut = _; rw [s3, hc2, f1]
  have hycl : y.l.c.cleanups = 0 := by rw [u5, g.cleanups, hc4]; show x3.l.c.cleanups = 0; rw [s5, hc2, f3]; exact hcl
  have hyf : mainHK a0.hk = true → y.fired = x.fired := fun hm => by
    rw [e6 hm, ← hx4]; show x3.fired = x.fired; rw [t5 hm, ← hx2]; exact hf1
  rcases terminatedF_spec y e5 hac hyc with ⟨k1, k2, k3, k4, _⟩ | ⟨k1, k2, k3, k4, k5, _, k7⟩
  · refine ⟨by rw [k2, upd_c, (onTerminated_off _).st]; exact hyst, k4, Or.inl ⟨k1, ?_, fun hm => by rw [k3]; exact hyf hm⟩⟩
    rw [k2]
    exact Inv2w.terminated hyc hycl (by rw [hyst]; rfl) (by rw [hyst, hyfut]; rfl)
  · have hst : (terminatedF y).1.l.c.st = .excepted e := by
      rcases k2 with k2 | k2
      · rw [k2]; exact hyst
      · rw [k2, upd_c, (releasePause_off y.l.c).st]; exact hyst
    have hm7 : mainHK a0.hk = true := by rcases k7 with h | h <;> rw [h] <;> rfl
    exact ⟨hst, .of_none k4, Or.inr ⟨k1, k3, k7, hyf hm7 ▸ k5⟩⟩

def ExcRes (a0 : Arm) (x : FCfg) (r : Res) : Prop :=
  ∃ e, r.2 = some e ∧ r.1.l.c.closed = false ∧ r.1.l.c.cleanups = 0 ∧
    ((e = faultExc ∧ r.1.fired = true ∧ r.1.arm = none ∧ mainHK a0.hk = true) ∨
     (Internal e ∧ ArmOk a0 r.1 ∧ (mainHK a0.hk = true → r.1.fired = x.fired)))

theorem ok_eq_updC_id : (ok : FCfg → Res) = fun x => ok (x.updC id) := rfl

theorem CR.trans' {c : Cfg} {y z : FCfg} {tr : Option Label} (h1 : CR c y tr) (h2 : CR y.l.c z y.l.trans) : CR c z tr :=
  ⟨Same2.trans h1.1 h2.1, h2.2.1.trans h1.2.1, h2.2.2.trans h1.2.2⟩

theorem exitOnceF_spec (hN : NK a0 N) (x : FCfg) (h : ArmOk a0 x) (htr : x.l.trans.isSome = true) :
    ((exitOnceF N x).2 = none ∧ CR x.l.c (exitOnceF N x).1 x.l.trans ∧ ArmOk a0 (exitOnceF N x).1 ∧
      (mainHK a0.hk = true → (exitOnceF N x).1.fired = x.fired)) ∨
    ((exitOnceF N x).2 = some faultExc ∧ (exitOnceF N x).1.l = x.l ∧ (exitOnceF N x).1.fired = true ∧
      (exitOnceF N x).1.arm = none ∧ mainHK a0.hk = true) := by
  -- after the hook passed
  have hrest : ∀ y : FCfg, y.l = x.l → ArmOk a0 y →
      CR x.l.c ({ (N .exiting y).updC exitState with inState := false } : FCfg) x.l.trans ∧
      ArmOk a0 ({ (N .exiting y).updC exitState with inState := false } : FCfg) ∧
      (mainHK a0.hk = true → ({ (N .exiting y).updC exitState with inState := false } : FCfg).fired = y.fired) := by
    intro y hl hy
    obtain ⟨⟨t1, t2, t3⟩, t4, t5⟩ := hN.tq .exiting y (by rw [hl]; exact htr) hy
    rw [hl] at t1 t2 t3
    exact ⟨⟨Same2.trans t1 (.of_off (exitState_off _)), (exitState_off _).st.trans t2, t3⟩, t4, t5⟩
  have e1 : exitOnceF N x = bind (hookOpt (exitHK x.l.c.st.label) ok x)
      (fun x => ok { (N .exiting x).updC exitState with inState := false }) := rfl
  rw [e1]
  cases hk : exitHK x.l.c.st.label with
  | none =>
    obtain ⟨r1, r2, r3⟩ := hrest x rfl h
    exact Or.inl ⟨rfl, r1, r2, r3⟩
  | some k =>
    have hmk : a0.hk = k → mainHK a0.hk = true := fun hhk => by
      rw [hhk]; cases hl : x.l.c.st.label <;> rw [hl] at hk <;> simp [exitHK] at hk <;> subst hk <;> rfl
    obtain ⟨y, e, hy, _, hcase⟩ := hookF_pure k id x h
    rw [show hookOpt (some k) ok x = hookF k (fun x => ok (x.updC id)) x from rfl, hy]
    rcases hcase with ⟨rfl, p2, p3, p4, _⟩ | ⟨rfl, hhk, p2, p3, p4, _⟩
    · obtain ⟨r1, r2, r3⟩ := hrest y p2 p4
      exact Or.inl ⟨rfl, r1, r2, fun hm => (r3 hm).trans p3⟩
    · exact Or.inr ⟨rfl, p2.elim (·.1) (·.1), p3, p4, hmk hhk⟩

theorem exitPhaseF_spec (hN : NK a0 N) (x : FCfg) (s : SObj) (h : ArmOk a0 x) (htr : x.l.trans.isSome = true) :
    ((exitPhaseF N x s).2 = none ∧ CR x.l.c (exitPhaseF N x s).1 x.l.trans ∧ ArmOk a0 (exitPhaseF N x s).1 ∧
      (mainHK a0.hk = true → (exitPhaseF N x s).1.fired = x.fired)) ∨
    ((exitPhaseF N x s).2 = some faultExc ∧ CR x.l.c (exitPhaseF N x s).1 x.l.trans ∧ (exitPhaseF N x s).1.fired = true ∧
      (exitPhaseF N x s).1.arm = none ∧ mainHK a0.hk = true) := by
  have e1 : exitPhaseF N x s = bind (exitOnceF N x) (fun x => if retargeted x.l s then exitOnceF N x else ok x) := rfl
  rw [e1]
  rcases exitOnceF_spec hN x h htr with ⟨p1, p2, p3, p4⟩ | ⟨p1, p2, p3, p4, p5⟩
  · rw [bind_of_none _ p1]
    split
    · rcases exitOnceF_spec hN _ p3 (p2.2.2 ▸ htr) with ⟨q1, q2, q3, q4⟩ | ⟨q1, q2, q3, q4, q5⟩
      · exact Or.inl ⟨q1, p2.trans' q2, q3, fun hm => (q4 hm).trans (p4 hm)⟩
      · exact Or.inr ⟨q1, by unfold CR; rw [q2]; exact p2, q3, q4, q5⟩
    · exact Or.inl ⟨rfl, p2, p3, p4⟩
  · rw [bind_of_some _ p1]
    exact Or.inr ⟨p1, by unfold CR; rw [p2]; exact ⟨Same2.rfl' _, rfl, rfl⟩, p3, p4, p5⟩

/-- what the entering phase hands to `do_enter` -/
structure Entered (s : SObj) (y : FCfg) (tr : Option Label) : Prop where
  closed : y.l.c.closed = false
  cleanups : y.l.c.cleanups = 0
  ft : terminal s.label = true → outcomeOf s = some y.l.c.fut
  fl : terminal s.label = false → (y.l.c.fut = .pending ∨ y.l.c.fut = .cancelled)
  trans : y.l.trans = tr

theorem enteringF_spec (hN : NK a0 N) (x : FCfg) (s : SObj) (h : ArmOk a0 x) (htr : x.l.trans.isSome = true)
    (hl : LiveW x.l.c) :
    ((enteringF N x s).2 = none ∧ Entered s (enteringF N x s).1 x.l.trans ∧ ArmOk a0 (enteringF N x s).1 ∧
      (mainHK a0.hk = true → (enteringF N x s).1.fired = x.fired)) ∨
    ExcRes a0 x (enteringF N x s) := by
  obtain ⟨c2, hc2, g1, g2, g3, g4⟩ := enteringHooks_w x.l.c s hl.1
  -- the base implementation on a configuration carrying `x.l`
  have hbase : ∀ x' : FCfg, x'.l = x.l → enteringBaseF s x' = (x'.setC c2, none) := by
    intro x' hl'; unfold enteringBaseF; rw [hl', hc2]; rfl
  -- the other ENTERING callbacks
  have hrest : ∀ y : FCfg, y.l.c = c2 → y.l.trans = x.l.trans → ArmOk a0 y →
      Entered s (N .entering y) x.l.trans ∧ ArmOk a0 (N .entering y) ∧ (mainHK a0.hk = true → (N .entering y).fired = y.fired) := by
    intro y hyc hyt hy
    obtain ⟨⟨⟨_, _, s3, s4, s5, _⟩, _, t3⟩, t4, t5⟩ := hN.tq .entering y (hyt ▸ htr) hy
    rw [hyc] at s3 s4 s5
    exact ⟨⟨s4.trans (g1.trans hl.2.1), s5.trans (g2.trans hl.2.2), fun ht => s3 ▸ g3 ht, fun ht => s3 ▸ g4 ht, t3.trans hyt⟩, t4, t5⟩
  have e1 : enteringF N x s = bind (hookOpt (enteringHK s) (enteringBaseF s) x) (fun x => ok (N .entering x)) := rfl
  rw [e1]
  cases hk : enteringHK s with
  | none =>
    rw [show hookOpt none (enteringBaseF s) x = enteringBaseF s x from rfl, hbase x rfl]
    exact Or.inl ⟨rfl, hrest (x.setC c2) rfl rfl (h.setC _)⟩
  | some k =>
    have hmk : a0.hk = k → mainHK a0.hk = true := fun hhk => by
      rw [hhk]; cases s <;> simp [enteringHK] at hk <;> subst hk <;> rfl
    rw [show hookOpt (some k) (enteringBaseF s) x = hookF k (enteringBaseF s) x from rfl]
    rcases hookF_cases k (enteringBaseF s) x h with ⟨hhk, _, _, _, y, hy, h1, h2, h3, _⟩ | ⟨x', hl', hf, _, hao, _, hcase⟩
    · rw [hy]
      exact Or.inr ⟨faultExc, rfl, h1 ▸ hl.2.1, h1 ▸ hl.2.2, Or.inl ⟨rfl, h2, h3, hmk hhk⟩⟩
    · rw [hbase x' hl'] at hcase
      rcases hcase with ⟨hhk, _, _, _, _, ⟨_, _, _, hb, _⟩ | ⟨y, y', hb, hy, hu1, _, hu3, hfy⟩⟩ |
        ⟨_, _, _, hb, _⟩ | ⟨y, y', e, hb, hy, _, hu, hfy, hcalled⟩
      · cases hb
      · cases hb
        rw [hy]
        exact Or.inr ⟨faultExc, rfl, hu1 ▸ g1.trans hl.2.1, hu1 ▸ g2.trans hl.2.2, Or.inl ⟨rfl, hfy.1, hu3, hmk hhk⟩⟩
      · cases hb
      · cases hb
        obtain ⟨rfl, _⟩ := hcalled rfl
        rw [hy, bind_ok]
        obtain ⟨r1, r2, r3⟩ := hrest y' (by rw [hu.1]; rfl) (by rw [hu.1, setC_trans, hl']) ((hao.setC c2).of_eq hu.2.1 hfy)
        exact Or.inl ⟨rfl, r1, r2, fun hm => (r3 hm).trans (hfy.trans hf)⟩

/-- `do_enter`, `self._state = …`, the ENTERED callbacks, `on_terminated` for a terminal state -/
theorem enterNextF_spec (hN : NK a0 N) (x : FCfg) (s : SObj) (h : ArmOk a0 x) (hac : afterClose a0 = false)
    (tr : Option Label) (htr : tr.isSome = true) (he : Entered s x tr) :
    ((enterNextF N x s).2 = none ∧ Inv2w (enterNextF N x s).1.l.c ∧ ArmOk a0 (enterNextF N x s).1 ∧
      (mainHK a0.hk = true → (enterNextF N x s).1.fired = x.fired)) ∨
    ExcRes a0 x (enterNextF N x s) := by
  have e1 : enterNextF N x s = bind (enteredHooksF N { x.updC fun c => setState (enterState c s) s with inState := true } s)
      (fun x => if terminal s.label then terminatedF x else ok x) := rfl
  rw [e1]
  generalize hx1 : ({ x.updC fun c => setState (enterState c s) s with inState := true } : FCfg) = x1
  have h1 : ArmOk a0 x1 := by rw [← hx1]; exact h
  have htr1 : x1.l.trans.isSome = true := by rw [← hx1]; show (x.l.upd _).trans.isSome = true; rw [upd_trans, he.trans]; exact htr
  have hf1 : x1.fired = x.fired := by rw [← hx1]; rfl
  -- `do_enter` and the assignment of the state touch neither the future nor closedness
  have o1 : Off [.efKeys, .efCb, .ready, .st, .entered] x.l.c x1.l.c := by
    rw [← hx1]; exact (enterState_off x.l.c s).trans (setState_off _ s)
  have hx1c : x1.l.c.closed = false ∧ x1.l.c.cleanups = 0 := ⟨o1.closed.trans he.closed, o1.cleanups.trans he.cleanups⟩
  -- the configuration once the base implementation of the ENTERED hook ran
  have hran : ∀ y : FCfg, CR (enteredHooks x1.l.c s) y x1.l.trans →
      y.l.c.closed = false ∧ y.l.c.cleanups = 0 ∧ y.l.c.fut = x.l.c.fut ∧ y.l.c.st = s := by
    intro y ⟨⟨_, _, u3, u4, u5, _⟩, u7, _⟩
    have g := enteredHooks_off x1.l.c s
    exact ⟨u4.trans (g.closed.trans hx1c.1), u5.trans (g.cleanups.trans hx1c.2), u3.trans (g.fut.trans o1.fut),
      u7.trans (g.st.trans (by rw [← hx1]; rfl))⟩
  rcases enteredHooksF_spec hN x1 s h1 htr1 with ⟨e1, e2, e3, e4⟩ | ⟨e1, e2, e3, e4, e5⟩ | ⟨e1, e2, e3, e4⟩
  · rw [bind_of_none _ e1]
    obtain ⟨y1, y2, y3, y4⟩ := hran _ e2
    generalize (enteredHooksF N x1 s).1 = y at e3 e4 y1 y2 y3 y4 ⊢
    have hyf : mainHK a0.hk = true → y.fired = x.fired := fun hm => (e4 hm).trans hf1
    by_cases ht : terminal s.label = true
    · simp only [ht, if_true]
      rcases terminatedF_spec y e3 hac y1 with ⟨k1, k2, k3, k4, _⟩ | ⟨k1, k2, k3, k4, _, _, k7⟩
      · refine Or.inl ⟨k1, ?_, k4, fun hm => k3.trans (hyf hm)⟩
        rw [k2]
        exact Inv2w.terminated y1 y2 (by rw [y4]; exact ht) (by rw [y4, y3]; exact he.ft ht)
      · have hcc : (terminatedF y).1.l.c.closed = false ∧ (terminatedF y).1.l.c.cleanups = 0 := by
          rcases k2 with k2 | k2 <;> rw [k2]
          · exact ⟨y1, y2⟩
          · exact ⟨(releasePause_off _).closed.trans y1, (releasePause_off _).cleanups.trans y2⟩
        exact Or.inr ⟨faultExc, k1, hcc.1, hcc.2, Or.inl ⟨rfl, k3, k4, by rcases k7 with h | h <;> rw [h] <;> rfl⟩⟩
    · have ht' : terminal s.label = false := by simpa using ht
      simp only [ht', Bool.false_eq_true, if_false]
      refine Or.inl ⟨rfl, ⟨fun _ => ⟨y3 ▸ he.fl ht', y1, y2⟩, fun hl => ?_⟩, e3, hyf⟩
      rw [show (ok y).1.l.c.st = s from y4, ht'] at hl; cases hl
  · rw [bind_of_some _ e1]
    have hcc : (enteredHooksF N x1 s).1.l.c.closed = false ∧ (enteredHooksF N x1 s).1.l.c.cleanups = 0 := by
      rcases e2 with e2 | e2
      · rw [e2]; exact hx1c
      · exact ⟨(hran _ e2).1, (hran _ e2).2.1⟩
    exact Or.inr ⟨faultExc, e1, hcc.1, hcc.2, Or.inl ⟨rfl, e3, e4, e5⟩⟩
  · rw [bind_of_some _ e1]
    exact Or.inr ⟨.assertion, e1, (hran _ e2).1, (hran _ e2).2.1, Or.inr ⟨Or.inl rfl, e3, fun hm => (e4 hm).trans hf1⟩⟩

theorem ExcRes.of {x y : FCfg} {r : Res} (h : ExcRes a0 y r) (hf : mainHK a0.hk = true → y.fired = x.fired) : ExcRes a0 x r := by
  obtain ⟨e, h1, h2, h3, h4⟩ := h
  exact ⟨e, h1, h2, h3, h4.imp_right fun ⟨i1, i2, i3⟩ => ⟨i1, i2, fun hm => (i3 hm).trans (hf hm)⟩⟩

theorem tryTransitionF_spec (hN : NK a0 N) (x : FCfg) (s : SObj) (h : ArmOk a0 x) (hac : afterClose a0 = false)
    (htr : x.l.trans.isSome = true) (hl : LiveW x.l.c) :
    ((tryTransitionF N x s).2 = none ∧ Inv2w (tryTransitionF N x s).1.l.c ∧ ArmOk a0 (tryTransitionF N x s).1 ∧
      (mainHK a0.hk = true → (tryTransitionF N x s).1.fired = x.fired)) ∨
    ExcRes a0 x (tryTransitionF N x s) := by
  unfold tryTransitionF
  split
  · simp only [hl.2.1, Bool.false_eq_true, if_false]
    rcases exitPhaseF_spec hN x s h htr with ⟨p1, p2, p3, p4⟩ | ⟨p1, p2, p3, p4, p5⟩
    · rw [bind_of_none _ p1]
      have htry : (exitPhaseF N x s).1.l.trans.isSome = true := p2.2.2 ▸ htr
      rcases enteringF_spec hN _ s p3 htry (hl.same2 p2.1) with ⟨q1, q2, q3, q4⟩ | hq
      · rw [bind_of_none _ q1]
        rcases enterNextF_spec hN _ s q3 hac _ htry q2 with ⟨r1, r2, r3, r4⟩ | hr
        · exact Or.inl ⟨r1, r2, r3, fun hm => ((r4 hm).trans (q4 hm)).trans (p4 hm)⟩
        · exact Or.inr (hr.of fun hm => (q4 hm).trans (p4 hm))
      · obtain ⟨e, h1, _⟩ := id hq
        rw [bind_of_some _ h1]
        exact Or.inr (hq.of p4)
    · rw [bind_of_some _ p1]
      obtain ⟨_, _, _, u4, u5, _⟩ := p2.1
      exact Or.inr ⟨faultExc, p1, u4.trans hl.2.1, u5.trans hl.2.2, Or.inl ⟨rfl, p3, p4, p5⟩⟩
  · exact Or.inr ⟨_, rfl, hl.2.1, hl.2.2, Or.inr ⟨Or.inr (Or.inr ⟨_, _, rfl⟩), h, fun _ => rfl⟩⟩

theorem faultExc_not_internal : ¬ Internal faultExc := by
  intro h
  rcases h with h | h | ⟨a, b, h⟩ <;> cases h

theorem K.kg_of_live {x : FCfg} (h : K a0 x) (hl : terminal x.l.c.st.label = false) : Kg a0 x :=
  h.g.resolve_left fun ⟨_, _, e, _, hs⟩ => by rw [hs] at hl; cases hl

/-- `transition_to` of a live process: the lifecycle part of the invariant holds afterwards and nothing propagates to the caller —
unless the `try` block raised an error of the state machine itself and the fault fired in the failing transition (`Bad`) -/
theorem transitionToF_core (hN : NK a0 N) (x : FCfg) (s : SObj) (hk : K a0 x) (hac : afterClose a0 = false)
    (hl : terminal x.l.c.st.label = false) :
    ArmOk a0 (transitionToF N x s).1 ∧ (transitionToF N x s).1.l.trans = none ∧
    ((Kg a0 (transitionToF N x s).1 ∧ (transitionToF N x s).2 = none) ∨
     (Bad a0 (transitionToF N x s).1 ∧
       ∃ e, Internal e ∧ (tryTransitionF N (x.updL fun l => { l with trans := some s.label }) s).2 = some e)) := by
  obtain ⟨hi, hfx⟩ := hk.kg_of_live hl
  unfold transitionToF
  simp only [hk.tr, Option.isSome_none, Bool.false_eq_true, if_false]
  generalize hx0 : (x.updL fun l => { l with trans := some s.label }) = x0
  have h0 : ArmOk a0 x0 := by rw [← hx0]; exact hk.arm.updL _
  have hf0 : x0.fired = x.fired := by rw [← hx0]; rfl
  -- a fault that has fired before this transition was not a transition hook
  have hnf : mainHK a0.hk = true → x.fired = false := fun hm => by
    cases hf : x.fired with
    | false => rfl
    | true => rw [hfx hm hf] at hl; cases hl
  have hnf' : ∀ {y : FCfg}, (mainHK a0.hk = true → y.fired = x0.fired) → mainHK a0.hk = true → y.fired = true → False :=
    fun hy hm hf => by rw [hy hm, hf0, hnf hm] at hf; cases hf
  rcases tryTransitionF_spec hN x0 s h0 hac (by rw [← hx0]; rfl) (by rw [← hx0]; exact hi.live hl) with
    ⟨p1, p2, p3, p4⟩ | ⟨e, p1, p2, p3, p4⟩
  · generalize tryTransitionF N x0 s = r at p1 p2 p3 p4
    obtain ⟨y, _⟩ := r
    cases p1
    exact ⟨p3.updL _, rfl, Or.inl ⟨⟨p2, fun hm hf => (hnf' p4 hm hf).elim⟩, rfl⟩⟩
  · generalize tryTransitionF N x0 s = r at p1 p2 p3 p4
    obtain ⟨y, _⟩ := r
    cases p1
    have hya : ArmOk a0 y := p4.elim (fun q => .of_none q.2.2.1) (·.2.1)
    obtain ⟨f1, f2, f3⟩ := forceExceptedF_spec hN y e hya hac p2 p3
    refine ⟨f2.updL _, rfl, ?_⟩
    rcases p4 with ⟨rfl, q2, _⟩ | ⟨q1, _, q3⟩
    · -- the fault fired in this transition: EXCEPTED with it
      rcases f3 with ⟨g1, g2, _⟩ | ⟨_, _, _, g4⟩
      · exact Or.inl ⟨⟨g2, fun _ _ => f1⟩, g1⟩
      · rw [q2] at g4; cases g4
    · -- an error of the state machine itself
      rcases f3 with ⟨g1, g2, g3⟩ | ⟨_, g2, g3, _⟩
      · exact Or.inl ⟨⟨g2, fun hm hf => (hnf' (fun hm => (g3 hm).trans (q3 hm)) hm hf).elim⟩, g1⟩
      · exact Or.inr ⟨⟨g3, g2, e, q1, f1⟩, e, q1, rfl⟩

theorem transitionToF_K' (hN : NK a0 N) (x : FCfg) (s : SObj) (hk : K a0 x) (hac : afterClose a0 = false)
    (hl : terminal x.l.c.st.label = false) :
    K a0 (transitionToF N x s).1 ∧ ((transitionToF N x s).2 = none ∨ Bad a0 (transitionToF N x s).1) := by
  obtain ⟨ha, ht, h⟩ := transitionToF_core hN x s hk hac hl
  exact ⟨⟨ha, ht, h.symm.imp (·.1) (·.1)⟩, h.imp (·.2) (·.1)⟩

end
end FP
end PMF
