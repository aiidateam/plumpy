import PlumpyModel.Fault.Proof4
import PlumpyModel.Fault.Proof16
import PlumpyModel.Fault.Proof9
/-!
# Fault twins — the state machine itself never fails: the invariant `K2` (`K` without `Bad`); no run is ever `Bad`

* `tryTransitionF_noint`: the `try` block of `transition_to` of a live process to an ALLOWED target raises nothing but the injected
  fault — the future is unresolved (`LiveW`), so `on_finish / on_kill` do not raise `InvalidStateError`; the call counter is balanced
  (`Fault/Proof16.lean`), so no `_called` assertion fails; the target is allowed, so no "cannot transition".
* `transitionToF_G`: hence a transition to an allowed target never produces the alternative `Bad` of the invariant `K`, and nothing
  propagates to its caller.
* `K2 a0 x`: `K a0 x` with the alternative `Bad` removed.  It is closed under the leaf updates of a step (`k2_step`), a transition
  being one to an allowed target.
* The states the model proposes — RUNNING from CREATED; what the step function returned (RUNNING / WAITING / FINISHED / KILLED, allowed
  from RUNNING and WAITING); RUNNING after a wait; EXCEPTED; KILLED by the kill action — are all allowed from the current state,
  given that the stepping task is inside a step function only while the state is not CREATED (`IUP`).  `IUP` is an invariant of runs:
  the program counter becomes `inUser` only when a step function is activated on a RUNNING state, no twin below the closing part of
  a step touches the program counter (`QF`) and none ever makes the state CREATED again (`CF`).
* So every event keeps `K2`, and **no configuration of a run with an injected fault is `Bad`** (`runF_not_bad`): the hypothesis "the
  run did not end in an error of the state machine itself" of the statements about `on_terminated` / `on_close` faults is always true.
-/
namespace PMF
namespace FP
open L

section
variable {a0 : Arm} {N : Hook → FCfg → FCfg}

theorem tryTransitionF_noint (hN : NK a0 N) (hC : FCF N) (x : FCfg) (s : SObj) (h : ArmOk a0 x)
    (htr : x.l.trans.isSome = true) (hl : LiveW x.l.c) (hal : s.label ∈ allowed x.l.c.st.label)
    (e : Exc) (he : (tryTransitionF N x s).2 = some e) : e = faultExc := by
  unfold tryTransitionF at he
  rw [if_pos hal] at he
  simp only [hl.2.1, Bool.false_eq_true, if_false] at he
  have hx := exitPhaseF_ef (N := N) x s
  have hsp := exitPhaseF_spec hN x s h htr
  generalize exitPhaseF N x s = r at hx hsp he
  obtain ⟨y, ye⟩ := r
  cases ye with
  | some e' => rw [bind_err] at he; cases he; exact hx e rfl
  | none =>
    rw [bind_ok] at he
    have hly : LiveW y.l.c := by
      rcases hsp with ⟨_, p2, _⟩ | ⟨p1, _⟩
      · exact hl.same2 p2.1
      · cases p1
    have q2 := enteringF_ef (N := N) y s
    generalize enteringF N y s = r2 at q2 he
    obtain ⟨z, ze⟩ := r2
    cases ze with
    | some e' =>
      rw [bind_err] at he; cases he
      rcases q2 e rfl with h | h
      · exact h
      · obtain ⟨c2, hc2, _⟩ := enteringHooks_w y.l.c s hly.1
        rw [hc2] at h; cases h
    | none =>
      rw [bind_ok] at he
      exact enterNextF_ef hC z s e he

structure K2 (a0 : Arm) (x : FCfg) : Prop where
  arm : ArmOk a0 x
  tr : x.l.trans = none
  g : Kg a0 x

theorem K2.k {x : FCfg} (h : K2 a0 x) : K a0 x := ⟨h.arm, h.tr, Or.inr h.g⟩

theorem Kg.not_bad {x : FCfg} (h : Kg a0 x) : ¬ Bad a0 x := by
  intro hb
  have hs := h.2 hb.main hb.2.1
  obtain ⟨_, _, e, he, hs'⟩ := hb
  rw [hs] at hs'; cases hs'
  exact faultExc_not_internal he



theorem K.k2_live {x : FCfg} (h : K a0 x) (hl : terminal x.l.c.st.label = false) : K2 a0 x :=
  ⟨h.arm, h.tr, h.kg_of_live hl⟩

theorem K2.fr {x y : FCfg} (h : K2 a0 x) (f : Fr x y) : K2 a0 y := ⟨h.arm.of_eq f.arm f.fired, f.trans ▸ h.tr, h.g.fr f⟩

theorem K2.like {x y : FCfg} (h : K2 a0 x) (hl : y.l = x.l) (ha : ArmOk a0 y) (hf : mainHK a0.hk = true → y.fired = x.fired) :
    K2 a0 y := ⟨ha, hl ▸ h.tr, h.g.like hl hf⟩

theorem transitionToF_G (hN : NK a0 N) (hC : FCF N) (x : FCfg) (s : SObj) (hk : K a0 x) (hac : afterClose a0 = false)
    (hl : terminal x.l.c.st.label = false) (hal : s.label ∈ allowed x.l.c.st.label) :
    K2 a0 (transitionToF N x s).1 ∧ (transitionToF N x s).2 = none := by
  obtain ⟨ha, ht, h⟩ := transitionToF_core hN x s hk hac hl
  rcases h with ⟨hg, hn⟩ | ⟨_, e, he, hx⟩
  · exact ⟨⟨ha, ht, hg⟩, hn⟩
  · have := tryTransitionF_noint hN hC (x.updL fun l => { l with trans := some s.label }) s hk.arm rfl
      ((hk.kg_of_live hl).1.live hl) hal e hx
    exact absurd (this ▸ he) faultExc_not_internal

/-- everything the chain assumes of the notification function -/
structure NK2 (a0 : Arm) (N : Hook → FCfg → FCfg) : Prop where
  k : NK a0 N
  c : FCF N
  inv : ∀ h x, K2 a0 x → K2 a0 (N h x)

theorem k2_step (hN : NK2 a0 N) (hac : afterClose a0 = false) : StepLeavesF N (fun l t => t ∈ allowed l) (K2 a0) :=
  .of_fr K2.fr (hookF_keeps K2.arm K2.like) hN.inv (fun x s hl hal h => (transitionToF_G hN.k hN.c x s h.k hac hl hal).1) id
    fun _ h => ⟨h.arm, h.tr, h.g.cancelFut⟩

theorem fireNF_nk2 (hac : afterClose a0 = false) : ∀ n, NK2 a0 (fireNF n)
  | 0 => ⟨fireNF_nk hac 0, fireNF_cf 0, fun _ x hx => hx.fr (.updL' x _ rfl rfl)⟩
  | n+1 =>
    have ih := fireNF_nk2 hac n
    ⟨fireNF_nk hac (n+1), fireNF_cf (n+1), (k2_step ih hac).fireKF (k2_step ih hac).reqKF⟩

end

def IUP (c : Cfg) : Prop := ∀ b, c.pc = .inUser b → c.st.label ≠ .created

theorem IUP.started {c : Cfg} (h : IUP c) (b : Body) (hb : c.pc = .inUser b) : Started (fun l t => t ∈ allowed l) c.st.label :=
  fun hl _ ht => allowed_of_live hl (Or.inr (Or.inr (Or.inr ⟨h b hb, ht⟩)))

theorem IUP.of_eq {c c' : Cfg} (h : IUP c) (hp : c'.pc = c.pc) (hs : c'.st.label = c.st.label) : IUP c' :=
  fun b hb => hs ▸ h b (hp ▸ hb)

theorem IUP.off {W : List Fld} {c c' : Cfg} (h : IUP c) (o : Off W c c')
    (hW : ∀ f ∈ [Fld.pc, .st], f ∉ W := by decide) : IUP c' :=
  h.of_eq (o.pc (hW _ (by decide))) (congrArg _ (o.st (hW _ (by decide))))

theorem IUP.qc {x y : FCfg} (h : IUP x.l.c) (q : QF x y) (c : CF x y) : IUP y.l.c :=
  fun b hb hc => h b (q.pc ▸ hb) (c.ncr hc)

section
variable {N : Hook → FCfg → FCfg}

theorem iup_step (hQ : FQF N) (hC : FCF N) : StepLeavesF N (fun _ _ => True) (fun x => IUP x.l.c) :=
  have played : ∀ x : FCfg, IUP x.l.c → IUP (x.updC fun c => (play c).1).l.c := fun x h => h.off (play_off x.l.c)
  { HookLeavesF.of_base (I := fun x => IUP x.l.c) (fun hk _ base => hookF_inv (I := fun x => IUP x.l.c) (fun h e _ => e ▸ h) hk base)
      (fun k x h => h.qc (hQ k x) (hC k x)) (fun x h => h.off (doPauseHooks_off x.l.c)) played with
    hand := fun x i h => h.off (hand_off x.l.c i)
    requestPause := fun x _ h => h.off (requestPause_off x.l)
    requestKill := fun x _ h => h.off (requestKill_off x.l)
    played := played
    clearPausing := fun x h => h.off (Off.set x.l.c .pausing none)
    rep := fun _ _ h => h
    count := fun _ _ h => h
    issue := fun _ _ _ h => h
    trans := fun x s _ _ h => h.qc (transitionToF_qf hQ x s) (transitionToF_cf hC x s)
    allowed := fun _ => trivial
    ctl := fun o h => h.off o
    setExecuting := fun _ _ h => h
    activate := fun x _ _ _ _ h => h.off (Off.set x.l.c .trace _)
    setPc := fun _ _ hp h b hb => (hp b hb).elim id fun ⟨b', hb'⟩ => h b' hb'
    alloc := fun x cmd h => h.off (cmdToState_off x.l.c cmd)
    rearm := fun x wf h => h.of_eq (rearm_off _ wf).pc (rearm_same2 _ wf).1
    adone := fun x f h => h.of_eq (awaitableDone_off _ f).pc (awaitableDone_same2 _ f).1
    resume := fun x v h => h.of_eq (resume_off _ v).pc (resume_same2 _ v).1
    cancelFut := fun x h => h.off (cancelFut_off x.l.c)
    complete := fun x f o h => h.off (complete_off x.l.c f o)
    loopErr := fun x e h => h.off (Off.set x.l.c .loopErrs _)
    unsched := fun x cb _ h => h.off (Off.set x.l.c .ready _)
    sched := fun x r h => h.off (Off.set x.l.c .ready _) }

end

structure KI (a0 : Arm) (x : FCfg) : Prop where
  k2 : K2 a0 x
  iu : IUP x.l.c

theorem stepF_KI {a0 : Arm} (hac : afterClose a0 = false) (P : Prog) (x : FCfg) (ev : Ev) (h : KI a0 x) : KI a0 (stepF P x ev).1 :=
  ⟨(k2_step (fireNF_nk2 hac _) hac).stepFN P x ev h.iu.started h.k2,
   (iup_step (fireNF_qf _) (fireNF_cf _)).stepFN P x ev (fun _ _ _ _ _ => trivial) h.iu⟩

theorem runF_KI {a0 : Arm} (hac : afterClose a0 = false) (P : Prog) (x0 : FCfg) (evs : List Ev) (h : KI a0 x0) :
    KI a0 (runF P x0 evs) :=
  runF_ind (stepF_KI hac P) evs x0 h

theorem initX_KI (a0 : Arm) (nf : Nat) (plan : Plan) : KI a0 (initX nf plan (some a0)) :=
  ⟨(initX_K a0 nf plan).k2_live rfl, fun b hb => by cases hb⟩

/-- what the invariant of runs says in the words of the property -/
theorem KI.good {a0 : Arm} {x : FCfg} (h : KI a0 x) :
    Inv2w x.l.c ∧ x.l.trans = none ∧ (mainHK a0.hk = true → x.fired = true →
      x.l.c.st = .excepted faultExc ∧ x.l.c.fut = .exc faultExc ∧ x.l.c.closed = true ∧ x.l.c.cleanups = 1) := by
  refine ⟨h.k2.g.1, h.k2.tr, fun hm hf => ?_⟩
  have hst := h.k2.g.2 hm hf
  obtain ⟨h1, h2, h3⟩ := h.k2.g.1.term (by rw [hst]; rfl)
  rw [hst] at h3
  exact ⟨hst, by simpa [outcomeOf] using h3.symm, h1, h2⟩

theorem runX_KI {a0 : Arm} (hac : afterClose a0 = false) (P : Prog) (nf : Nat) (plan : Plan) (evs : List Ev) :
    KI a0 (runX P (initX nf plan (some a0)) evs) := runF_KI hac P _ evs (initX_KI a0 nf plan)

theorem runF_not_bad {a0 : Arm} (hac : afterClose a0 = false) (P : Prog) (nf : Nat) (plan : Plan) (evs : List Ev) :
    ¬ Bad a0 (runF P (initX nf plan (some a0)) evs) :=
  (runF_KI hac P _ evs (initX_KI a0 nf plan)).k2.g.not_bad

end FP
end PMF
