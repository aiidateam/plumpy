import PlumpyModel.PM.LProof16
import PlumpyModel.Fault.TransF
/-!
# Fault twins — what no hook, no notification and no transition ever touches (`QQ` of `PM/LProof16.lean`)

The program counter of the stepping task and `_stepping` are untouched, the future heaps only grow and only get completed, the
interrupt-action slot is untouched unless a step is in progress, and the slot never holds an action that already ran — for every
twin below the closing part of a step, whether or not the fault fires in it.
-/
namespace PMF
namespace FP
open L

def QF (x y : FCfg) : Prop := QQ x.l y.l

theorem QF.rfl' (x : FCfg) : QF x x := QQ.rfl' _
theorem QF.trans' {x y z : FCfg} (h1 : QF x y) (h2 : QF y z) : QF x z := QQ.trans h1 h2
theorem QF.of_l {x y : FCfg} (h : y.l = x.l) : QF x y := by unfold QF; rw [h]; exact QQ.rfl' _
theorem QF.updC (x : FCfg) (f : Cfg → Cfg) (r : TR x.l.c (f x.l.c)) : QF x (x.updC f) := QQ.upd_tr x.l f r
theorem QF.off (x : FCfg) (f : Cfg → Cfg) {W : List Fld} (o : Off W x.l.c (f x.l.c))
    (hW : ∀ g ∈ [Fld.pc, .interrupt, .actions, .stepping, .paused, .wfs, .pfs], g ∉ W := by decide) : QF x (x.updC f) :=
  QF.updC x f (.of_off o hW)
theorem QF.updL (x : FCfg) (f : LCfg → LCfg) (h : (f x.l).c = x.l.c) : QF x (x.updL f) := QQ.same h

def FQF (N : Hook → FCfg → FCfg) : Prop := ∀ h x, QF x (N h x)

theorem qf_leaves : LeafRelF QF where
  refl := QF.rfl'
  trans := QF.trans'
  hook hk base hb x := hookF_rel (R := QF) (fun _ _ h _ => QF.of_l h) QF.trans' hk base hb x
  lcfg := QF.updL
  quiet o hW := QQ.of_tr (.of_off (o.mono hW))
  releasePause x := QF.updC x _ (releasePause_tr _)
  entered x s := QF.off x _ (enteredHooks_off _ s)
  exit x := QF.updC x _ (exitState_tr _)
  enter x s _ := QF.off x _ ((enterState_off _ s).trans (setState_off _ s))
  closedTo x s _ := QF.updC x _ (TR.trans (exitState_tr x.l.c) (.of_off (Off.set _ .st s)))
  closedExc x _ := QF.off x _ (Off.set _ .st _)
  requestPause x hs := requestL_qq x.l .pause (fun _ => (requestL x.l .pause).interrupt) id hs
  requestKill x hs := requestL_qq x.l .kill id (fun _ => (requestL x.l .kill).interrupt) hs
  played x := play_qq x.l
  paused x := doPauseHooks_qq x.l
  rep _ _ := QF.of_l rfl

section
variable {N : Hook → FCfg → FCfg}

theorem transitionToF_qf (hN : FQF N) (x : FCfg) (s : SObj) : QF x (transitionToF N x s).1 := qf_leaves.transitionToF hN x s
end

theorem fireNF_qf (n : Nat) : FQF (fireNF n) := qf_leaves.fireNF n

end FP
end PMF
