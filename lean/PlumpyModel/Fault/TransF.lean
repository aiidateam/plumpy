import PlumpyModel.Fault.ClosedF
/-!
# A transition of the fault twins, traversed once — for relations

`Fault/ClosedF.lean` starts at `transitionToF` (a leaf there).  Below it the twins are `bind`s of hook calls, notifications and a
dozen updates.  A preorder `R` on `FCfg` that contains those updates and is kept by a hook call whenever the base implementation
keeps it (`LeafRelF R`) contains every piece of a transition — whether it returns or an exception cuts it short —, every control
call, every request and (induction on the nesting depth, once) the notification function `fireNF n`.

The relation form is needed (a predicate `I := R x₀` does not do): a hook call hands its base implementation a configuration whose
call counter is one up, which is not `R`-related to `x₀` for a relation that reads the counter (`CF`); the call as a whole is.
-/
namespace PMF
namespace FP
open L

theorem created_not_allowed (l : Label) : Label.created ∉ allowed l := by cases l <;> simp [allowed]

def quietW : List Fld := [.closed, .cleanups, .fut, .futHasKillCb, .handed, .pausing]

/-- what a pass over the transition, the control calls and the notifications has to supply: nothing here mentions the notification
function -/
structure LeafRelF (R : FCfg → FCfg → Prop) : Prop where
  refl : ∀ x, R x x
  trans : ∀ {x y z}, R x y → R y z → R x z
  /-- a call through `call_with_super_check`, whatever is armed -/
  hook : ∀ hk base, (∀ x', R x' (base x').1) → ∀ x, R x (hookF hk base x).1
  /-- the counters, the plan, the log and the transition flag of the model with listeners -/
  lcfg : ∀ x f, (f x.l).c = x.l.c → R x (x.updL f)
  /-- closedness, the process future, the aliases handed out or cleared -/
  quiet {W : List Fld} {x : FCfg} {c' : Cfg} (o : Off W x.l.c c') (hW : ∀ f ∈ W, f ∈ quietW := by decide) : R x (x.setC c')
  releasePause : ∀ x, R x (x.updC releasePause)
  entered : ∀ x s, R x (x.updC fun c => enteredHooks c s)
  exit : ∀ x, R x { x.updC exitState with inState := false }
  /-- `do_enter`, `self._state = s`: the target of a transition is never CREATED -/
  enter : ∀ x s, s.label ≠ .created → R x { x.updC (fun c => setState (enterState c s) s) with inState := true }
  /-- a transition of a closed process -/
  closedTo : ∀ x s, s.label ≠ .created → R x (x.updC fun c => { exitState c with st := s })
  closedExc : ∀ x e, R x (x.updC fun c => { c with st := .excepted e })
  requestPause : ∀ x, x.l.c.stepping = true →
    R x (x.setC { requestL x.l .pause with pausing := (requestL x.l .pause).interrupt })
  requestKill : ∀ x, x.l.c.stepping = true →
    R x (x.setC { requestL x.l .kill with killing := (requestL x.l .kill).interrupt })
  played : ∀ x, R x (x.updC fun c => (play c).1)
  paused : ∀ x, R x (x.updC doPauseHooks)
  rep : ∀ x r, R x { x with rep := r }

namespace LeafRelF
variable {R : FCfg → FCfg → Prop} (T : LeafRelF R)
include T

theorem bind {x : FCfg} {r : Res} {k : FCfg → Res} (h1 : R x r.1) (hk : ∀ y, R y (k y).1) : R x (FP.bind r k).1 :=
  bind_rel (R := R) T.trans h1 hk

theorem hookOpt (hk : Option HK) (base : FCfg → Res) (hb : ∀ x', R x' (base x').1) (x : FCfg) :
    R x (hookOpt hk base x).1 := by
  cases hk with
  | none => exact hb x
  | some k => exact T.hook k base hb x

theorem closeF (x : FCfg) : R x (closeF x).1 := by
  unfold FP.closeF; split
  · exact T.refl x
  · exact T.hook _ _ (fun x' => T.quiet (onClose_off _)) x

theorem terminatedF (x : FCfg) : R x (terminatedF x).1 :=
  T.hook _ _ (fun x' => T.trans (T.releasePause x') (T.closeF _)) x

theorem lateExitF (x : FCfg) : R x (lateExitF x) := by
  unfold FP.lateExitF; split
  · exact T.exit x
  · exact T.refl x

theorem enteringBaseF (s : SObj) (x : FCfg) : R x (enteringBaseF s x).1 := by
  unfold FP.enteringBaseF
  split
  · exact T.refl x
  · rename_i c2 hok
    exact T.quiet (enteringHooks_off _ hok)

variable {N : Hook → FCfg → FCfg} (hN : ∀ h x, R x (N h x))
include hN

theorem enteredBaseF (s : SObj) (x : FCfg) : R x (enteredBaseF N s x).1 := by
  unfold FP.enteredBaseF; dsimp only [ok]
  split
  · exact T.trans (T.entered x s) (hN _ _)
  · exact T.entered x s

theorem enteredHooksF (x : FCfg) (s : SObj) : R x (enteredHooksF N x s).1 := T.hookOpt _ _ (T.enteredBaseF hN s) x

theorem enterNextF (x : FCfg) (s : SObj) (hs : s.label ≠ .created) : R x (enterNextF N x s).1 := by
  unfold FP.enterNextF; dsimp only
  refine T.bind (T.trans (T.enter x s hs) (T.enteredHooksF hN _ _)) (fun y => ?_)
  split
  · exact T.terminatedF y
  · exact T.refl y

theorem forceExceptedF (x : FCfg) (e : Exc) : R x (forceExceptedF N x e).1 := by
  cases hc : x.l.c.closed with
  | true => unfold FP.forceExceptedF; rw [if_pos hc]; exact T.closedExc x e
  | false =>
    rw [forceExceptedF_open N x e hc]
    exact T.trans (T.trans (T.trans (T.trans (T.lcfg x _ rfl) (T.lateExitF _)) (T.quiet (setFutExc_off _ e))) (hN _ _)) (T.enterNextF hN _ _ nofun)

theorem exitOnceF (x : FCfg) : R x (exitOnceF N x).1 :=
  T.bind (T.hookOpt _ _ (fun x' => T.refl x') x) (fun y => T.trans (hN _ y) (T.exit _))

theorem exitPhaseF (x : FCfg) (s : SObj) : R x (exitPhaseF N x s).1 := by
  unfold FP.exitPhaseF
  refine T.bind (T.exitOnceF hN x) (fun y => ?_)
  split
  · exact T.exitOnceF hN y
  · exact T.refl y

theorem enteringF (x : FCfg) (s : SObj) : R x (enteringF N x s).1 :=
  T.bind (T.hookOpt _ _ (T.enteringBaseF s) x) (fun y => hN _ _)

theorem tryTransitionF (x : FCfg) (s : SObj) : R x (tryTransitionF N x s).1 := by
  unfold FP.tryTransitionF
  split
  · rename_i hal
    have hs : s.label ≠ .created := fun h => created_not_allowed _ (h ▸ hal)
    split
    · exact T.closedTo x s hs
    · exact T.bind (T.exitPhaseF hN x s) (fun y => T.bind (T.enteringF hN y s) (fun z => T.enterNextF hN z s hs))
  · exact T.refl x

theorem transitionToF (x : FCfg) (s : SObj) : R x (transitionToF N x s).1 := by
  unfold FP.transitionToF
  split
  · exact T.refl x
  · dsimp only
    refine T.trans ?_ (T.lcfg _ _ rfl)
    have h1 := T.tryTransitionF hN (x.updL fun l => { l with trans := some s.label }) s
    generalize FP.tryTransitionF N (x.updL fun l => { l with trans := some s.label }) s = r at h1
    obtain ⟨y, e⟩ := r
    have h0 : R x y := T.trans (T.lcfg x _ rfl) h1
    cases e with
    | none => exact h0
    | some e => exact T.trans h0 (T.forceExceptedF hN y e)

theorem reqLeaves (x0 : FCfg) : ReqLeavesF N (fun _ _ => True) (R x0) where
  hand y i h := T.trans h (T.quiet (hand_off _ i))
  requestPause y hs h := T.trans h (T.requestPause y hs)
  requestKill y hs h := T.trans h (T.requestKill y hs)
  played y h := T.trans h (T.played y)
  clearPausing y h := T.trans h (T.quiet (Off.set _ .pausing none))
  rep y r h := T.trans h (T.rep y r)
  onPausing y h := T.trans h (T.hook _ _ T.refl y)
  onPaused y h := T.trans h (T.hook _ _ (fun x' => T.trans (T.paused x') (hN _ _)) y)
  onPlaying y h := T.trans h (T.hook _ _ (fun x' => T.trans (T.played x') (hN _ _)) y)
  count k y h := T.trans h (T.lcfg y _ rfl)
  issue y k e h := T.trans h (T.lcfg y _ rfl)
  trans y s _ _ h := T.trans h (T.transitionToF hN y s)
  allowed _ := trivial

theorem doPauseF (x : FCfg) : R x (doPauseF N x).1 := (T.reqLeaves hN x).doPauseF x (T.refl x)
theorem pauseF (x : FCfg) : R x (pauseF N x).1 := (T.reqLeaves hN x).pauseF x (T.refl x)
theorem playF (x : FCfg) : R x (playF N x).1 := (T.reqLeaves hN x).playF x (T.refl x)
theorem killF (x : FCfg) : R x (killF N x).1 := (T.reqLeaves hN x).killF x (T.refl x)
theorem failF (x : FCfg) (e : Exc) : R x (failF N x e).1 := (T.reqLeaves hN x).failF x e (T.refl x)
theorem reqKF (q : Req) (x : FCfg) : R x (reqKF N q x) := (T.reqLeaves hN x).reqKF q x (T.refl x)

end LeafRelF

theorem LeafRelF.fireNF {R : FCfg → FCfg → Prop} (T : LeafRelF R) : ∀ n h x, R x (fireNF n h x)
  | 0, h, x => T.lcfg x _ rfl
  | n+1, h, x =>
    (T.reqLeaves (LeafRelF.fireNF T n) x).fireKF (fun q y hy => T.trans hy (T.reqKF (LeafRelF.fireNF T n) q y)) h x (T.refl x)


end FP
end PMF
