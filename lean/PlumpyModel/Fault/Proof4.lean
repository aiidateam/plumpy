import PlumpyModel.Fault.ClosedF
import PlumpyModel.Fault.Proof2
/-!
# Fault twins — `K` is closed under the leaf updates of a step; the notification function `fireNF n` satisfies `NK`; every run keeps `K`

`K`, and every other predicate that respects the frame `Fr`, is closed under all leaves of `Fault/ClosedF.lean` but a hook call, a
transition and the cancellation of the process future (`StepLeavesF.of_fr`); for `K` those three are `hookF_keeps`,
`transitionToF_K'` and `cancelFut_K` (`k_step`).  `TQ a0 x`, "as `x` as far as a transition in progress is concerned", is closed under
the leaves of the control calls: `transition_to` asserts that no transition is in progress, `pause()` / `kill()` defer while stepping.
-/
namespace PMF
namespace FP
open L

theorem doPauseHooks_st (c : Cfg) : (doPauseHooks c).st = c.st := rfl

section
variable {a0 : Arm} {N : Hook → FCfg → FCfg}

/-- cancelling the process future: only a pending future changes, and a terminated process has none -/
theorem Kg.cancelFut {x : FCfg} (h : Kg a0 x) : Kg a0 (x.updC fun c => (PMF.cancelFut c).1) := by
  refine ⟨?_, fun hm hf => (cancelFut_off x.l.c).st.trans (h.2 hm hf)⟩
  show Inv2w (PMF.cancelFut x.l.c).1
  unfold PMF.cancelFut
  split
  · rename_i hp
    have hl : terminal x.l.c.st.label = false := by
      cases ht : terminal x.l.c.st.label with
      | false => rfl
      | true =>
        have := (h.1.term ht).2.2
        rw [hp] at this
        cases hs : x.l.c.st <;> simp [hs, outcomeOf] at this
    obtain ⟨_, l2, l3⟩ := h.1.live hl
    exact ⟨fun _ => ⟨Or.inr rfl, l2, l3⟩, fun ht => by rw [show terminal x.l.c.st.label = false from hl] at ht; cases ht⟩
  · exact h.1

theorem cancelFut_K (x : FCfg) (h : K a0 x) : K a0 (x.updC fun c => (cancelFut c).1) :=
  ⟨h.arm, h.tr, h.g.imp (fun ⟨hm, hf, e, he, hs⟩ => ⟨hm, hf, e, he, (cancelFut_off x.l.c).st.trans hs⟩) (·.cancelFut)⟩

theorem k_step (hN : NK a0 N) (hac : afterClose a0 = false) : StepLeavesF N (fun _ _ => True) (K a0) :=
  .of_fr K.fr (hookF_keeps K.arm K.like) hN.inv (fun x s hl _ h => (transitionToF_K' hN x s h hac hl).1) (fun _ => trivial) cancelFut_K

def TQ (a0 : Arm) (x y : FCfg) : Prop :=
  CR x.l.c y x.l.trans ∧ ArmOk a0 y ∧ (mainHK a0.hk = true → y.fired = x.fired)

theorem TQ.rfl' {x : FCfg} (h : ArmOk a0 x) : TQ a0 x x := ⟨⟨Same2.rfl' _, rfl, rfl⟩, h, fun _ => rfl⟩
theorem TQ.trans' {x y z : FCfg} (h1 : TQ a0 x y) (h2 : TQ a0 y z) : TQ a0 x z :=
  ⟨h1.1.trans' h2.1, h2.2.1, fun hm => (h2.2.2 hm).trans (h1.2.2 hm)⟩
theorem TQ.setC {x : FCfg} (h : ArmOk a0 x) (c : Cfg) (hs : Same2 x.l.c c) (hst : c.st = x.l.c.st) :
    TQ a0 x (x.setC c) := ⟨⟨hs, hst, rfl⟩, h.setC _, fun _ => rfl⟩
theorem TQ.updL {x : FCfg} (h : ArmOk a0 x) (f : LCfg → LCfg) (hc : (f x.l).c = x.l.c) (ht : (f x.l).trans = x.l.trans) :
    TQ a0 x (x.updL f) :=
  ⟨⟨by rw [updL_l, hc]; exact Same2.rfl' _, by rw [updL_l, hc], ht⟩, h.updL _, fun _ => rfl⟩
theorem TQ.congr {x y y' : FCfg} (h : TQ a0 x y) (hl : y'.l = y.l) (ha : ArmOk a0 y') (hf : mainHK a0.hk = true → y'.fired = y.fired) :
    TQ a0 x y' :=
  ⟨by unfold CR; rw [hl]; exact h.1, ha, fun hm => (hf hm).trans (h.2.2 hm)⟩

/-- while a transition is in progress in `x`: `transition_to` asserts that none is -/
theorem TQ.trans {x y : FCfg} (htr : x.l.trans.isSome = true) (h : TQ a0 x y) (s : SObj) : TQ a0 x (transitionToF N y s).1 := by
  rw [transitionToF_busy N y s (h.1.2.2 ▸ htr)]; exact h

theorem tq_call (x : FCfg) : CallLeavesF (TQ a0 x) where
  hand y i h := h.trans' (.setC h.2.1 _ (.of_off (hand_off y.l.c i)) (hand_off y.l.c i).st)
  requestPause y _ h := h.trans' (.setC h.2.1 _ (.of_off (requestPause_off y.l)) (requestPause_off y.l).st)
  requestKill y _ h := h.trans' (.setC h.2.1 _ (.of_off (requestKill_off y.l)) (requestKill_off y.l).st)
  played y h := h.trans' (.setC h.2.1 _ (play_same2 _) (play_st _))
  clearPausing y h := h.trans' (.setC h.2.1 _ (.of_off (Off.set y.l.c .pausing none)) rfl)
  rep _ _ h := h.congr rfl h.2.1 fun _ => rfl

theorem killF_TQ (x : FCfg) (h : ArmOk a0 x) (htr : x.l.trans.isSome = true) : TQ a0 x (killF N x).1 :=
  (tq_call x).killF (fun _ _ _ hy => hy.trans htr _) x (.rfl' h)

theorem tq_req (hN : NK a0 N) (x : FCfg) (htr : x.l.trans.isSome = true) : ReqLeavesF N (fun _ _ => True) (TQ a0 x) :=
  { tq_call x, HookLeavesF.of_base (hookF_keeps (·.2.1) TQ.congr)
      (fun k y hy => hy.trans' (hN.tq k y (hy.1.2.2 ▸ htr) hy.2.1))
      (fun _ h => h.trans' (.setC h.2.1 _ (doPauseHooks_same2 _) rfl)) (tq_call x).played with
    count := fun _ _ h => h.trans' (.updL h.2.1 _ rfl rfl)
    issue := fun _ _ _ h => h.trans' (.updL h.2.1 _ rfl rfl)
    trans := fun _ s _ _ h => h.trans htr s
    allowed := fun _ => trivial }

theorem fireNF_nk (hac : afterClose a0 = false) : ∀ n, NK a0 (fireNF n)
  | 0 => ⟨fun h x hx => hx.fr (.updL' x _ rfl rfl), fun h x _ hx => TQ.updL hx _ rfl rfl⟩
  | n+1 => by
    have ih := fireNF_nk hac n
    refine ⟨fun h x hx => ?_, fun h x htr hx => ?_⟩
    · exact (k_step ih hac).fireKF (k_step ih hac).reqKF h x hx
    · exact (tq_req ih x htr).fireKF (tq_req ih x htr).reqKF h x (.rfl' hx)

theorem runF_K (hac : afterClose a0 = false) (P : Prog) (x0 : FCfg) (evs : List Ev) (h : K a0 x0) : K a0 (runF P x0 evs) :=
  runF_ind (fun x e => (k_step (fireNF_nk hac _) hac).stepFN P x e fun _ _ _ _ _ => trivial) evs x0 h

theorem initX_K (a0 : Arm) (nf : Nat) (plan : Plan) : K a0 (initX nf plan (some a0)) := by
  refine ⟨⟨fun b hb => by cases hb; exact ⟨rfl, rfl⟩, fun hf => by cases hf⟩, rfl, Or.inr ⟨Inv2w.of_inv2 (inv2_init nf), fun _ hf => by cases hf⟩⟩

theorem runX_armed (P : Prog) (nf : Nat) (plan : Plan) (a : Arm) (evs : List Ev) :
    runX P (initX nf plan (some a)) evs = runF P (initX nf plan (some a)) evs := rfl

end
end FP
end PMF
