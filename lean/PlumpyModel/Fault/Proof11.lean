import PlumpyModel.Fault.Proof4
import PlumpyModel.Fault.Proof10
import PlumpyModel.Fault.Proof8
/-!
# Fault twins — the control calls and the notification function keep the linking invariant

Inside a transition (where `transition_to` refuses to start another one) the requests keep `MI`: `InvM`, the state object, `inState`;
this does not depend on the fault (`fireNF_nm`).  Outside, for every fault, they leave `Bad` or `InvS` with the state entered
(`SB`, given `K`), proved of `fireNF n` by induction on the nesting depth (`fireNF_nb`); `Bad` needs the fault to be
`on_terminated` / `on_close`, so for the other hooks it is `InvS` (`fireNF_ns`).
-/
namespace PMF
namespace FP
open L

theorem logRep_like (q : Req) (r : FCfg × RetV) : Like r.1 (logRep q r) := by
  unfold logRep; split <;> exact ⟨rfl, rfl⟩

section
variable {N : Hook → FCfg → FCfg}

theorem doPauseF_mi (hS : NM N) (x : FCfg) (h : InvM x.l.c) (hq : Hq x.l.c) (htr : x.l.trans.isSome = true) :
    MI x (doPauseF N x).1 := by
  unfold doPauseF; dsimp only
  have h1 := hookF_ok_like .onPausing x
  generalize hookF .onPausing ok x = r at h1
  have m0 := MI.of_like h h1
  suffices hs : MI x (bind r fun x => hookF .onPaused (pausedBaseF N) x).1 from
    hs.trans' (MI.off hs.1 _ (Off.set _ .pausing none))
  obtain ⟨y, _ | e⟩ := r
  · rw [bind_ok]
    refine m0.trans' (hookF_mi .onPaused _ y m0.1 fun x' hl => ?_)
    have hx' : x'.l = x.l := hl.1.trans h1.1
    have m1 : MI y (x'.updC doPauseHooks) :=
      (MI.of_like m0.1 hl).trans' ⟨doPauseHooks_invM _ (by rw [hx']; exact h) (by rw [hx']; exact hq), rfl, rfl, rfl⟩
    exact m1.trans' (hS _ _ ((m0.trans' m1).isSome htr) m1.1)
  · exact m0

theorem MI.hand {x y : FCfg} (m : MI x y) (i : Nat) : MI x (y.updC fun c => hand c i) :=
  m.trans' (MI.off m.1 _ (hand_off _ _))

theorem pauseF_mi (hS : NM N) (x : FCfg) (h : InvM x.l.c) (htr : x.l.trans.isSome = true) : MI x (pauseF N x).1 :=
  pauseF_elim N x (MI.rfl' h) (fun _ i m => m.hand i)
    (fun _ _ _ _ => ⟨(requestL_invM x.l .pause h).off (Off.set _ .pausing _), requestL_st x.l .pause, rfl, rfl⟩)
    fun _ _ hpa _ _ => doPauseF_mi hS x h (hq_of_unpaused h hpa) htr

theorem playF_mi (hS : NM N) (x : FCfg) (h : InvM x.l.c) (htr : x.l.trans.isSome = true) : MI x (playF N x).1 := by
  have hplay : ∀ x', Like x x' → MI x (x'.updC fun c => (play c).1) := fun x' hl =>
    (MI.of_like h hl).trans' ⟨play_invM _ (MI.of_like h hl).1, (play_off _).st, rfl, rfl⟩
  unfold playF
  split
  · exact hplay x (Like.rfl' x)
  · rw [retOf_fst]
    refine hookF_mi .onPlaying _ x h fun x' hl => ?_
    exact (hplay x' hl).trans' (hS _ _ ((hplay x' hl).isSome htr) (hplay x' hl).1)

theorem killF_mi (x : FCfg) (h : InvM x.l.c) (htr : x.l.trans.isSome = true) : MI x (killF N x).1 :=
  killF_elim N x (MI.rfl' h) (fun _ i m => m.hand i)
    (fun _ _ _ => ⟨(requestL_invM x.l .kill h).off (Off.set _ .killing _), requestL_st x.l .kill, rfl, rfl⟩) fun _ _ _ => by
    rw [transitionToF_busy N x _ htr]; exact MI.rfl' h

theorem reqKF_mi (hS : NM N) (q : Req) (x : FCfg) (h : InvM x.l.c) (htr : x.l.trans.isSome = true) : MI x (reqKF N q x) := by
  cases q
  · exact (pauseF_mi hS x h htr).like (logRep_like _ _)
  · exact (playF_mi hS x h htr).like (logRep_like _ _)
  · exact (killF_mi x h htr).like (logRep_like _ _)

end

theorem fireNF_nm : ∀ n, NM (fireNF n)
  | 0 => fun _ _ _ hx => MI.rfl' hx
  | n+1 => fun h x htr hx => fireKF_elim _ h x (MI.rfl' hx) fun _ => reqKF_mi (fireNF_nm n) _ _ hx htr

def SI (y : FCfg) : Prop := InvS y.l.c ∧ y.inState = true

theorem SI.like {y y' : FCfg} (h : SI y) (hl : y'.l = y.l) (hi : y'.inState = y.inState) : SI y' :=
  ⟨by rw [hl]; exact h.1, hi.trans h.2⟩

theorem SI.updC {y : FCfg} (h : SI y) (f : Cfg → Cfg) (hf : InvS (f y.l.c)) : SI (y.updC f) := ⟨hf, h.2⟩

def SB (a0 : Arm) (y : FCfg) : Prop := Bad a0 y ∨ SI y

section
variable {a0 : Arm} {N : Hook → FCfg → FCfg}

theorem NoTC.not_bad (hnb : NoTC a0) {y : FCfg} : ¬ Bad a0 y := fun hb => hnb hb.1

theorem SB.like {y y' : FCfg} (h : SB a0 y) (hl : y'.l = y.l) (hi : y'.inState = y.inState)
    (hf : y.fired = true → y'.fired = true) : SB a0 y' :=
  h.elim (fun hb => Or.inl (hb.tm (TM.of_eq (by rw [hl]) hf))) fun hs => Or.inr (hs.like hl hi)

/-- everything assumed of the notification function -/
structure NB (a0 : Arm) (N : Hook → FCfg → FCfg) : Prop where
  k : NK a0 N
  m : NM N
  q : FQF N
  s : ∀ h x, K a0 x → SI x → SB a0 (N h x)

theorem hookF_sb (hk : HK) (base : FCfg → Res)
    (x : FCfg) (hbase : ∀ x', x'.l = x.l → K a0 x' → SI x' → SB a0 (base x').1) (hkx : K a0 x) (h : SI x) :
    SB a0 (hookF hk base x).1 := by
  rcases hookF_cases hk base x hkx.arm with ⟨_, _, _, _, y, hy, h1, _, _, _, h5⟩ | ⟨x', hl, hf, _, hao, han, hcase⟩
  · rw [hy]; exact Or.inr (h.like h1 h5)
  · have hx' : K a0 x' := hkx.like hl hao fun _ => hf
    have hb := hbase x' hl hx' (h.like hl han.2)
    rcases hcase with ⟨_, _, _, _, _, hcase⟩ | hcase
    · rcases hcase with ⟨y, yy, e, hb', hy, huu, hff⟩ | ⟨y, y', hb', hy, hu1, _, _, hft, hu5⟩
      · rw [hy]; rw [hb'] at hb; exact hb.like huu.1 huu.2.2.2 (fun h => by rw [hff]; exact h)
      · rw [hy]; rw [hb'] at hb; exact hb.like hu1 hu5 (fun _ => hft)
    · rcases hcase with ⟨y, yy, e, hb', hy, huu, hff⟩ | ⟨y, y', e, hb', hy, _, hu, hff, _⟩
      · rw [hy]; rw [hb'] at hb; exact hb.like huu.1 huu.2.2.2 (fun h => by rw [hff]; exact h)
      · rw [hy]; rw [hb'] at hb; exact hb.like hu.1 hu.2.2.2 (fun h => by rw [hff]; exact h)

theorem doPauseF_sb (hA : NB a0 N) (x : FCfg) (hk : K a0 x) (h : SI x) (hq : Hq x.l.c)
    (hl : ∀ pf, x.l.c.pc = .awaitPaused pf → terminal x.l.c.st.label = false) : SB a0 (doPauseF N x).1 := by
  unfold doPauseF; dsimp only
  -- `on_pausing`: nothing happens to the `LCfg` part
  have k1 : K a0 (hookF .onPausing ok x).1 := hookF_keeps K.arm K.like .onPausing rfl ok (fun x' hx' => hx') x hk
  have l1 := hookF_ok_like .onPausing x
  generalize hookF .onPausing ok x = r at k1 l1
  suffices hs : SB a0 (bind r fun x => hookF .onPaused (pausedBaseF N) x).1 from
    hs.elim (fun hb => Or.inl (hb.tm (TM.off _ _ (Off.set _ .pausing none)))) fun hs =>
      Or.inr (hs.updC _ ⟨hs.1.nocrash, hs.1.aw, hs.1.ap, hs.1.pv, hs.1.wv, hs.1.tp⟩)
  obtain ⟨y, _ | e⟩ := r
  · refine hookF_sb .onPaused (pausedBaseF N) y (fun x' hl' hx' hs' => ?_) k1 (h.like l1.1 l1.2)
    have hlx : x'.l = x.l := hl'.trans l1.1
    have h1 : InvS (doPauseHooks x'.l.c) :=
      doPauseHooks_invS _ hs'.1 (by rw [hlx]; exact hq) (by rw [hlx]; exact hl)
    exact hA.s _ _ (hx'.fr (Fr.updC x' doPauseHooks (doPauseHooks_same2 _) rfl)) (hs'.updC _ h1)
  · exact Or.inr (h.like l1.1 l1.2)

theorem SB.hand {y : FCfg} (s : SB a0 y) (i : Nat) : SB a0 (y.updC fun c => hand c i) :=
  s.imp (fun b => ⟨b.1, b.2.1, b.2.2.imp fun _ he => ⟨he.1, (hand_off _ i).st.trans he.2⟩⟩)
    fun h => h.updC _ (h.1.tr (.of_off (hand_off _ _)) (Or.inl (hand_off _ _).st))

/-- a request recorded during a step: the coroutine invariant does not look at the alias -/
theorem SI.request {x : FCfg} (h : SI x) (k : AKind) (p q : Option Nat) :
    SB a0 (x.setC { requestL x.l k with pausing := p, killing := q }) :=
  have h1 := requestL_invS x.l k h.1
  Or.inr ⟨⟨h1.nocrash, h1.aw, h1.ap, h1.pv, h1.wv, h1.tp⟩, h.2⟩

theorem pauseF_sb (hA : NB a0 N) (x : FCfg) (hk : K a0 x) (h : SI x) : SB a0 (pauseF N x).1 :=
  pauseF_elim N x (Or.inr h) (fun _ i s => s.hand i) (fun _ _ _ _ => h.request .pause _ _)
    fun hl _ hpa _ _ => doPauseF_sb hA x hk h (hq_of_unpaused (InvM.of_s h.1) hpa) (fun _ _ => hl)

theorem playF_sb (hA : NB a0 N) (x : FCfg) (hk : K a0 x) (h : SI x) : SB a0 (playF N x).1 := by
  unfold playF
  split
  · exact Or.inr (h.updC _ (play_invS _ h.1))
  · rw [retOf_fst]
    refine hookF_sb .onPlaying (playingBaseF N) x (fun x' _ hx' hs' => ?_) hk h
    exact hA.s _ _ (hx'.fr (Fr.updC x' _ (play_same2 _) (play_off _).st)) (hs'.updC _ (play_invS _ hs'.1))

theorem transitionToF_sb (hA : NB a0 N) (hac : afterClose a0 = false) (x : FCfg) (s : SObj) (hk : K a0 x) (h : SI x)
    (hl : terminal x.l.c.st.label = false) (hs : TargetOk x.l.c s) : SB a0 (transitionToF N x s).1 := by
  obtain ⟨r0, r1⟩ := transitionToF_s hA.k hA.m hA.q hac x s hk h.1 h.2 hl hs
  exact r0.elim (fun h0 => Or.inr (r1 h0)) Or.inl

theorem killF_sb (hA : NB a0 N) (hac : afterClose a0 = false) (x : FCfg) (hk : K a0 x) (h : SI x) : SB a0 (killF N x).1 :=
  killF_elim N x (Or.inr h) (fun _ i s => s.hand i) (fun _ _ _ => h.request .kill _ _)
    fun hl _ _ => transitionToF_sb hA hac x .killed hk h hl (targetOk_killed _)

theorem failF_sb (hA : NB a0 N) (hac : afterClose a0 = false) (x : FCfg) (e : Exc) (hk : K a0 x) (h : SI x) :
    SB a0 (failF N x e).1 :=
  failF_elim N x e (Or.inr h) fun hl => transitionToF_sb hA hac x (.excepted e) hk h hl (targetOk_excepted _ _)

theorem reqKF_sb (hA : NB a0 N) (hac : afterClose a0 = false) (q : Req) (x : FCfg) (hk : K a0 x) (h : SI x) :
    SB a0 (reqKF N q x) := by
  have fr : ∀ (q : Req) (r : FCfg × RetV), r.1.fired = true → (logRep q r).fired = true := by
    intro q r hf; unfold logRep; split <;> exact hf
  cases q
  · exact (pauseF_sb hA x hk h).like (logRep_like _ _).1 (logRep_like _ _).2 (fr _ _)
  · exact (playF_sb hA x hk h).like (logRep_like _ _).1 (logRep_like _ _).2 (fr _ _)
  · exact (killF_sb hA hac x hk h).like (logRep_like _ _).1 (logRep_like _ _).2 (fr _ _)

end

theorem fireNF_nb {a0 : Arm} (hac : afterClose a0 = false) : ∀ n, NB a0 (fireNF n)
  | 0 => ⟨fireNF_nk hac 0, fireNF_nm 0, fireNF_qf 0, fun _ _ _ hs => Or.inr hs⟩
  | n+1 =>
    ⟨fireNF_nk hac (n+1), fireNF_nm (n+1), fireNF_qf (n+1), fun h x hk hs => fireKF_elim _ h x (Or.inr hs) fun _ =>
      reqKF_sb (fireNF_nb hac n) hac _ _ ((hk.fr (Fr.updL' x _ rfl rfl)).fr (Fr.updL' _ _ rfl rfl)) hs⟩

theorem fireNF_ns {a0 : Arm} (hac : afterClose a0 = false) (hnb : NoTC a0) : ∀ n, NS a0 (fireNF n) := fun n =>
  ⟨fun h x htr hx => (fireNF_nm n h x htr hx).1, fun h x htr hx => (fireNF_nm n h x htr hx).2,
   fun h x hk hs hi => ((fireNF_nb hac n).s h x hk ⟨hs, hi⟩).resolve_left hnb.not_bad⟩

end FP
end PMF
