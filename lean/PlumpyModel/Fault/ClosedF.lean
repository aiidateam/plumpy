import PlumpyModel.PM.ClosedL
import PlumpyModel.PM.Proof2
import PlumpyModel.Fault.Proof1
/-!
# The control skeleton of the fault twins, traversed once

Above `transitionToF` the twins of `Fault/Process.lean` have the control skeleton of `PM/Listener.lean` (`PM/ClosedL.lean`): every
control call, every notification, the closing part of a step, every wake-up of the stepping task and every other event composes a
few *leaf* updates of `FCfg` with transitions of a live process, calls of the pause / play hooks and calls of the notification
function `N` (inside a transition or the base implementation of a hook).  A predicate `I` on `FCfg` that is closed under the leaves
(`StepLeavesF N G I`) is preserved by every twin.  (For a reflexive, transitive relation `R` take `I := R x₀`.)

`G l t` is what the pass needs to know of a transition from label `l` to label `t`; it has to hold of every allowed edge.  The
skeleton hands it to the leaf `trans`, given that it holds of the state a step proposes (`NextG`) and, where a step function
returns, of every started state (`Started`).  A pass that needs nothing takes `fun _ _ => True`.

The stepping-task part (`finishUserF … tickStepperF`) is written out here and not obtained from `Task.Hoare`: the guard `G` of the
state that a step function's command allocates is asked from the label of the state the function was started in (`Started G`).  The
task knows that label from the branch it is in (the state is RUNNING) or, on entry, from the hypothesis `hiu` (the task is inside a
step function); `Task.Hoare` has one predicate for "between two callbacks", before and after, and cannot carry an entry fact that
the callback does not re-establish.  The closing part (`runActionF … endOfStepF`) likewise stays unguarded: a guarded form would
have to follow the propagating exception ("only if the result is `Bad`"), which `Fault/Proof12.lean` does with `RB`.

The hypothesis that `N` keeps `I` is discharged for `fireNF n` by induction on `n`: a notification is `fireKF` of the requests
(`ReqLeavesF.fireKF`).
-/
namespace PMF
namespace FP
open L

/-- `Fault/Process.lean`, with notification function `N`, as a carrier of the stepping task (`PM/Task.lean`) -/
def _root_.PMF.Task.flt (N : Hook → FCfg → FCfg) : Task.Ops FCfg where
  get x := x.l.c
  upd := FCfg.updC
  start x := x.updL fun l => { l with c := { l.c with stepping := true }, executing := true }
  eos := endOfStepF N
  get_upd _ _ := rfl
  get_start _ := rfl

section
variable (N : Hook → FCfg → FCfg)
theorem _root_.PMF.Task.loopHead_flt (P : Prog) : ∀ (fuel : Nat) (x : FCfg), Task.loopHead (Task.flt N) P fuel x = loopHeadF N P fuel x
  | 0, _ => rfl
  | n+1, x => by
    have ih : Task.loopHead (Task.flt N) P n = loopHeadF N P n := funext (Task.loopHead_flt P n)
    unfold Task.loopHead loopHeadF; rw [ih]; rfl
theorem _root_.PMF.Task.tickStepper_flt (P : Prog) (x : FCfg) : Task.tickStepper (Task.flt N) P x = tickStepperF N P x := by
  have ih : Task.loopHead (Task.flt N) P fuel0 = loopHeadF N P fuel0 := funext (Task.loopHead_flt N P fuel0)
  unfold Task.tickStepper Task.tickF tickStepperF stepBodyF; rw [ih]; rfl
end

theorem retOf_fst (r : Res) (v : RetV) : (retOf r v).1 = r.1 := by
  obtain ⟨y, e⟩ := r; cases e <;> rfl

/-- … and of the control calls and the event loop (`PM/Events.lean`): an exception of a call that acts at once is what the call
returns, and the event loop logs what a callback raises -/
def _root_.PMF.Task.fltE (N : Hook → FCfg → FCfg) : Task.EvOps FCfg where
  toOps := Task.flt N
  req x := requestL x.l
  pauseNow x := retOf (doPauseF N x) (.bool true)
  killNow x := retOf (transitionToF N x .killed) (.bool true)
  failNow x e := retOf (transitionToF N x (.excepted e)) .none
  play := playF N
  absorb := toLoop
  upd_upd _ _ _ := rfl

section
variable (N : Hook → FCfg → FCfg)
theorem _root_.PMF.Task.pause_flt (x : FCfg) : Task.pause (Task.fltE N) x = pauseF N x := by
  unfold Task.pause pauseF Task.defer; rfl
theorem _root_.PMF.Task.kill_flt (x : FCfg) : Task.kill (Task.fltE N) x = killF N x := by
  unfold Task.kill killF Task.defer; rfl
theorem _root_.PMF.Task.tryKilling_flt (x : FCfg) : Task.tryKilling (Task.fltE N) x = tryKillingF N x := by
  unfold Task.tryKilling; rw [Task.kill_flt]; rfl
theorem _root_.PMF.Task.tickCb_flt (x : FCfg) (cb : Cb) : Task.tickCb (Task.fltE N) x cb = tickCbF N x cb := by
  unfold Task.tickCb tickCbF; cases cb
  · rfl
  · simp only [Task.tryKilling_flt]; rfl
  · rfl
theorem _root_.PMF.Task.step_flt (P : Prog) (x : FCfg) (ev : Ev) : Task.step (Task.fltE N) P x ev = stepFN N P x ev := by
  cases ev
  · exact congrArg (·, RetV.none) (Task.tickStepper_flt N P x)
  · exact congrArg (·, RetV.none) (Task.tickCb_flt N x _)
  · exact Task.pause_flt N x
  · rfl
  · exact Task.kill_flt N x
  all_goals rfl

theorem pauseF_elim {Q : FCfg → Prop} (x : FCfg) (h0 : Q x) (hh : ∀ y i, Q y → Q (y.updC fun c => hand c i))
    (hr : terminal x.l.c.st.label = false → x.l.c.stepping = true → x.l.c.pausing = none → x.l.c.killing = none →
      Q (x.setC { requestL x.l .pause with pausing := (requestL x.l .pause).interrupt }))
    (hp : terminal x.l.c.st.label = false → x.l.c.stepping = false → x.l.c.paused = none → x.l.c.pausing = none →
      x.l.c.killing = none → Q (doPauseF N x).1) : Q (pauseF N x).1 :=
  Task.pause_flt N x ▸ Task.pause_elim (Task.fltE N) x h0 hh hr fun a b c d e => retOf_fst .. ▸ hp a b c d e

theorem killF_elim {Q : FCfg → Prop} (x : FCfg) (h0 : Q x) (hh : ∀ y i, Q y → Q (y.updC fun c => hand c i))
    (hr : terminal x.l.c.st.label = false → x.l.c.stepping = true → x.l.c.killing = none →
      Q (x.setC { requestL x.l .kill with killing := (requestL x.l .kill).interrupt }))
    (hk : terminal x.l.c.st.label = false → x.l.c.stepping = false → x.l.c.killing = none → Q (transitionToF N x .killed).1) :
    Q (killF N x).1 :=
  Task.kill_flt N x ▸ Task.kill_elim (Task.fltE N) x h0 hh hr fun a b c => retOf_fst .. ▸ hk a b c

theorem failF_elim {Q : FCfg → Prop} (x : FCfg) (e : Exc) (h0 : Q x)
    (hf : terminal x.l.c.st.label = false → Q (transitionToF N x (.excepted e)).1) : Q (failF N x e).1 :=
  Task.fail_elim (Task.fltE N) x e h0 fun hl => retOf_fst .. ▸ hf hl
end

/-- bookkeeping of the control machinery (`ctlW` of `PM/Closed.lean` without the program counter of the stepping task, whose
writes are the leaf `setPc`) -/
def ctlWF : List Fld := [.actions, .interrupt, .handed, .nextCookie, .stepping, .pausing, .killing]

theorem play_st (c : Cfg) : (play c).1.st = c.st := (play_off c).st

theorem allowed_of_live {l t : Label} (hl : terminal l = false)
    (ht : t = .running ∨ t = .killed ∨ t = .excepted ∨ (l ≠ .created ∧ t ≠ .created)) : t ∈ allowed l := by
  cases l <;> cases t <;> simp_all [terminal, allowed]

def NextG (G : Label → Label → Prop) (c : Cfg) (next : Option SObj) : Prop :=
  terminal c.st.label = false → ∀ s, next = some s → G c.st.label s.label

def Started (G : Label → Label → Prop) (l : Label) : Prop := terminal l = false → ∀ t, t ≠ .created → G l t

/-- what `pauseF / playF / killF` and `_do_pause` do besides a transition and the calls of the pause / play hooks -/
structure CallLeavesF (I : FCfg → Prop) : Prop where
  hand : ∀ x i, I x → I (x.updC fun c => hand c i)
  /-- `pause()` while stepping: the request goes to the interrupt-action slot, the alias `_pausing` is set -/
  requestPause : ∀ x, x.l.c.stepping = true → I x →
    I (x.setC { requestL x.l .pause with pausing := (requestL x.l .pause).interrupt })
  requestKill : ∀ x, x.l.c.stepping = true → I x →
    I (x.setC { requestL x.l .kill with killing := (requestL x.l .kill).interrupt })
  played : ∀ x, I x → I (x.updC fun c => (play c).1)
  clearPausing : ∀ x, I x → I (x.updC fun c => { c with pausing := none })
  /-- a request that raised is logged -/
  rep : ∀ x r, I x → I { x with rep := r }

namespace CallLeavesF
variable {I : FCfg → Prop} {N : Hook → FCfg → FCfg} (C : CallLeavesF I)
include C

theorem pauseF (doPause : ∀ x, x.l.c.stepping = false → I x → I (doPauseF N x).1) (x : FCfg) (h : I x) :
    I (pauseF N x).1 :=
  pauseF_elim N x h C.hand (fun _ hs _ _ => C.requestPause x hs h) fun _ hs _ _ _ => doPause x hs h

theorem killF (kill : ∀ x, terminal x.l.c.st.label = false → x.l.c.stepping = false → I x → I (transitionToF N x .killed).1)
    (x : FCfg) (h : I x) : I (killF N x).1 :=
  killF_elim N x h C.hand (fun _ hs _ => C.requestKill x hs h) fun hl hs _ => kill x hl hs h

theorem logRep (q : Req) (r : FCfg × RetV) (h : I r.1) : I (logRep q r) := by
  unfold FP.logRep; split
  · exact C.rep _ _ h
  · exact h

end CallLeavesF

/-- the calls of the pause / play hooks through `call_with_super_check`: `on_pausing` (base: nothing), `on_paused` (base: the pause
future is created, the listeners are notified), `on_playing` (base: `play`, the listeners are notified) -/
structure HookLeavesF (N : Hook → FCfg → FCfg) (I : FCfg → Prop) : Prop where
  onPausing : ∀ x, I x → I (hookF .onPausing ok x).1
  onPaused : ∀ x, I x → I (hookF .onPaused (pausedBaseF N) x).1
  onPlaying : ∀ x, I x → I (hookF .onPlaying (playingBaseF N) x).1

theorem HookLeavesF.of_base {N : Hook → FCfg → FCfg} {I : FCfg → Prop}
    (userHook : ∀ hk, mainHK hk = false → ∀ base, (∀ x', I x' → I (base x').1) → ∀ x, I x → I (hookF hk base x).1)
    (hN : ∀ h x, I x → I (N h x)) (paused : ∀ x, I x → I (x.updC doPauseHooks))
    (played : ∀ x, I x → I (x.updC fun c => (play c).1)) : HookLeavesF N I where
  onPausing := userHook .onPausing rfl ok fun _ h => h
  onPaused := userHook .onPaused rfl _ fun x h => hN _ _ (paused x h)
  onPlaying := userHook .onPlaying rfl _ fun x h => hN _ _ (played x h)

theorem fireKF_elim {Q : FCfg → Prop} (R : Req → FCfg → FCfg) (h : Hook) (x : FCfg)
    (h0 : Q (x.updL fun l => { l with cnt := bump l.cnt h }))
    (hi : ∀ e, Q (R e.2.2 ((x.updL fun l => { l with cnt := bump l.cnt h }).updL fun l =>
      logIssued { l with plan := l.plan.erase e } h e.2.2))) : Q (fireKF R h x) := by
  unfold fireKF; dsimp only
  split
  · exact h0
  · split
    · exact h0
    · exact hi _

structure ReqLeavesF (N : Hook → FCfg → FCfg) (G : Label → Label → Prop) (I : FCfg → Prop) : Prop
    extends CallLeavesF I, HookLeavesF N I where
  count : ∀ h x, I x → I (x.updL fun l => { l with cnt := bump l.cnt h })
  issue : ∀ x h e, I x → I (x.updL fun l => logIssued { l with plan := l.plan.erase e } h e.2.2)
  trans : ∀ x s, terminal x.l.c.st.label = false → G x.l.c.st.label s.label → I x → I (transitionToF N x s).1
  allowed : ∀ {l t}, t ∈ allowed l → G l t

namespace ReqLeavesF
variable {N : Hook → FCfg → FCfg} {G : Label → Label → Prop} {I : FCfg → Prop} (H : ReqLeavesF N G I)
include H

/-- `kill()`, `fail()`, the kill action: the target is allowed from every live state -/
theorem transLive (x : FCfg) (s : SObj) (hs : s.label = .killed ∨ s.label = .excepted)
    (hl : terminal x.l.c.st.label = false) (h : I x) : I (transitionToF N x s).1 :=
  H.trans x s hl (H.allowed (allowed_of_live hl (hs.elim (fun h => Or.inr (Or.inl h)) fun h => Or.inr (Or.inr (Or.inl h))))) h

theorem doPauseF (x : FCfg) (h : I x) : I (doPauseF N x).1 := by
  refine H.clearPausing _ ?_
  have h1 := H.onPausing x h
  generalize hookF .onPausing ok x = r at h1
  obtain ⟨y, e⟩ := r
  cases e with
  | some e => exact h1
  | none => exact H.onPaused y h1

theorem pauseF (x : FCfg) (h : I x) : I (pauseF N x).1 := H.toCallLeavesF.pauseF (fun x _ => H.doPauseF x) x h

theorem playF (x : FCfg) (h : I x) : I (playF N x).1 := by
  unfold FP.playF
  split
  · exact H.played x h
  · rw [retOf_fst]; exact H.onPlaying x h

theorem killF (x : FCfg) (h : I x) : I (killF N x).1 :=
  H.toCallLeavesF.killF (fun x hl _ => H.transLive x _ (Or.inl rfl) hl) x h

theorem failF (x : FCfg) (e : Exc) (h : I x) : I (failF N x e).1 :=
  failF_elim N x e h fun hl => H.transLive x _ (Or.inr rfl) hl h

theorem reqKF (q : Req) (x : FCfg) (h : I x) : I (reqKF N q x) := by
  cases q
  · exact H.logRep _ _ (H.pauseF x h)
  · exact H.logRep _ _ (H.playF x h)
  · exact H.logRep _ _ (H.killF x h)

theorem fireKF {R : Req → FCfg → FCfg} (hR : ∀ q x, I x → I (R q x)) (h : Hook) (x : FCfg) (hx : I x) : I (fireKF R h x) :=
  fireKF_elim R h x (H.count h x hx) fun e => hR _ _ (H.issue _ h e (H.count h x hx))

end ReqLeavesF

structure EventLeavesF (I : FCfg → Prop) : Prop where
  ctl : ∀ {x c'}, Off ctlWF x.l.c c' → I x → I (x.setC c')
  setExecuting : ∀ x b, I x → I (x.updL fun l => { l with executing := b })
  /-- a step function is started -/
  activate : ∀ x fn args kw, x.l.c.st = .running fn args kw → I x →
    I (x.updC fun c => { c with trace := { fn := fn, args := args, kw := kw, paused := c.paused.isSome } :: c.trace })
  /-- the program counter of the stepping task: it gets inside a step function only in a started state, or stays there -/
  setPc : ∀ x p, (∀ b, p = .inUser b → x.l.c.st.label ≠ .created ∨ ∃ b', x.l.c.pc = .inUser b') → I x →
    I (x.updC fun c => { c with pc := p })
  alloc : ∀ x cmd, I x → I (x.setC (cmdToState x.l.c cmd).1)
  rearm : ∀ x wf, I x → I (x.updC fun c => rearm c wf)
  adone : ∀ x f, I x → I (x.updC fun c => awaitableDone c f)
  resume : ∀ x v, I x → I (x.updC fun c => (resume c v).1)
  cancelFut : ∀ x, I x → I (x.updC fun c => (cancelFut c).1)
  complete : ∀ x f o, I x → I (x.updC fun c => complete c f o)
  /-- an exception that reaches the loop's exception handler -/
  loopErr : ∀ x e, I x → I (x.updC fun c => { c with loopErrs := e :: c.loopErrs })

structure StepLeavesF (N : Hook → FCfg → FCfg) (G : Label → Label → Prop) (I : FCfg → Prop) : Prop
    extends ReqLeavesF N G I, EventLeavesF I where
  /-- the event loop takes a scheduled callback off its list -/
  unsched : ∀ x cb, x.l.c.ready.contains cb = true → I x → I (x.updC fun c => { c with ready := c.ready.erase cb })
  /-- `call_soon` -/
  sched : ∀ x r, I x → I (x.updC fun c => { c with ready := c.ready ++ [.usercb r] })

namespace StepLeavesF
variable {N : Hook → FCfg → FCfg} {G : Label → Label → Prop} {I : FCfg → Prop} (H : StepLeavesF N G I)
include H

theorem off {W : List Fld} {x : FCfg} {c' : Cfg} (o : Off W x.l.c c') (h : I x) (hW : ∀ f ∈ W, f ∈ ctlWF := by decide) :
    I (x.setC c') :=
  H.ctl (o.mono hW) h

theorem pc (x : FCfg) (p : Pc) (h : I x) (hp : ∀ b, p ≠ .inUser b := by intro _ h; cases h) :
    I (x.updC fun c => { c with pc := p }) :=
  H.setPc x p (fun b hb => absurd hb (hp b)) h

theorem setStatus (y : FCfg) (i : Nat) (st : AStatus) (h : I y) :
    I (if actionStatus y.l.c i = AStatus.pending then y.updC (fun c => setActionStatus c i st) else y) := by
  split
  · exact H.off (setActionStatus_off ..) h
  · exact h

theorem storeOutcome (i : Nat) (r : Res) (h : I r.1) :
    I (match r with
      | (x, none) => ok (if actionStatus x.l.c i = AStatus.pending then x.updC (fun c => setActionStatus c i .done) else x)
      | (x, some e) =>
          ok (if actionStatus x.l.c i = AStatus.pending then x.updC (fun c => setActionStatus c i (.failed e)) else x)).1 := by
  obtain ⟨y, e⟩ := r
  cases e <;> exact H.setStatus y i _ h

theorem runActionF (x : FCfg) (i : Nat) (next : Option SObj) (hl : terminal x.l.c.st.label = false)
    (hnx : NextG G x.l.c next) (h : I x) : I (runActionF N x i next).1 := by
  unfold FP.runActionF
  split
  · exact h
  · split
    · exact h
    · apply H.storeOutcome
      split
      · split
        · rename_i s
          have ht := H.trans x s hl (hnx hl s rfl) h
          generalize transitionToF N x s = r at ht
          obtain ⟨y, e⟩ := r
          cases e with
          | some e => exact H.clearPausing _ ht
          | none =>
            show I (if y.l.c.pausing.isNone then ok y else FP.doPauseF N y).1
            split
            · exact ht
            · exact H.doPauseF y ht
        · exact H.doPauseF x h
      · exact H.off (Off.set _ .killing none) (H.transLive x _ (Or.inl rfl) hl h)

theorem enactLoopF : ∀ (n : Nat) (x : FCfg), I x → I (enactLoopF N n x).1
  | 0, _, h => h
  | n+1, x, h => by
    unfold FP.enactLoopF
    split
    · split
      · rename_i i _ hc
        have hl : terminal x.l.c.st.label = false := by
          simp only [Bool.and_eq_true, Bool.not_eq_true'] at hc; exact hc.2
        have h1 := H.runActionF x i none hl (fun _ _ hs => nomatch hs) h
        generalize FP.runActionF N x i none = r at h1
        obtain ⟨y, e⟩ := r
        cases e with
        | none => exact enactLoopF n y h1
        | some e => exact h1
      · exact h
    · exact h

theorem dispatch1F (x : FCfg) (next : Option SObj) (hl : terminal x.l.c.st.label = false) (hnx : NextG G x.l.c next)
    (h : I x) : I (dispatch1F N x next).1 := by
  have ht : I (match next with | some s => transitionToF N x s | none => ok x).1 := by
    cases next with
    | none => exact h
    | some s => exact H.trans x s hl (hnx hl s rfl) h
  unfold FP.dispatch1F
  split
  · split
    · exact H.runActionF x _ next hl hnx h
    · exact ht
  · exact ht

theorem dispatchF (x : FCfg) (next : Option SObj) (hnx : NextG G x.l.c next) (h : I x) : I (dispatchF N x next).1 := by
  unfold FP.dispatchF
  split
  · exact h
  · rename_i hnt
    have h1 := H.dispatch1F x next (by simpa using hnt) hnx h
    generalize FP.dispatch1F N x next = r at h1
    obtain ⟨y, e⟩ := r
    cases e with
    | none => exact H.enactLoopF _ y h1
    | some e => exact h1

theorem endOfStepF (x : FCfg) (r : StepEnd) (hr : NextG G x.l.c (match r with | .next n => n | _ => none)) (h : I x) :
    I (endOfStepF N x r) := by
  have hnx : NextG G (prepare x.l.c r).1 (prepare x.l.c r).2 :=
    prepare_elim (Q := fun p => NextG G p.1 p.2) x.l.c r
      (fun _ hl _ hs => by cases hs; exact H.allowed (allowed_of_live hl (Or.inr (Or.inr (Or.inl rfl)))))
      (fun _ hn => by subst hn; exact hr) (fun _ _ _ _ _ _ hs => nomatch hs) fun _ _ _ _ _ hs => nomatch hs
  have h1 : I ((x.updL fun l => { l with executing := false }).setC (prepare x.l.c r).1) :=
    H.off (x := x.updL fun l => { l with executing := false }) (prepare_off x.l.c r) (H.setExecuting x false h)
  have h3 : I ((FP.dispatchF N ((x.updL fun l => { l with executing := false }).setC (prepare x.l.c r).1)
      (prepare x.l.c r).2).1.updC finally_) :=
    H.off (finally_off _) (H.dispatchF _ _ hnx h1)
  unfold FP.endOfStepF
  dsimp only
  split
  · exact h3
  · exact H.pc _ _ h3

theorem finishUserF (x : FCfg) (o : Outcome) (hs : Started G x.l.c.st.label) (h : I x) : I (finishUserF N x o) := by
  unfold FP.finishUserF
  split
  · rename_i cmd
    refine H.endOfStepF _ _ ?_ (H.alloc x cmd h)
    intro hl s hs'
    cases hs'
    have hst : (cmdToState x.l.c cmd).1.st = x.l.c.st := (cmdToState_off x.l.c cmd).st
    rw [show (x.setC (cmdToState x.l.c cmd).1).l.c.st = x.l.c.st from hst] at hl ⊢
    exact hs hl _ (by cases cmd <;> simp [cmdToState, SObj.label])
  · exact H.endOfStepF _ _ (fun hl s hs' => by cases hs'; exact H.allowed (allowed_of_live hl (Or.inr (Or.inr (Or.inl rfl))))) h

theorem wakeF (x : FCfg) (fn wf : Nat) (w : WF) (h : I x) : I (wakeF N x fn wf w) := by
  unfold FP.wakeF
  split
  · exact H.endOfStepF _ _ (fun hl s hs => by cases hs; exact H.allowed (allowed_of_live hl (Or.inl rfl))) h
  · exact H.endOfStepF _ _ (fun _ _ hs => nomatch hs) (H.rearm x wf h)
  · exact H.endOfStepF _ _ (fun _ _ hs => nomatch hs) h
  · exact h

theorem stepBodyKF (P : Prog) {k : FCfg → FCfg} (hk : ∀ x, I x → I (k x)) (x : FCfg) (h : I x) : I (stepBodyKF N P k x) := by
  -- `self._stepping = True`, the state is executed
  have h1 : I (x.updL fun l => { l with c := { l.c with stepping := true }, executing := true }) :=
    H.off (x := x.updL fun l => { l with executing := true }) (Off.set x.l.c .stepping true) (H.setExecuting x true h)
  unfold FP.stepBodyKF
  dsimp only
  split
  · exact hk _ (H.endOfStepF _ _ (fun hl s hs => by cases hs; exact H.allowed (allowed_of_live hl (Or.inl rfl))) h1)
  · rename_i fn args kw hst
    have hnc : x.l.c.st.label ≠ .created := by rw [show x.l.c.st = .running fn args kw from hst]; exact fun h => nomatch h
    have ha := H.activate _ fn args kw hst h1
    split
    · exact hk _ (H.finishUserF _ _ (fun hl t ht => H.allowed (allowed_of_live hl (Or.inr (Or.inr (Or.inr ⟨hnc, ht⟩))))) ha)
    · exact H.setPc _ _ (fun _ _ => Or.inl hnc) ha
  · split
    · exact H.pc _ _ h1
    · exact hk _ (H.wakeF _ _ _ _ h1)
    · exact h1
  · exact hk _ (H.endOfStepF _ _ (fun _ _ hs => nomatch hs) h1)

theorem loopHeadF (P : Prog) : ∀ (fuel : Nat) (x : FCfg), I x → I (loopHeadF N P fuel x)
  | 0, _, h => h
  | n+1, x, h => by
    unfold FP.loopHeadF
    split
    · exact h
    · split
      · exact H.pc _ _ h
      · split
        · exact H.pc _ _ h
        · split
          · split
            · exact H.pc _ _ h
            · exact H.stepBodyKF P (loopHeadF P n) x h
          · exact H.stepBodyKF P (loopHeadF P n) x h

theorem tickStepperF (P : Prog) (x : FCfg) (hiu : ∀ b, x.l.c.pc = .inUser b → Started G x.l.c.st.label) (h : I x) :
    I (tickStepperF N P x) := by
  have hb : I (stepBodyF N P fuel0 x) := H.stepBodyKF P (H.loopHeadF P fuel0) x h
  unfold FP.tickStepperF
  split
  · exact H.loopHeadF P _ x h
  · split
    · split
      · split
        · exact H.pc _ _ h
        · exact hb
      · exact hb
    · exact h
  · rename_i b hpc
    split
    · exact H.loopHeadF P _ _ (H.finishUserF _ _ (hiu b hpc) h)
    · exact H.setPc _ _ (fun _ _ => Or.inr ⟨b, hpc⟩) h
  · split
    · exact h
    · exact H.loopHeadF P _ _ (H.wakeF _ _ _ _ h)
    · exact h
  · exact h

theorem toLoop (r : FCfg × RetV) (h : I r.1) : I (toLoop r) := by
  unfold FP.toLoop; split
  · exact H.loopErr _ _ h
  · exact h

theorem events : Task.EventClosed (Task.fltE N) I fun _ _ => True where
  hand := H.hand
  requestPause x _ hs _ _ := H.requestPause x hs
  requestKill x _ hs _ := H.requestKill x hs
  pauseNow x _ _ _ _ _ h := retOf_fst .. ▸ H.doPauseF x h
  killNow x hl _ _ h := retOf_fst .. ▸ H.transLive x _ (Or.inl rfl) hl h
  failNow x _ hl h := retOf_fst .. ▸ H.transLive x _ (Or.inr rfl) hl h
  played := H.playF
  absorb := H.toLoop
  setHanded x v := H.off (Off.set x.l.c .handed v)
  resume x v _ := H.resume x v
  adone := H.adone
  complete := H.complete
  cancelFut := H.cancelFut
  unsched := H.unsched
  sched := H.sched


theorem stepFN (P : Prog) (x : FCfg) (ev : Ev) (hiu : ∀ b, x.l.c.pc = .inUser b → Started G x.l.c.st.label) (h : I x) :
    I (stepFN N P x ev).1 :=
  Task.step_flt N P x ev ▸
    H.events.step P x ev (fun h => Task.tickStepper_flt N P x ▸ H.tickStepperF P x hiu h) (fun _ _ => trivial) h

end StepLeavesF

/-- every leaf but a hook call, a transition and the cancellation of the process future is a frame step -/
theorem StepLeavesF.of_fr {N : Hook → FCfg → FCfg} {G : Label → Label → Prop} {I : FCfg → Prop}
    (fr : ∀ {x y}, I x → Fr x y → I y)
    (userHook : ∀ hk, mainHK hk = false → ∀ base, (∀ x', I x' → I (base x').1) → ∀ x, I x → I (hookF hk base x).1)
    (hN : ∀ h x, I x → I (N h x))
    (trans : ∀ x s, terminal x.l.c.st.label = false → G x.l.c.st.label s.label → I x → I (transitionToF N x s).1)
    (allowed : ∀ {l t}, t ∈ allowed l → G l t)
    (cancelFut : ∀ x, I x → I (x.updC fun c => (PMF.cancelFut c).1)) : StepLeavesF N G I :=
  have played : ∀ x, I x → I (x.updC fun c => (play c).1) := fun x h => fr h (.updC x _ (play_same2 _) (play_st _))
  { HookLeavesF.of_base userHook hN (fun x h => fr h (.updC x _ (doPauseHooks_same2 _) rfl)) played with
    hand := fun x i h => fr h (.of_off (hand_off x.l.c i))
    requestPause := fun x _ h => fr h (.of_off (requestPause_off x.l))
    requestKill := fun x _ h => fr h (.of_off (requestKill_off x.l))
    played := played
    clearPausing := fun x h => fr h (.of_off (Off.set x.l.c .pausing none))
    rep := fun x _ h => fr h ⟨Same2.rfl' _, Or.inl rfl, rfl, rfl, rfl⟩
    count := fun _ x h => fr h (.updL' x _ rfl rfl)
    issue := fun x _ _ h => fr h (.updL' x _ rfl rfl)
    trans := trans
    allowed := allowed
    ctl := fun o h => fr h (.of_off o)
    setExecuting := fun x _ h => fr h (.updL' x _ rfl rfl)
    activate := fun x _ _ _ _ h => fr h (.of_off (Off.set x.l.c .trace _))
    setPc := fun x p _ h => fr h (.of_off (Off.set x.l.c .pc p))
    alloc := fun x cmd h => fr h (.of_off (cmdToState_off x.l.c cmd))
    rearm := fun x wf h => fr h (.live x _ (rearm_same2 ..) fun ht => by rw [rearm_fix _ wf ht])
    adone := fun x f h => fr h (.live x _ (awaitableDone_same2 ..) fun ht => (awaitableDone_fix _ f ht).1)
    resume := fun x v h => fr h (.live x _ (resume_same2 ..) fun ht => (resume_fix _ v ht).1)
    cancelFut := cancelFut
    complete := fun x f o h => fr h (.of_off (complete_off x.l.c f o))
    loopErr := fun x e h => fr h (.of_off (Off.set x.l.c .loopErrs _))
    unsched := fun x cb _ h => fr h (.of_off (Off.set x.l.c .ready _))
    sched := fun x r h => fr h (.of_off (Off.set x.l.c .ready _)) }

theorem runF_ind {I : FCfg → Prop} {P : Prog} (step : ∀ x ev, I x → I (stepF P x ev).1) (evs : List Ev) :
    ∀ x0, I x0 → I (runF P x0 evs) := by
  induction evs with
  | nil => exact fun _ h => h
  | cons e es ih => exact fun x0 h => ih _ (step x0 e h)

end FP
end PMF
