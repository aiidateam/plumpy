import PlumpyModel.Gen.Launcher
import PlumpyModel.Gen.Misc
/-!
# Model of `plumpy.process_comms.ProcessLauncher` (property C17)

One Lean function per Python method, same branch order:

| Python (`src/plumpy/process_comms.py`)         | here                       |
|------------------------------------------------|----------------------------|
| `ProcessLauncher.__call__`                     | `call`                     |
| `**task.get(TASK_ARGS, {})` keyword binding    | `taskArgs`, `binds`, `launchArgs?` / `continueArgs?` / `createArgs?` |
| `ProcessLauncher._launch`                      | `launch`                   |
| `ProcessLauncher._continue`                    | `continue_`                |
| `ProcessLauncher._create`                      | `create`                   |
| `nowait` tail shared by `_launch`/`_continue`  | `finish`                   |
| `Persister.save_checkpoint` / `load_checkpoint`| `Store.put` / `Store.get`  |
| `Bundle(proc, save_context)`                   | `bundle`                   |
| `Bundle.unbundle(load_context)` (`Savable.load`, `_ensure_object_loader`) | `loadLoader`, `recreate` |

Everything the launcher does not decide itself is a parameter:
* `Loaders` — the two object loaders in play (the global default one and a custom one), as partial maps from
  identifiers to classes plus the identifier each writes for a class;
* `Runtime` — the process classes: `construct` (the constructor raises or not) and `complete` (what
  `step_until_terminated()` followed by `future().result()` yields for a process of that class, with those
  constructor arguments, resumed at iteration `pos`).

Assumed contracts (modelled, exercised by the correspondence check through the real libraries, not verified):
`Persister.save_checkpoint(proc)` stores under `(proc.pid, None)` and does not fail; `load_checkpoint` of an absent key
raises; a bundle records the class identifier written by the loader of the save context (the default loader when there
is none) and that loader's class; `asyncio.ensure_future(coro)` runs nothing before the caller returns; a constructed
process gets an id no earlier process has (ids are allocated from a counter here, uuids there).
-/
namespace Launcher

/-- values found in task bodies -/
inductive Val where
  | none
  | bool (b : Bool)
  | int (i : Int)
  | str (s : String)
  | pid (p : Nat)
  | dict (kvs : List (String × Val))

abbrev Dict := List (String × Val)

/-- `d[k]` / `d.get(k)` -/
def lookup (k : String) : Dict → Option Val
  | [] => none
  | (k', v) :: r => if k' = k then some v else lookup k r

/-- Python truthiness (`if persist`, `if nowait`) -/
def Val.truthy : Val → Bool
  | .none => false
  | .bool b => b
  | .int i => i != 0
  | .str s => s != ""
  | .pid _ => true
  | .dict kvs => !kvs.isEmpty

abbrev Ident := String
abbrev ClassId := String
abbrev Pid := Nat
abbrev Tag := Option String
abbrev Outputs := List (String × Int)

inductive LoaderKind where
  | default   -- `loaders.get_object_loader()`
  | custom    -- an `ObjectLoader` instance passed by the user
  | fresh     -- a default-constructed instance of that loader's class (what a bundle that recorded the class yields)
  deriving DecidableEq, Repr

structure Loaders where
  /-- `loader.load_object(identifier)`; `none` = raises `ValueError` -/
  load : LoaderKind → Ident → Option ClassId
  /-- `loader.identify_object(cls)` -/
  identify : LoaderKind → ClassId → Ident

inductive PersKind where
  | mem (loader : Option LoaderKind)   -- `InMemoryPersister(loader=…)`
  | pickle                             -- `PicklePersister(dir)`: bundles without save context
  deriving DecidableEq, Repr

/-- how the launcher was constructed -/
structure Config where
  persister : Option PersKind       -- `none` = `persister=None`
  loader : Option LoaderKind        -- the `loader=` argument; `none` = not given
  /-- the loader carried by a caller-supplied `load_context=`; `none` = no load context given, or one without loader -/
  ctxLoader : Option LoaderKind := none
  deriving DecidableEq, Repr

/-- `self._loader` -/
def Config.launchLoader (cfg : Config) : LoaderKind := cfg.loader.getD .default

/-- the loader of `self._load_context`: `__init__` takes the caller's load context (or an empty one) and, when a
`loader` is given, overrides its loader with it (`copyextend(loader=loader)`) -/
def Config.contextLoader (cfg : Config) : Option LoaderKind :=
  match cfg.loader with
  | some l => some l
  | none => cfg.ctxLoader

/-- the loader of the persister's save context -/
def Config.saveLoader (cfg : Config) : Option LoaderKind :=
  match cfg.persister with
  | some (.mem l) => l
  | _ => none

/-- constructor arguments: `(init_args, init_kwargs)`; `.none` stands for `()` / `{}` (Python replaces `None` by them) -/
abbrev CtorArgs := Val × Val

structure Proc where
  pid : Pid
  cls : ClassId
  /-- the class the process was constructed as: stands for whatever of its persisted state was produced before the
  checkpoint (it differs from `cls` only when a loader resolves the saved identifier to another class) -/
  origin : ClassId
  init : CtorArgs
  /-- number of `Process.step()` iterations performed so far; `0` = state CREATED, nothing has run -/
  pos : Nat

inductive Outcome where
  | outputs (o : Outputs)   -- FINISHED: `future().result()` is the outputs
  | raised (e : String)     -- EXCEPTED: it raises the exception of the process (class `e`)
  | killed                  -- KILLED (by whoever, while it ran): it raises `KilledError`

structure Runtime where
  /-- `proc_class(*init_args, **init_kwargs)`: `.error c` = the constructor raises an exception of class `c` -/
  construct : ClassId → CtorArgs → Except String Unit
  /-- `await proc.step_until_terminated(); proc.future().result()` -/
  complete : Proc → Outcome

structure Checkpoint where
  ident : Ident                   -- class name written into the bundle
  recorded : Option LoaderKind    -- loader class recorded in the bundle, if the save context had one
  pid : Pid
  origin : ClassId
  init : CtorArgs
  pos : Nat

abbrev Key := Pid × Tag
abbrev Store := List (Key × Checkpoint)

def Store.get (s : Store) (k : Key) : Option Checkpoint :=
  match s with
  | [] => none
  | (k', c) :: r => if k' = k then some c else Store.get r k

def Store.erase (s : Store) (k : Key) : Store :=
  match s with
  | [] => []
  | (k', c) :: r => if k' = k then Store.erase r k else (k', c) :: Store.erase r k

def Store.put (s : Store) (k : Key) (c : Checkpoint) : Store := (k, c) :: s.erase k

def Store.keys (s : Store) : List Key := s.map (·.1)

/-- `Bundle(proc, save_context)` as made by the configured persister -/
def bundle (L : Loaders) (saveLoader : Option LoaderKind) (p : Proc) : Checkpoint :=
  { ident := L.identify (saveLoader.getD .default) p.cls, recorded := saveLoader, pid := p.pid, origin := p.origin,
    init := p.init, pos := p.pos }

/-- the bundle records the loader's CLASS; loading instantiates it without arguments -/
def instanceOfClassOf : LoaderKind → LoaderKind
  | .default => .default
  | .custom => .fresh
  | .fresh => .fresh

/-- `_ensure_object_loader`: 1) the loader of the load context, 2) a new instance of the loader class recorded in the
saved state, 3) the global default -/
def loadLoader (cfg : Config) (c : Checkpoint) : LoaderKind :=
  match cfg.contextLoader with
  | some l => l
  | none => match c.recorded with
    | some l => instanceOfClassOf l
    | none => .default

def recreate (c : Checkpoint) (cls : ClassId) : Proc :=
  { pid := c.pid, cls := cls, origin := c.origin, init := c.init, pos := c.pos }

inductive Err where
  | missingTaskKey      -- `task[TASK_KEY]` raised KeyError
  | badArguments        -- TypeError: the task arguments do not fit the method's keywords (or are not a dict)
  | badValue            -- an argument has a shape no `create_*_body` produces (fails inside the loader)
  | unknownIdentifier   -- `load_object` raised ValueError
  | noCheckpoint        -- `load_checkpoint` raised (KeyError / FileNotFoundError)
  | ctor (e : String)   -- the constructor raised
  | proc (e : String)   -- the process ended excepted: `future().result()` raised its exception
  | killed              -- the process was killed: `future().result()` raised `KilledError`
  deriving DecidableEq, Repr

inductive Reply where
  | pid (p : Pid)
  | outputs (o : Outputs)
  | error (e : Err)
  | rejected             -- `communications.TaskRejected`
  deriving DecidableEq, Repr

/-- effects of a task, in the order they happen -/
inductive Event where
  | resolved (by_ : LoaderKind) (ident : Ident) (cls : Option ClassId)   -- `load_object`
  | constructed (p : Proc)                                               -- `proc_class(*args, **kwargs)`
  | saved (k : Key) (c : Checkpoint)                                     -- `save_checkpoint(proc)`
  | loaded (k : Key) (c : Checkpoint)                                    -- `load_checkpoint(pid, tag)`
  | recreated (p : Proc)                                                 -- `unbundle`
  | ran (p : Proc)                                                       -- `p.step_until_terminated()` from `p.pos`

structure State where
  pers : Store    -- content of the persister (stays as it is when none is configured)
  next : Pid      -- the id the next constructed process gets

/-- what one task did -/
structure Step where
  reply : Reply
  st : State
  now : List Event      -- effects before the reply
  later : List Event    -- effects of what was scheduled with `ensure_future`, after the reply

def Step.reject (s : State) : Step := { reply := .rejected, st := s, now := [], later := [] }
def Step.fail (s : State) (e : Err) (pre : List Event := []) : Step := { reply := .error e, st := s, now := pre, later := [] }

def replyOf : Outcome → Reply
  | .outputs o => .outputs o
  | .raised e => .error (.proc e)
  | .killed => .error .killed

/-- the tail of `_launch` and `_continue`: `if nowait: ensure_future(...); return proc.pid` else run and report -/
def finish (R : Runtime) (s : State) (pre : List Event) (p : Proc) (nowait : Bool) : Step :=
  if nowait then { reply := .pid p.pid, st := s, now := pre, later := [.ran p] }
  else { reply := replyOf (R.complete p), st := s, now := pre ++ [.ran p], later := [] }

structure LaunchArgs where
  processClass : Val
  persist : Bool
  nowait : Bool
  init : CtorArgs

structure ContinueArgs where
  pid : Val
  nowait : Bool
  tag : Val

structure CreateArgs where
  processClass : Val
  persist : Bool
  init : CtorArgs

/-- `if persist and self._persister is not None: self._persister.save_checkpoint(proc)` -/
def persistIfAsked (cfg : Config) (L : Loaders) (s : State) (persist : Bool) (p : Proc) : State × List Event :=
  if persist && cfg.persister.isSome then
    let c := bundle L cfg.saveLoader p
    ({ s with pers := s.pers.put (p.pid, none) c }, [.saved (p.pid, none) c])
  else (s, [])

/-- `proc_class = self._loader.load_object(process_class); proc = proc_class(*init_args, **init_kwargs)`.
`.inl` = the task fails with that step, `.inr` = the new process (in state CREATED), the state with its id taken, and
the events so far -/
def instantiate (cfg : Config) (L : Loaders) (R : Runtime) (s : State) (processClass : Val) (init : CtorArgs) :
    Step ⊕ (Proc × State × List Event) :=
  match processClass with
  | .str ident =>
    match L.load cfg.launchLoader ident with
    | none => .inl (Step.fail s .unknownIdentifier [.resolved cfg.launchLoader ident none])
    | some cls =>
      match R.construct cls init with
      | .error e => .inl (Step.fail s (.ctor e) [.resolved cfg.launchLoader ident (some cls)])
      | .ok () =>
        let p : Proc := { pid := s.next, cls := cls, origin := cls, init := init, pos := 0 }
        .inr (p, { s with next := s.next + 1 }, [.resolved cfg.launchLoader ident (some cls), .constructed p])
  | _ => .inl (Step.fail s .badValue)

/-- `ProcessLauncher._launch` -/
def launch (cfg : Config) (L : Loaders) (R : Runtime) (s : State) (a : LaunchArgs) : Step :=
  if a.persist && cfg.persister.isNone then Step.reject s
  else
    match instantiate cfg L R s a.processClass a.init with
    | .inl failed => failed
    | .inr (p, s1, ev) =>
      let (s2, evSave) := persistIfAsked cfg L s1 a.persist p
      finish R s2 (ev ++ evSave) p a.nowait

/-- `ProcessLauncher._create` -/
def create (cfg : Config) (L : Loaders) (R : Runtime) (s : State) (a : CreateArgs) : Step :=
  if a.persist && cfg.persister.isNone then Step.reject s
  else
    match instantiate cfg L R s a.processClass a.init with
    | .inl failed => failed
    | .inr (p, s1, ev) =>
      let (s2, evSave) := persistIfAsked cfg L s1 a.persist p
      { reply := .pid p.pid, st := s2, now := ev ++ evSave, later := [] }

/-- the key `load_checkpoint(pid, tag)` looks up; shapes that no process id / tag has find nothing -/
def keyOf (pid tag : Val) : Option Key :=
  match pid, tag with
  | .pid p, .none => some (p, none)
  | .pid p, .str t => some (p, some t)
  | _, _ => none

/-- `ProcessLauncher._continue` -/
def continue_ (cfg : Config) (L : Loaders) (R : Runtime) (s : State) (a : ContinueArgs) : Step :=
  if cfg.persister.isNone then Step.reject s
  else
    match (keyOf a.pid a.tag).bind (fun k => (s.pers.get k).map (fun c => (k, c))) with
    | none => Step.fail s .noCheckpoint
    | some (k, c) =>
      match L.load (loadLoader cfg c) c.ident with
      | none => Step.fail s .unknownIdentifier [.loaded k c, .resolved (loadLoader cfg c) c.ident none]
      | some cls =>
        let p := recreate c cls
        finish R s [.loaded k c, .resolved (loadLoader cfg c) c.ident (some cls), .recreated p] p a.nowait

/-! ### keyword binding of `**task.get(TASK_ARGS, {})` -/

/-- the call `f(**d)` binds: every required keyword is there and (unless `**kwargs`) nothing unexpected -/
def binds (required optional : List String) (varkw : Bool) (d : Dict) : Bool :=
  required.all (fun k => (lookup k d).isSome) &&
    (varkw || d.all (fun kv => required.contains kv.1 || optional.contains kv.1))

def optVal (k : String) (d : Dict) : Val := (lookup k d).getD .none

def ctorArgs (d : Dict) : CtorArgs := (optVal Gen.comms_args_key d, optVal Gen.comms_kwargs_key d)

def launchArgs? (d : Dict) : Option LaunchArgs :=
  if binds Gen.launcher_launch_required Gen.launcher_launch_optional Gen.launcher_launch_varkw d then
    match lookup Gen.comms_process_class_key d, lookup Gen.comms_persist_key d, lookup Gen.comms_nowait_key d with
    | some c, some p, some w => some { processClass := c, persist := p.truthy, nowait := w.truthy, init := ctorArgs d }
    | _, _, _ => none
  else none

def continueArgs? (d : Dict) : Option ContinueArgs :=
  if binds Gen.launcher_continue_required Gen.launcher_continue_optional Gen.launcher_continue_varkw d then
    match lookup Gen.comms_pid_key d, lookup Gen.comms_nowait_key d with
    | some p, some w => some { pid := p, nowait := w.truthy, tag := optVal Gen.comms_tag_key d }
    | _, _ => none
  else none

def createArgs? (d : Dict) : Option CreateArgs :=
  if binds Gen.launcher_create_required Gen.launcher_create_optional Gen.launcher_create_varkw d then
    match lookup Gen.comms_process_class_key d, lookup Gen.comms_persist_key d with
    | some c, some p => some { processClass := c, persist := p.truthy, init := ctorArgs d }
    | _, _ => none
  else none

inductive Method where
  | launch | continue_ | create
  deriving DecidableEq, Repr

def methodOfName (n : String) : Option Method :=
  if n = "_launch" then some .launch
  else if n = "_continue" then some .continue_
  else if n = "_create" then some .create
  else none

/-- the `if task_type == …` chain of `__call__`, in source order (table generated from the source) -/
def dispatchIn : List (String × String) → String → Option Method
  | [], _ => none
  | (name, meth) :: r, t => if t = name then methodOfName meth else dispatchIn r t

def dispatch (taskType : Val) : Option Method :=
  match taskType with
  | .str t => dispatchIn Gen.launcherDispatch t
  | _ => none

/-- `task.get(TASK_ARGS, {})`, which must be a mapping to be splatted -/
def taskArgs (body : Dict) : Option Dict :=
  match lookup Gen.comms_task_args body with
  | none => some []
  | some (.dict d) => some d
  | some _ => none

def orBadArguments {α} (s : State) (a : Option α) (f : α → Step) : Step :=
  match a with
  | some x => f x
  | none => Step.fail s .badArguments

/-- `ProcessLauncher.__call__(communicator, task)` -/
def call (cfg : Config) (L : Loaders) (R : Runtime) (s : State) (body : Dict) : Step :=
  match lookup Gen.launcherTaskSubject body with
  | none => Step.fail s .missingTaskKey
  | some t =>
    match dispatch t with
    | none => Step.reject s
    | some m =>
      orBadArguments s (taskArgs body) fun d =>
        match m with
        | .launch => orBadArguments s (launchArgs? d) (launch cfg L R s)
        | .continue_ => orBadArguments s (continueArgs? d) (continue_ cfg L R s)
        | .create => orBadArguments s (createArgs? d) (create cfg L R s)

/-- a history of tasks against one launcher: the persister (and the id counter) is the state threaded through -/
def runAll (cfg : Config) (L : Loaders) (R : Runtime) : State → List Dict → List Step
  | _, [] => []
  | s, b :: r => let st := call cfg L R s b; st :: runAll cfg L R st.st r

def finalState (cfg : Config) (L : Loaders) (R : Runtime) : State → List Dict → State
  | s, [] => s
  | s, b :: r => finalState cfg L R (call cfg L R s b).st r

/-! ### the bodies written by `create_launch_body`, `create_continue_body`, `create_create_body` -/

def launchBody (ident : Ident) (init : CtorArgs) (persist nowait : Bool) : Dict :=
  [(Gen.comms_task_key, .str Gen.comms_launch_task),
   (Gen.comms_task_args, .dict [(Gen.comms_process_class_key, .str ident), (Gen.comms_persist_key, .bool persist),
      (Gen.comms_nowait_key, .bool nowait), (Gen.comms_args_key, init.1), (Gen.comms_kwargs_key, init.2)])]

def continueBody (pid : Pid) (tag : Tag) (nowait : Bool) : Dict :=
  [(Gen.comms_task_key, .str Gen.comms_continue_task),
   (Gen.comms_task_args, .dict [(Gen.comms_pid_key, .pid pid), (Gen.comms_nowait_key, .bool nowait),
      (Gen.comms_tag_key, match tag with | none => .none | some t => .str t)])]

def createBody (ident : Ident) (init : CtorArgs) (persist : Bool) : Dict :=
  [(Gen.comms_task_key, .str Gen.comms_create_task),
   (Gen.comms_task_args, .dict [(Gen.comms_process_class_key, .str ident), (Gen.comms_persist_key, .bool persist),
      (Gen.comms_args_key, init.1), (Gen.comms_kwargs_key, init.2)])]

end Launcher
