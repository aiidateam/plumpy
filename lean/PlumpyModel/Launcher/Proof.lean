import PlumpyModel.Launcher.Model
/-!
Helper lemmas for the C17 theorems.  `Does` lists what a task can do: refuse (`Refusal`: nothing happens beyond a
failed lookup), or get hold of a process (`Acquired`: construct it — `made`, the step of a create task — or reload it —
`reloaded`) and, for launch and continue, `finish`, which only appends the run of that process (`finish_events`,
`finish_now`).  The code is traversed once (`withNew_cases` for the head `_launch` and `_create` share, `continue_cases`,
`call_does`); what holds of every step (`Frame`, `Step.Resolves`, refused → inert) is proved by cases on `Does`.
-/
namespace Launcher

def ranProcs : List Event → List Proc
  | [] => []
  | .ran p :: r => p :: ranProcs r
  | _ :: r => ranProcs r

def savedOf : List Event → List (Key × Checkpoint)
  | [] => []
  | .saved k c :: r => (k, c) :: savedOf r
  | _ :: r => savedOf r

def loadedOf : List Event → List (Key × Checkpoint)
  | [] => []
  | .loaded k c :: r => (k, c) :: loadedOf r
  | _ :: r => loadedOf r

def builtOf : List Event → List Proc
  | [] => []
  | .constructed p :: r => p :: builtOf r
  | .recreated p :: r => p :: builtOf r
  | _ :: r => builtOf r

def resolutionsOf : List Event → List (LoaderKind × Ident × Option ClassId)
  | [] => []
  | .resolved k i c :: r => (k, i, c) :: resolutionsOf r
  | _ :: r => resolutionsOf r

theorem append_of_cons {α β : Type} {g : List α → List β} (hnil : g [] = []) (hcons : ∀ e r, g (e :: r) = g [e] ++ g r)
    (a b : List α) : g (a ++ b) = g a ++ g b := by
  induction a with
  | nil => rw [hnil]; rfl
  | cons e r ih => rw [List.cons_append, hcons, ih, ← List.append_assoc, ← hcons]

@[simp] theorem ranProcs_append (a b : List Event) : ranProcs (a ++ b) = ranProcs a ++ ranProcs b :=
  append_of_cons (g := ranProcs) rfl (fun e _ => by cases e <;> rfl) a b

@[simp] theorem savedOf_append (a b : List Event) : savedOf (a ++ b) = savedOf a ++ savedOf b :=
  append_of_cons (g := savedOf) rfl (fun e _ => by cases e <;> rfl) a b

@[simp] theorem builtOf_append (a b : List Event) : builtOf (a ++ b) = builtOf a ++ builtOf b :=
  append_of_cons (g := builtOf) rfl (fun e _ => by cases e <;> rfl) a b

@[simp] theorem loadedOf_append (a b : List Event) : loadedOf (a ++ b) = loadedOf a ++ loadedOf b :=
  append_of_cons (g := loadedOf) rfl (fun e _ => by cases e <;> rfl) a b

@[simp] theorem resolutionsOf_append (a b : List Event) : resolutionsOf (a ++ b) = resolutionsOf a ++ resolutionsOf b :=
  append_of_cons (g := resolutionsOf) rfl (fun e _ => by cases e <;> rfl) a b

/-- `save_checkpoint` calls replayed on a store, oldest first -/
def applySaves : List (Key × Checkpoint) → Store → Store
  | [], s => s
  | (k, c) :: r, s => applySaves r (s.put k c)

theorem applySaves_append (a b : List (Key × Checkpoint)) (s : Store) :
    applySaves (a ++ b) s = applySaves b (applySaves a s) := by
  induction a generalizing s with
  | nil => rfl
  | cons e r ih => obtain ⟨k, c⟩ := e; simp [applySaves, ih]

/-- a step that refuses the task: `TaskRejected`, or an exception that is not the outcome of a process -/
def Reply.refused : Reply → Bool
  | .rejected => true
  | .error (.proc _) => false
  | .error .killed => false
  | .error _ => true
  | _ => false

structure Step.Inert (st : Step) (s : State) : Prop where
  state : st.st = s
  later : st.later = []
  ran : ranProcs st.now = []
  saved : savedOf st.now = []
  built : builtOf st.now = []

theorem Step.reject_inert (s : State) : (Step.reject s).Inert s := ⟨rfl, rfl, rfl, rfl, rfl⟩

theorem Store.get_put_same (s : Store) (k : Key) (c : Checkpoint) : (s.put k c).get k = some c := by
  simp [Store.put, Store.get]

theorem Store.get_erase_ne (s : Store) (k k' : Key) (h : k' ≠ k) : (s.erase k).get k' = s.get k' := by
  induction s with
  | nil => rfl
  | cons e r ih =>
    unfold Store.erase
    split
    · rename_i hk; rw [ih, Store.get, if_neg (hk ▸ h.symm)]
    · simp only [Store.get, ih]

theorem Store.get_put_other (s : Store) (k k' : Key) (c : Checkpoint) (h : k' ≠ k) : (s.put k c).get k' = s.get k' := by
  have hk : k ≠ k' := fun h' => h h'.symm
  simp only [Store.put, Store.get, hk, if_false]
  exact Store.get_erase_ne s k k' h

theorem Store.mem_erase {s : Store} {k k' : Key} {c' : Checkpoint} (h : (k', c') ∈ s.erase k) : (k', c') ∈ s := by
  induction s with
  | nil => exact h
  | cons e r ih =>
    unfold Store.erase at h
    split at h
    · exact .tail _ (ih h)
    · cases h with
      | head => exact .head _
      | tail _ h => exact .tail _ (ih h)

theorem Store.mem_of_get {s : Store} {k : Key} {c : Checkpoint} (h : s.get k = some c) : (k, c) ∈ s := by
  induction s with
  | nil => cases h
  | cons e r ih =>
    unfold Store.get at h
    split at h
    · rename_i hk; cases h; cases hk; exact .head _
    · exact .tail _ (ih h)

/-- every checkpoint is filed under the id of the process it is a checkpoint of, and that id has been handed out -/
def Inv (s : State) : Prop := ∀ k c, (k, c) ∈ s.pers → c.pid = k.1 ∧ k.1 < s.next

theorem mem_put {s : Store} {k k' : Key} {c c' : Checkpoint} (h : (k', c') ∈ s.put k c) :
    (k' = k ∧ c' = c) ∨ (k', c') ∈ s := by
  simp only [Store.put, List.mem_cons] at h
  rcases h with h | h
  · left; cases h; exact ⟨rfl, rfl⟩
  · right; exact Store.mem_erase h

variable (cfg : Config) (L : Loaders) (R : Runtime) (s : State)

theorem finish_not_refused (pre : List Event) (p : Proc) (w : Bool) : (finish R s pre p w).reply.refused = false := by
  cases w
  · show (replyOf (R.complete p)).refused = false
    cases R.complete p <;> rfl
  · rfl

theorem finish_st (pre : List Event) (p : Proc) (w : Bool) : (finish R s pre p w).st = s := by cases w <;> rfl

theorem finish_events (pre : List Event) (p : Proc) (w : Bool) :
    (finish R s pre p w).now ++ (finish R s pre p w).later = pre ++ [.ran p] := by
  cases w
  · exact List.append_nil _
  · rfl

theorem finish_now (pre : List Event) (p : Proc) (w : Bool) :
    savedOf (finish R s pre p w).now = savedOf pre ∧ loadedOf (finish R s pre p w).now = loadedOf pre ∧
    builtOf (finish R s pre p w).now = builtOf pre ∧ resolutionsOf (finish R s pre p w).now = resolutionsOf pre := by
  cases w
  · exact ⟨(savedOf_append ..).trans (List.append_nil _), (loadedOf_append ..).trans (List.append_nil _),
      (builtOf_append ..).trans (List.append_nil _), (resolutionsOf_append ..).trans (List.append_nil _)⟩
  · exact ⟨rfl, rfl, rfl, rfl⟩

/-- the process a launch/create task constructs -/
def fresh (s : State) (cls : ClassId) (init : CtorArgs) : Proc :=
  { pid := s.next, cls := cls, origin := cls, init := init, pos := 0 }

/-- a step that refuses the task and does nothing; what it looked up, it looked up as the launcher does -/
structure Step.Refusal (cfg : Config) (L : Loaders) (s : State) (f : Step) : Prop where
  inert : f.Inert s
  refused : f.reply.refused = true
  loaded : ∀ kc ∈ loadedOf f.now, cfg.persister ≠ none ∧ s.pers.get kc.1 = some kc.2
  resolved : ∀ r ∈ resolutionsOf f.now, r.2.2 = L.load r.1 r.2.1 ∧
    (r.1 = cfg.launchLoader ∨ ∃ kc ∈ loadedOf f.now, r.1 = loadLoader cfg kc.2 ∧ r.2.1 = kc.2.ident)

theorem Step.Refusal.reject {cfg L s} : (Step.reject s).Refusal cfg L s :=
  ⟨Step.reject_inert s, rfl, List.forall_mem_nil _, List.forall_mem_nil _⟩

theorem Step.Refusal.fail {cfg L s} {e : Err} (he : (Reply.error e).refused = true) : (Step.fail s e).Refusal cfg L s :=
  ⟨⟨rfl, rfl, rfl, rfl, rfl⟩, he, List.forall_mem_nil _, List.forall_mem_nil _⟩

theorem Step.Refusal.unresolved {cfg L s} {e : Err} (he : (Reply.error e).refused = true) {ident : Ident} {c : Option ClassId}
    (hl : L.load cfg.launchLoader ident = c) : (Step.fail s e [.resolved cfg.launchLoader ident c]).Refusal cfg L s :=
  ⟨⟨rfl, rfl, rfl, rfl, rfl⟩, he, List.forall_mem_nil _, List.forall_mem_singleton.mpr ⟨hl.symm, .inl rfl⟩⟩

theorem Step.Refusal.stale {cfg L s} {k : Key} {c : Checkpoint} (hp : cfg.persister ≠ none) (hg : s.pers.get k = some c)
    (hl : L.load (loadLoader cfg c) c.ident = none) :
    (Step.fail s .unknownIdentifier [.loaded k c, .resolved (loadLoader cfg c) c.ident none]).Refusal cfg L s :=
  ⟨⟨rfl, rfl, rfl, rfl, rfl⟩, rfl, List.forall_mem_singleton.mpr ⟨hp, hg⟩,
    List.forall_mem_singleton.mpr ⟨hl.symm, .inr ⟨(k, c), List.mem_singleton.mpr rfl, rfl, rfl⟩⟩⟩

theorem persistIfAsked_no (s1 : State) (p : Proc) (persist : Bool) (h : ¬ (persist = true ∧ cfg.persister ≠ none)) :
    persistIfAsked cfg L s1 persist p = (s1, []) := by
  cases persist <;> cases hq : cfg.persister <;> simp_all [persistIfAsked]

theorem persistIfAsked_yes (s1 : State) (p : Proc) (persist : Bool) (h1 : persist = true) (h2 : cfg.persister ≠ none) :
    persistIfAsked cfg L s1 persist p =
      ({ s1 with pers := s1.pers.put (p.pid, none) (bundle L cfg.saveLoader p) },
       [.saved (p.pid, none) (bundle L cfg.saveLoader p)]) := by
  cases hq : cfg.persister <;> simp_all [persistIfAsked]

theorem persistIfAsked_frame (s1 : State) (p : Proc) (persist : Bool) :
    (persistIfAsked cfg L s1 persist p).1.next = s1.next ∧
    (persistIfAsked cfg L s1 persist p).1.pers = applySaves (savedOf (persistIfAsked cfg L s1 persist p).2) s1.pers ∧
    ranProcs (persistIfAsked cfg L s1 persist p).2 = [] ∧ builtOf (persistIfAsked cfg L s1 persist p).2 = [] ∧
    resolutionsOf (persistIfAsked cfg L s1 persist p).2 = [] ∧
    (cfg.persister = none → (persistIfAsked cfg L s1 persist p).2 = []) := by
  by_cases h : persist = true ∧ cfg.persister ≠ none
  · rw [persistIfAsked_yes cfg L s1 p persist h.1 h.2]
    refine ⟨rfl, rfl, rfl, rfl, rfl, fun hn => absurd hn h.2⟩
  · rw [persistIfAsked_no cfg L s1 p persist h]
    exact ⟨rfl, rfl, rfl, rfl, rfl, fun _ => rfl⟩

/-- the step of a create task that gets as far as constructing its process `fresh s cls init`: the class was resolved,
the process constructed and, if asked, saved; a launch task goes on from here with `finish` -/
def made (persist : Bool) (ident : Ident) (cls : ClassId) (init : CtorArgs) : Step :=
  let c := bundle L cfg.saveLoader (fresh s cls init)
  { reply := .pid s.next
    st := { pers := if persist then s.pers.put (s.next, none) c else s.pers, next := s.next + 1 }
    now := [.resolved cfg.launchLoader ident (some cls), .constructed (fresh s cls init)] ++
      if persist then [.saved (s.next, none) c] else []
    later := [] }

theorem made_eq {persist : Bool} (hh : ¬ (persist = true ∧ cfg.persister = none)) (ident : Ident) (cls : ClassId)
    (init : CtorArgs) :
    made cfg L s persist ident cls init =
      { reply := .pid s.next
        st := (persistIfAsked cfg L { s with next := s.next + 1 } persist (fresh s cls init)).1
        now := [.resolved cfg.launchLoader ident (some cls), .constructed (fresh s cls init)] ++
          (persistIfAsked cfg L { s with next := s.next + 1 } persist (fresh s cls init)).2
        later := [] } := by
  cases persist
  · rfl
  · rw [persistIfAsked_yes cfg L _ _ _ rfl (fun h => hh ⟨rfl, h⟩)]; rfl

theorem guard_false {persist : Bool} (hh : ¬ (persist = true ∧ cfg.persister = none)) :
    (persist && cfg.persister.isNone) = false := by
  cases persist
  · rfl
  · cases hq : cfg.persister with
    | none => exact absurd ⟨rfl, hq⟩ hh
    | some k => rfl

/-- the common part of `launch` and `create`: guard, `instantiate`, `persistIfAsked`; `k` is what is done with the process -/
def withNew (pc : Val) (persist : Bool) (init : CtorArgs) (k : Proc → State → List Event → Step) : Step :=
  if persist && cfg.persister.isNone then Step.reject s
  else
    match instantiate cfg L R s pc init with
    | .inl failed => failed
    | .inr (p, s1, ev) =>
      let (s2, evSave) := persistIfAsked cfg L s1 persist p
      k p s2 (ev ++ evSave)

theorem launch_eq (a : LaunchArgs) :
    launch cfg L R s a = withNew cfg L R s a.processClass a.persist a.init (fun p s2 ev => finish R s2 ev p a.nowait) := rfl

theorem create_eq (a : CreateArgs) :
    create cfg L R s a = withNew cfg L R s a.processClass a.persist a.init (fun p s2 ev => ⟨.pid p.pid, s2, ev, []⟩) := rfl

theorem withNew_ok {ident : Ident} {cls : ClassId} {persist : Bool} {init : CtorArgs}
    (hh : ¬ (persist = true ∧ cfg.persister = none)) (hl : L.load cfg.launchLoader ident = some cls)
    (hcons : R.construct cls init = .ok ()) (k : Proc → State → List Event → Step) :
    withNew cfg L R s (.str ident) persist init k =
      k (fresh s cls init) (made cfg L s persist ident cls init).st (made cfg L s persist ident cls init).now := by
  simp only [withNew, guard_false cfg hh, instantiate, hl, hcons, made_eq cfg L s hh]
  rfl

theorem withNew_reject {persist : Bool} (hp : persist = true) (hn : cfg.persister = none) (pc : Val) (init : CtorArgs)
    (k : Proc → State → List Event → Step) : withNew cfg L R s pc persist init k = Step.reject s := by
  simp [withNew, hp, hn]

/-- in the second case `withNew_ok` gives the step -/
theorem withNew_cases (pc : Val) (persist : Bool) (init : CtorArgs) (k : Proc → State → List Event → Step) :
    (withNew cfg L R s pc persist init k).Refusal cfg L s ∨
    ∃ ident cls, ¬ (persist = true ∧ cfg.persister = none) ∧ pc = .str ident ∧
      L.load cfg.launchLoader ident = some cls ∧ R.construct cls init = .ok () := by
  by_cases hh : persist = true ∧ cfg.persister = none
  · rw [withNew_reject cfg L R s hh.1 hh.2]
    exact .inl (.reject)
  · simp only [withNew, guard_false cfg hh, Bool.false_eq_true, if_false]
    cases pc with
    | str ident =>
      simp only [instantiate]
      cases hl : L.load cfg.launchLoader ident with
      | none => exact .inl (.unresolved rfl hl)
      | some cls =>
        dsimp only
        cases hc : R.construct cls init with
        | error x => exact .inl (.unresolved rfl hl)
        | ok u => exact .inr ⟨ident, cls, hh, rfl, hl, hc⟩
    | _ => exact .inl (.fail rfl)

/-- the step of a continue task up to the point where it has its process (the counterpart of `made`) -/
def reloaded (k : Key) (c : Checkpoint) (cls : ClassId) : Step :=
  { reply := .pid c.pid, st := s
    now := [.loaded k c, .resolved (loadLoader cfg c) c.ident (some cls), .recreated (recreate c cls)], later := [] }

theorem continue_ok {a : ContinueArgs} {k : Key} {c : Checkpoint} {cls : ClassId} (hp : cfg.persister ≠ none)
    (hk : keyOf a.pid a.tag = some k) (hg : s.pers.get k = some c) (hl : L.load (loadLoader cfg c) c.ident = some cls) :
    continue_ cfg L R s a = finish R s (reloaded cfg s k c cls).now (recreate c cls) a.nowait := by
  simp [continue_, reloaded, hp, hk, hg, hl]

/-- in the last case `continue_ok` gives the step -/
theorem continue_cases (a : ContinueArgs) :
    (cfg.persister = none ∧ continue_ cfg L R s a = Step.reject s) ∨
    (cfg.persister ≠ none ∧ (∀ k, keyOf a.pid a.tag = some k → s.pers.get k = none) ∧
      continue_ cfg L R s a = Step.fail s .noCheckpoint) ∨
    (∃ k c, cfg.persister ≠ none ∧ keyOf a.pid a.tag = some k ∧ s.pers.get k = some c ∧
      L.load (loadLoader cfg c) c.ident = none ∧
      continue_ cfg L R s a = Step.fail s .unknownIdentifier [.loaded k c, .resolved (loadLoader cfg c) c.ident none]) ∨
    (∃ k c cls, cfg.persister ≠ none ∧ keyOf a.pid a.tag = some k ∧ s.pers.get k = some c ∧
      L.load (loadLoader cfg c) c.ident = some cls) := by
  by_cases hp : cfg.persister = none
  · exact .inl ⟨hp, by simp [continue_, hp]⟩
  right
  cases hk : keyOf a.pid a.tag with
  | none => exact .inl ⟨hp, nofun, by simp [continue_, hp, hk]⟩
  | some k =>
    cases hg : s.pers.get k with
    | none => exact .inl ⟨hp, fun k' hk' => Option.some.inj hk' ▸ hg, by simp [continue_, hp, hk, hg]⟩
    | some c =>
      right
      cases hl : L.load (loadLoader cfg c) c.ident with
      | none => exact .inl ⟨k, c, hp, rfl, hg, hl, by simp [continue_, hp, hk, hg, hl]⟩
      | some cls => exact .inr ⟨k, c, cls, hp, rfl, hg, hl⟩

/-- the launcher has got hold of process `p`; `st` is the step up to there (that of a create task, when constructed) -/
inductive Acquired : Step → Proc → Prop
  | made {persist : Bool} {ident : Ident} {cls : ClassId} {init : CtorArgs}
      (hh : ¬ (persist = true ∧ cfg.persister = none)) (hl : L.load cfg.launchLoader ident = some cls)
      (hcons : R.construct cls init = .ok ()) : Acquired (made cfg L s persist ident cls init) (fresh s cls init)
  | reloaded {k : Key} {c : Checkpoint} {cls : ClassId} (hp : cfg.persister ≠ none) (hg : s.pers.get k = some c)
      (hl : L.load (loadLoader cfg c) c.ident = some cls) : Acquired (reloaded cfg s k c cls) (recreate c cls)

/-- what a task can do: refuse; construct a process and reply its id; or get a process and `finish` -/
inductive Does : Step → Prop
  | refuse {f : Step} : f.Refusal cfg L s → Does f
  | hold {st : Step} {p : Proc} : Acquired cfg L R s st p → Does st
  | run {st : Step} {p : Proc} (w : Bool) : Acquired cfg L R s st p → Does (finish R st.st st.now p w)

theorem launch_does (a : LaunchArgs) : Does cfg L R s (launch cfg L R s a) := by
  rw [launch_eq]
  rcases withNew_cases cfg L R s a.processClass a.persist a.init _ with h | ⟨ident, cls, hh, hc, hl, hcons⟩
  · exact .refuse h
  · rw [hc, withNew_ok cfg L R s hh hl hcons]; exact .run _ (.made hh hl hcons)

theorem create_does (a : CreateArgs) : Does cfg L R s (create cfg L R s a) := by
  rw [create_eq]
  rcases withNew_cases cfg L R s a.processClass a.persist a.init _ with h | ⟨ident, cls, hh, hc, hl, hcons⟩
  · exact .refuse h
  · rw [hc, withNew_ok cfg L R s hh hl hcons]; exact .hold (.made hh hl hcons)

theorem continue_does (a : ContinueArgs) : Does cfg L R s (continue_ cfg L R s a) := by
  rcases continue_cases cfg L R s a with ⟨_, e⟩ | ⟨_, _, e⟩ | ⟨k, c, hp, _, hg, hl, e⟩ | ⟨k, c, cls, hp, hk, hg, hl⟩
  · rw [e]; exact .refuse (.reject)
  · rw [e]; exact .refuse (.fail rfl)
  · rw [e]; exact .refuse (.stale hp hg hl)
  · rw [continue_ok cfg L R s hp hk hg hl]; exact .run (st := reloaded cfg s k c cls) _ (.reloaded hp hg hl)

theorem Does.orBadArguments {cfg L R s} {α : Type} (a : Option α) {f : α → Step} (h : ∀ x, Does cfg L R s (f x)) :
    Does cfg L R s (orBadArguments s a f) := by
  cases a with
  | none => exact .refuse (.fail rfl)
  | some x => exact h x

theorem call_does (body : Dict) : Does cfg L R s (call cfg L R s body) := by
  unfold call
  split
  · exact .refuse (.fail rfl)
  · split
    · exact .refuse (.reject)
    · rename_i m _
      refine .orBadArguments _ fun d => ?_
      cases m <;> refine .orBadArguments _ ?_
      · exact launch_does cfg L R s
      · exact continue_does cfg L R s
      · exact create_does cfg L R s

/-- what every task guarantees about the state it leaves and the effects it announces -/
structure Frame (cfg : Config) (s : State) (st : Step) : Prop where
  next_le : s.next ≤ st.st.next
  /-- the persister changes through the announced saves and in no other way -/
  pers : st.st.pers = applySaves (savedOf st.now) s.pers
  /-- a save made by the launcher files the INITIAL state of the process constructed by this task under `(pid, None)` -/
  saves : ∀ kc ∈ savedOf st.now, kc.1 = (s.next, none) ∧ kc.2.pid = s.next ∧ kc.2.pos = 0 ∧ st.st.next = s.next + 1
  /-- what is left for after the reply is running only -/
  later : savedOf st.later = [] ∧ builtOf st.later = [] ∧ loadedOf st.later = []
  nopers : cfg.persister = none → savedOf st.now = [] ∧ loadedOf st.now = []
  /-- only a process constructed or recreated by this very task runs -/
  ran : ∀ p ∈ ranProcs (st.now ++ st.later), p ∈ builtOf st.now
  loaded : ∀ kc ∈ loadedOf st.now, s.pers.get kc.1 = some kc.2

theorem Step.Refusal.frame {f : Step} (h : f.Refusal cfg L s) : Frame cfg s f where
  next_le := by rw [h.inert.state]; exact Nat.le_refl _
  pers := by rw [h.inert.state, h.inert.saved]; rfl
  saves := by rw [h.inert.saved]; exact List.forall_mem_nil _
  later := by rw [h.inert.later]; exact ⟨rfl, rfl, rfl⟩
  nopers := fun hp => ⟨h.inert.saved, by
    cases hl : loadedOf f.now with
    | nil => rfl
    | cons kc r => exact absurd hp (h.loaded kc (hl ▸ List.mem_cons_self)).1⟩
  ran := by rw [h.inert.later, List.append_nil, h.inert.ran]; exact List.forall_mem_nil _
  loaded := fun kc hkc => (h.loaded kc hkc).2

theorem Frame.reject : Frame cfg s (Step.reject s) :=
  ⟨Nat.le_refl _, rfl, List.forall_mem_nil _, ⟨rfl, rfl, rfl⟩, fun _ => ⟨rfl, rfl⟩, List.forall_mem_nil _, List.forall_mem_nil _⟩

theorem Frame.finish {st : Step} {p : Proc} (w : Bool) (h : Frame cfg s st) (hl : st.later = [])
    (hp : p ∈ builtOf st.now) : Frame cfg s (finish R st.st st.now p w) := by
  obtain ⟨es, el, eb, _⟩ := finish_now R st.st st.now p w
  have hr := h.ran
  rw [hl, List.append_nil] at hr
  refine ⟨?_, ?_, ?_, by cases w <;> exact ⟨rfl, rfl, rfl⟩, ?_, ?_, ?_⟩
  · rw [finish_st]; exact h.next_le
  · rw [finish_st, es]; exact h.pers
  · rw [finish_st, es]; exact h.saves
  · rw [es, el]; exact h.nopers
  · rw [finish_events, eb, ranProcs_append, List.forall_mem_append]
    exact ⟨hr, List.forall_mem_singleton.mpr hp⟩
  · rw [el]; exact h.loaded

theorem Frame.made {persist : Bool} (hh : ¬ (persist = true ∧ cfg.persister = none)) (ident : Ident) (cls : ClassId)
    (init : CtorArgs) : Frame cfg s (made cfg L s persist ident cls init) := by
  cases persist
  · exact ⟨Nat.le_succ _, rfl, List.forall_mem_nil _, ⟨rfl, rfl, rfl⟩, fun _ => ⟨rfl, rfl⟩, List.forall_mem_nil _,
      List.forall_mem_nil _⟩
  · exact ⟨Nat.le_succ _, rfl, List.forall_mem_singleton.mpr ⟨rfl, rfl, rfl, rfl⟩, ⟨rfl, rfl, rfl⟩,
      fun hn => absurd ⟨rfl, hn⟩ hh, List.forall_mem_nil _, List.forall_mem_nil _⟩

theorem made_effects (persist : Bool) (ident : Ident) (cls : ClassId) (init : CtorArgs) :
    ranProcs (made cfg L s persist ident cls init).now = [] ∧
    builtOf (made cfg L s persist ident cls init).now = [fresh s cls init] ∧
    loadedOf (made cfg L s persist ident cls init).now = [] ∧
    resolutionsOf (made cfg L s persist ident cls init).now = [(cfg.launchLoader, ident, some cls)] := by
  cases persist <;> exact ⟨rfl, rfl, rfl, rfl⟩

theorem Acquired.basic {st : Step} {p : Proc} (h : Acquired cfg L R s st p) :
    st.later = [] ∧ builtOf st.now = [p] ∧ st.reply = .pid p.pid := by
  cases h with
  | made => exact ⟨rfl, (made_effects cfg L s ..).2.1, rfl⟩
  | reloaded => exact ⟨rfl, rfl, rfl⟩

theorem Acquired.frame {st : Step} {p : Proc} (h : Acquired cfg L R s st p) : Frame cfg s st := by
  cases h with
  | made hh => exact Frame.made cfg L s hh ..
  | reloaded hp hg =>
    exact ⟨Nat.le_refl _, rfl, List.forall_mem_nil _, ⟨rfl, rfl, rfl⟩, fun hn => absurd hn hp, List.forall_mem_nil _,
      List.forall_mem_singleton.mpr hg⟩

theorem Does.frame {st : Step} (h : Does cfg L R s st) : Frame cfg s st := by
  cases h with
  | refuse h => exact h.frame
  | hold h => exact h.frame
  | run w h => exact (h.frame).finish cfg R s w (h.basic).1 (by rw [(h.basic).2.1]; exact List.mem_singleton.mpr rfl)

theorem Does.inert_of_refused {cfg L R s} {st : Step} (h : Does cfg L R s st) (hr : st.reply.refused = true) : st.Inert s := by
  cases h with
  | refuse h => exact h.inert
  | hold h => rw [(h.basic).2.2] at hr; cases hr
  | run w h => rw [finish_not_refused] at hr; cases hr

theorem call_frame (body : Dict) : Frame cfg s (call cfg L R s body) := (call_does cfg L R s body).frame

def InvStore (n : Nat) (st : Store) : Prop := ∀ k c, (k, c) ∈ st → c.pid = k.1 ∧ k.1 < n

theorem InvStore.mono {n m : Nat} {st : Store} (h : n ≤ m) (hi : InvStore n st) : InvStore m st :=
  fun k c hm => ⟨(hi k c hm).1, Nat.lt_of_lt_of_le (hi k c hm).2 h⟩

theorem InvStore.put {n : Nat} {st : Store} {k : Key} {c : Checkpoint} (hi : InvStore n st) (h1 : c.pid = k.1) (h2 : k.1 < n) :
    InvStore n (st.put k c) := by
  intro k' c' hm
  rcases mem_put hm with ⟨rfl, rfl⟩ | hm'
  · exact ⟨h1, h2⟩
  · exact hi k' c' hm'

theorem InvStore.applySaves {n : Nat} (l : List (Key × Checkpoint)) {st : Store} (hi : InvStore n st)
    (hl : ∀ kc ∈ l, kc.2.pid = kc.1.1 ∧ kc.1.1 < n) : InvStore n (applySaves l st) := by
  induction l generalizing st with
  | nil => exact hi
  | cons e r ih =>
    obtain ⟨k, c⟩ := e
    have he := hl (k, c) List.mem_cons_self
    exact ih (hi.put he.1 he.2) (fun kc hkc => hl kc (List.mem_cons_of_mem _ hkc))

theorem applySaves_get_other (l : List (Key × Checkpoint)) (st : Store) (k : Key) (h : ∀ kc ∈ l, kc.1 ≠ k) :
    (applySaves l st).get k = st.get k := by
  induction l generalizing st with
  | nil => rfl
  | cons e r ih =>
    obtain ⟨k', c⟩ := e
    have hne : k ≠ k' := fun h' => h (k', c) List.mem_cons_self h'.symm
    simp only [applySaves]
    rw [ih _ (fun kc hkc => h kc (List.mem_cons_of_mem _ hkc)), Store.get_put_other _ _ _ _ hne]

theorem call_inv (body : Dict) (h : Inv s) : Inv (call cfg L R s body).st := by
  have f := call_frame cfg L R s body
  show InvStore _ _
  rw [f.pers]
  apply InvStore.applySaves _ (InvStore.mono f.next_le h)
  intro kc hkc
  obtain ⟨h1, h2, _, h4⟩ := f.saves kc hkc
  rw [h1, h2, h4]
  exact ⟨rfl, Nat.lt_succ_self _⟩

theorem call_get_old (body : Dict) (k : Key) (hk : k.1 < s.next) : (call cfg L R s body).st.pers.get k = s.pers.get k := by
  have f := call_frame cfg L R s body
  rw [f.pers]
  apply applySaves_get_other
  intro kc hkc h
  have := (f.saves kc hkc).1
  rw [h] at this
  rw [this] at hk
  exact Nat.lt_irrefl _ hk

theorem finalState_induct {P : State → Prop} (step : ∀ t b, P t → P (call cfg L R t b).st) (hist : List Dict) (h : P s) :
    P (finalState cfg L R s hist) := by
  induction hist generalizing s with
  | nil => exact h
  | cons b r ih => exact ih _ (step s b h)

theorem finalState_next_le (hist : List Dict) : s.next ≤ (finalState cfg L R s hist).next :=
  finalState_induct cfg L R s (P := fun t => s.next ≤ t.next)
    (fun t b h => Nat.le_trans h (call_frame cfg L R t b).next_le) hist (Nat.le_refl _)

theorem finalState_get_old (hist : List Dict) (k : Key) (hk : k.1 < s.next) :
    (finalState cfg L R s hist).pers.get k = s.pers.get k :=
  (finalState_induct cfg L R s (P := fun t => s.next ≤ t.next ∧ t.pers.get k = s.pers.get k)
    (fun t b h => ⟨Nat.le_trans h.1 (call_frame cfg L R t b).next_le,
      (call_get_old cfg L R t b k (Nat.lt_of_lt_of_le hk h.1)).trans h.2⟩) hist ⟨Nat.le_refl _, rfl⟩).2

theorem runAll_length (hist : List Dict) : (runAll cfg L R s hist).length = hist.length := by
  induction hist generalizing s with
  | nil => rfl
  | cons b r ih => simp [runAll, ih]

theorem runAll_mem {hist : List Dict} {st : Step} (h : st ∈ runAll cfg L R s hist) :
    ∃ pre b post, hist = pre ++ b :: post ∧ st = call cfg L R (finalState cfg L R s pre) b := by
  induction hist generalizing s with
  | nil => simp [runAll] at h
  | cons b r ih =>
    simp only [runAll, List.mem_cons] at h
    rcases h with h | h
    · exact ⟨[], b, r, rfl, h⟩
    · obtain ⟨pre, b', post, h1, h2⟩ := ih _ h
      exact ⟨b :: pre, b', post, by rw [h1]; rfl, h2⟩

theorem dispatch_unknown (t : Val) (h1 : t ≠ .str Gen.comms_launch_task) (h2 : t ≠ .str Gen.comms_continue_task)
    (h3 : t ≠ .str Gen.comms_create_task) : dispatch t = none := by
  cases t with
  | str x =>
    have ne : ∀ {y}, Val.str x ≠ .str y → ¬ x = y := fun h e => h (congrArg Val.str e)
    show (if x = Gen.comms_launch_task then _ else if x = Gen.comms_continue_task then _ else
      if x = Gen.comms_create_task then _ else none) = none
    rw [if_neg (ne h1), if_neg (ne h2), if_neg (ne h3)]
  | _ => rfl

end Launcher
