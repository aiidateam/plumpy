import PlumpyModel.Persister.Model
/-!
# Helper lemmas for C14: association lists, the file-name function, the three refinements
-/
namespace Persister

namespace AList
variable {κ : Type} {ν : Type} [DecidableEq κ]

theorem get?_set (l : List (κ × ν)) (k k' : κ) (v : ν) :
    get? (set l k v) k' = if k = k' then some v else get? l k' := by
  induction l with
  | nil => simp [set, get?]
  | cons e r ih =>
    obtain ⟨a, b⟩ := e
    by_cases h : a = k
    · subst h; by_cases h2 : a = k' <;> simp [set, get?, h2]
    · by_cases h2 : a = k'
      · subst h2
        have : ¬ k = a := fun e => h e.symm
        simp [set, get?, h, this]
      · simp [set, get?, h, h2, ih]

theorem del_eq_filter (l : List (κ × ν)) (k : κ) : del l k = l.filter (fun e => !decide (e.1 = k)) := by
  induction l with
  | nil => rfl
  | cons e r ih =>
    obtain ⟨a, b⟩ := e
    by_cases h : a = k <;> simp [del, h, ih]

theorem get?_filter (q : κ → Bool) (l : List (κ × ν)) (k : κ) :
    get? (l.filter (fun e => q e.1)) k = if q k then get? l k else none := by
  induction l with
  | nil => simp [get?]
  | cons e r ih =>
    obtain ⟨a, b⟩ := e
    by_cases h : a = k
    · subst h; cases hq : q a <;> simp [List.filter, hq, get?, ih]
    · cases hq : q a <;> simp [List.filter, hq, get?, h, ih]

theorem get?_del (l : List (κ × ν)) (k k' : κ) :
    get? (del l k) k' = if k = k' then none else get? l k' := by
  rw [del_eq_filter, get?_filter (fun a => !decide (a = k))]
  by_cases h : k = k'
  · simp [h]
  · simp [h, Ne.symm h]

theorem mem_keys_iff (l : List (κ × ν)) (k : κ) : k ∈ keys l ↔ (get? l k).isSome = true := by
  induction l with
  | nil => simp [keys, get?]
  | cons e r ih =>
    obtain ⟨a, b⟩ := e
    by_cases h : a = k
    · simp [keys, get?, h]
    · have h' : ¬ k = a := fun e => h e.symm
      simp only [keys, List.map_cons, List.mem_cons, get?, h, if_false, h', false_or]
      exact ih

theorem mem_of_get? {l : List (κ × ν)} {k : κ} {v : ν} (h : get? l k = some v) : (k, v) ∈ l := by
  induction l with
  | nil => simp [get?] at h
  | cons e r ih =>
    obtain ⟨a, b⟩ := e
    by_cases h2 : a = k
    · subst h2; simp [get?] at h; simp [h]
    · simp [get?, h2] at h; exact List.mem_cons_of_mem _ (ih h)

theorem get?_of_mem {l : List (κ × ν)} {k : κ} {v : ν} (hn : (keys l).Nodup) (h : (k, v) ∈ l) : get? l k = some v := by
  induction l with
  | nil => simp at h
  | cons e r ih =>
    obtain ⟨a, b⟩ := e
    simp only [keys, List.map_cons, List.nodup_cons] at hn
    rcases List.mem_cons.1 h with h | h
    · cases h; simp [get?]
    · have : a ≠ k := by
        intro e; subst e
        exact hn.1 (List.mem_map.2 ⟨(a, v), h, rfl⟩)
      simp [get?, this]; exact ih hn.2 h

theorem keys_del (l : List (κ × ν)) (k : κ) : keys (del l k) = (keys l).filter (fun a => !decide (a = k)) := by
  rw [del_eq_filter, keys, keys, List.filter_map]; rfl

theorem nodup_keys_del {l : List (κ × ν)} (k : κ) (h : (keys l).Nodup) : (keys (del l k)).Nodup := by
  rw [keys_del]; exact h.filter _

theorem mem_keys_set (l : List (κ × ν)) (k k' : κ) (v : ν) : k' ∈ keys (set l k v) ↔ k' = k ∨ k' ∈ keys l := by
  rw [mem_keys_iff, mem_keys_iff, get?_set]
  by_cases h : k = k'
  · simp [h]
  · have : ¬ k' = k := fun e => h e.symm
    simp [h, this]

theorem nodup_keys_set {l : List (κ × ν)} (k : κ) (v : ν) (h : (keys l).Nodup) : (keys (set l k v)).Nodup := by
  induction l with
  | nil => simp [set, keys]
  | cons e r ih =>
    obtain ⟨a, b⟩ := e
    simp only [keys, List.map_cons, List.nodup_cons] at h
    by_cases h2 : a = k
    · subst h2; simpa [set, keys] using h
    · simp only [set, h2, if_false, keys, List.map_cons, List.nodup_cons]
      refine ⟨?_, ih h.2⟩
      intro hm
      have := (mem_keys_set r k a v).1 hm
      rcases this with e | e
      · exact h2 e
      · exact h.1 e

theorem mem_set {l : List (κ × ν)} {k : κ} {v : ν} {e : κ × ν} (h : e ∈ set l k v) : e = (k, v) ∨ e ∈ l := by
  induction l with
  | nil => simp [set] at h; exact Or.inl h
  | cons x r ih =>
    obtain ⟨a, b⟩ := x
    by_cases h2 : a = k
    · subst h2
      simp only [set, if_true, List.mem_cons] at h
      rcases h with h | h
      · exact Or.inl h
      · exact Or.inr (List.mem_cons_of_mem _ h)
    · simp only [set, h2, if_false, List.mem_cons] at h
      rcases h with h | h
      · exact Or.inr (by simp [h])
      · rcases ih h with h | h
        · exact Or.inl h
        · exact Or.inr (List.mem_cons_of_mem _ h)

theorem mem_del {l : List (κ × ν)} {k : κ} {e : κ × ν} (h : e ∈ del l k) : e ∈ l :=
  (List.mem_filter.1 (del_eq_filter l k ▸ h)).1

theorem del_eq_self {l : List (κ × ν)} {k : κ} (h : get? l k = none) : del l k = l := by
  rw [del_eq_filter, List.filter_eq_self]
  intro e he
  have hk : e.1 ∈ keys l := List.mem_map_of_mem he
  simp only [Bool.not_eq_true', decide_eq_false_iff_not]
  rintro rfl
  rw [mem_keys_iff, h] at hk; cases hk

end AList
open AList

theorem pickleFilename_tagged (p : Pid) (t : Ident) :
    (pickleFilename p (some t)).toList = p.repr.toList ++ '.' :: (t.repr.toList ++ '.' :: Gen.pickleSuffix.toList) := by
  simp [pickleFilename, render, Gen.pickleNameTagged, String.toList_append]

theorem pickleFilename_untagged (p : Pid) :
    (pickleFilename p none).toList = p.repr.toList ++ '.' :: Gen.pickleSuffix.toList := by
  simp [pickleFilename, render, Gen.pickleNameUntagged, String.toList_append]

theorem suffix_dotfree : '.' ∉ Gen.pickleSuffix.toList := by decide

theorem sepFree_dot {s : String} (h : sepFree s = true) : '.' ∉ s.toList := by
  intro hm
  simp only [sepFree, List.all_eq_true] at h
  have := h _ hm
  simp [separators] at this

theorem app_dot {a b c d : List Char} (ha : '.' ∉ a) (hc : '.' ∉ c) (h : a ++ '.' :: b = c ++ '.' :: d) : a = c ∧ b = d := by
  induction a generalizing c with
  | nil => cases c with
    | nil => simpa using h
    | cons x xs => simp at h hc; exact absurd h.1 hc.1
  | cons x xs ih => cases c with
    | nil => simp at h ha; exact absurd h.1.symm ha.1
    | cons y ys =>
      simp at h ha hc
      have := ih ha.2 hc.2 h.2
      simp [h.1, this]

theorem wfId_iff {K : Kind} {i : Ident} : wfId K i = true ↔ i.kind = K ∧ sepFree i.repr = true := by
  simp [wfId]

theorem ident_ext {i j : Ident} (hk : i.kind = j.kind) (hr : i.repr.toList = j.repr.toList) : i = j := by
  cases i; cases j; simp at hk hr; simp [hk, String.toList_inj.1 hr]

theorem filename_injective {K : Kind} {k k' : Key} (h : wfKey K k = true) (h' : wfKey K k' = true)
    (e : pickleFilename k.1 k.2 = pickleFilename k'.1 k'.2) : k = k' := by
  obtain ⟨p, t⟩ := k
  obtain ⟨p', t'⟩ := k'
  simp only [wfKey, Bool.and_eq_true] at h h'
  have hp := wfId_iff.1 h.1
  have hp' := wfId_iff.1 h'.1
  have e' := congrArg String.toList e
  cases t with
  | none =>
    cases t' with
    | none =>
      simp only [pickleFilename_untagged] at e'
      have := app_dot (sepFree_dot hp.2) (sepFree_dot hp'.2) e'
      rw [ident_ext (hp.1.trans hp'.1.symm) this.1]
    | some u' =>
      exfalso
      simp only [pickleFilename_untagged, pickleFilename_tagged] at e'
      have := (app_dot (sepFree_dot hp.2) (sepFree_dot hp'.2) e').2
      exact suffix_dotfree (by rw [this]; simp)
  | some u =>
    have hu := wfId_iff.1 (by simpa [wfTag] using h.2 : wfId K u = true)
    cases t' with
    | none =>
      exfalso
      simp only [pickleFilename_untagged, pickleFilename_tagged] at e'
      have := (app_dot (sepFree_dot hp.2) (sepFree_dot hp'.2) e').2
      exact suffix_dotfree (by rw [← this]; simp)
    | some u' =>
      have hu' := wfId_iff.1 (by simpa [wfTag] using h'.2 : wfId K u' = true)
      simp only [pickleFilename_tagged] at e'
      have h1 := app_dot (sepFree_dot hp.2) (sepFree_dot hp'.2) e'
      have h2 := app_dot (sepFree_dot hu.2) (sepFree_dot hu'.2) h1.2
      rw [ident_ext (hp.1.trans hp'.1.symm) h1.1, ident_ext (hu.1.trans hu'.1.symm) h2.1]

theorem matchesPattern_filename (p : Pid) (t : Tag) : matchesPattern (pickleFilename p t) = true := by
  simp only [matchesPattern, List.isSuffixOf_iff_suffix]
  cases t with
  | none => exact ⟨p.repr.toList, by simp [pickleFilename_untagged, String.toList_append]⟩
  | some u => exact ⟨p.repr.toList ++ '.' :: u.repr.toList, by simp [pickleFilename_tagged, String.toList_append]⟩

/-- abstraction function of the in-memory persister -/
def absMem (m : InMem) : Spec := fun k => (get? m k.1).bind (fun inner => get? inner k.2)

/-- the dictionaries of the in-memory persister have unique keys -/
structure Mem.Inv (m : InMem) : Prop where
  outer : (keys m).Nodup
  inner : ∀ e ∈ m, (keys e.2).Nodup

theorem Mem.inv_init : Mem.Inv [] := ⟨by simp [keys], by simp⟩

theorem Mem.abs_save (m : InMem) (p : Pid) (t : Tag) (v : Snap) :
    absMem (Mem.save m p t v) = (absMem m).save (p, t) v := by
  funext ⟨p', t'⟩
  simp only [absMem, Mem.save, Spec.save, Prod.mk.injEq]
  by_cases h1 : p = p'
  · subst h1
    by_cases h2 : t = t'
    · subst h2; cases get? m p <;> simp [get?_set]
    · cases get? m p <;> simp [get?_set, h2, Ne.symm h2, get?]
  · cases get? m p <;> simp [get?_set, h1, Ne.symm h1]

theorem Mem.load_eq (m : InMem) (p : Pid) (t : Tag) : Mem.load m p t = (absMem m).load (p, t) := by
  simp only [Mem.load, Spec.load, absMem]
  cases get? m p with
  | none => simp
  | some inner =>
    simp only [Option.bind_some]
    cases get? inner t <;> rfl

theorem Mem.abs_del (m : InMem) (p : Pid) (t : Tag) :
    absMem (Mem.deleteCheckpoint m p t) = (absMem m).del (p, t) := by
  funext ⟨p', t'⟩
  simp only [absMem, Mem.deleteCheckpoint, Spec.del, Prod.mk.injEq]
  by_cases h1 : p = p'
  · subst h1
    cases hm : get? m p with
    | none => simp [hm]
    | some inner =>
      by_cases h2 : t = t'
      · subst h2; cases hi : get? inner t <;> simp [hm, hi, get?_set, get?_del]
      · cases hi : get? inner t <;> simp [hm, hi, get?_set, get?_del, h2, Ne.symm h2]
  · cases get? m p with
    | none => simp [Ne.symm h1]
    | some inner => cases hi : get? inner t <;> simp [hi, get?_set, h1, Ne.symm h1]

theorem Mem.abs_delp (m : InMem) (p : Pid) :
    absMem (Mem.deleteProcessCheckpoints m p) = (absMem m).delp p := by
  funext k
  obtain ⟨p', t'⟩ := k
  simp only [absMem, Mem.deleteProcessCheckpoints, Spec.delp]
  cases hm : get? m p with
  | none =>
    by_cases h1 : p' = p
    · subst h1; simp [hm]
    · simp [h1]
  | some inner =>
    simp only [get?_del]
    by_cases h1 : p = p'
    · subst h1; simp
    · have : ¬ p' = p := fun e => h1 e.symm
      simp [h1, this]

theorem Mem.inv_set {m : InMem} (h : Mem.Inv m) (p : Pid) (inner : Inner) (hi : (keys inner).Nodup) :
    Mem.Inv (AList.set m p inner) := by
  refine ⟨nodup_keys_set _ _ h.outer, ?_⟩
  intro e he
  rcases mem_set he with he | he
  · subst he; exact hi
  · exact h.inner e he

theorem Mem.inv_save {m : InMem} (h : Mem.Inv m) (p : Pid) (t : Tag) (v : Snap) : Mem.Inv (Mem.save m p t v) := by
  unfold Mem.save
  cases hm : get? m p with
  | none => exact Mem.inv_set h _ _ (nodup_keys_set _ _ (by simp [keys]))
  | some inner => exact Mem.inv_set h _ _ (nodup_keys_set _ _ (h.inner _ (mem_of_get? hm)))

theorem Mem.inv_del {m : InMem} (h : Mem.Inv m) (p : Pid) (t : Tag) : Mem.Inv (Mem.deleteCheckpoint m p t) := by
  unfold Mem.deleteCheckpoint
  cases hm : get? m p with
  | none => exact h
  | some inner =>
    dsimp only
    cases hi : get? inner t with
    | none => exact h
    | some v => exact Mem.inv_set h _ _ (nodup_keys_del _ (h.inner _ (mem_of_get? hm)))

theorem Mem.inv_delp {m : InMem} (h : Mem.Inv m) (p : Pid) : Mem.Inv (Mem.deleteProcessCheckpoints m p) := by
  unfold Mem.deleteProcessCheckpoints
  cases hm : get? m p with
  | none => exact h
  | some inner => exact ⟨nodup_keys_del _ h.outer, fun e he => h.inner e (mem_del he)⟩

theorem Mem.mem_listp (m : InMem) (p : Pid) (k : Key) :
    k ∈ Mem.getProcessCheckpoints m p ↔ (k.1 = p ∧ (absMem m k).isSome = true) := by
  obtain ⟨p', t'⟩ := k
  simp only [Mem.getProcessCheckpoints, absMem]
  cases hm : get? m p with
  | none =>
    simp only [List.not_mem_nil, false_iff, not_and]
    intro e; subst e; simp [hm]
  | some inner =>
    simp only [List.mem_map, Prod.mk.injEq]
    constructor
    · rintro ⟨t, ht, rfl, rfl⟩
      simp [hm, ← mem_keys_iff, ht]
    · rintro ⟨rfl, h⟩
      simp only [hm, Option.bind_some, ← mem_keys_iff] at h
      exact ⟨t', h, rfl, rfl⟩

theorem Mem.nodup_listp {m : InMem} (h : Mem.Inv m) (p : Pid) : (Mem.getProcessCheckpoints m p).Nodup := by
  simp only [Mem.getProcessCheckpoints]
  cases hm : get? m p with
  | none => simp
  | some inner =>
    have := h.inner _ (mem_of_get? hm)
    exact List.Pairwise.map _ (fun a b hab e => hab (by simpa using e)) this

theorem nodup_flatMap_fst {α β : Type} (f : α → List (α × β)) (l : List α) (hl : l.Nodup)
    (hf : ∀ a ∈ l, (f a).Nodup) (hfst : ∀ a, ∀ k ∈ f a, k.1 = a) : (l.flatMap f).Nodup := by
  induction l with
  | nil => simp
  | cons a r ih =>
    simp only [List.nodup_cons] at hl
    simp only [List.flatMap_cons, List.nodup_append]
    refine ⟨hf a (by simp), ih hl.2 (fun b hb => hf b (List.mem_cons_of_mem _ hb)), ?_⟩
    intro x hx y hy e
    subst e
    obtain ⟨b, hb, hyb⟩ := List.mem_flatMap.1 hy
    have h1 := hfst a x hx
    have h2 := hfst b x hyb
    rw [h1] at h2; subst h2
    exact hl.1 hb

theorem Mem.lists {m : InMem} (h : Mem.Inv m) : (absMem m).Lists (Mem.getCheckpoints m) := by
  refine ⟨?_, ?_⟩
  · exact nodup_flatMap_fst _ _ h.outer (fun a _ => Mem.nodup_listp h a)
      (fun a k hk => ((Mem.mem_listp m a k).1 hk).1)
  · intro k
    simp only [Mem.getCheckpoints, List.mem_flatMap, Mem.mem_listp]
    constructor
    · rintro ⟨a, _, _, h2⟩; exact h2
    · intro h2
      refine ⟨k.1, ?_, rfl, h2⟩
      rw [mem_keys_iff]
      simp only [absMem] at h2
      cases hg : get? m k.1 with
      | none => simp [hg] at h2
      | some _ => simp

theorem Mem.listsP {m : InMem} (h : Mem.Inv m) (p : Pid) : (absMem m).ListsP p (Mem.getProcessCheckpoints m p) :=
  ⟨Mem.nodup_listp h p, Mem.mem_listp m p⟩

/-- abstraction function of the pickle persister: the bundle in the file named after the key -/
def absPkl (d : Dir) : Spec := fun k => (get? d (pickleFilename k.1 k.2)).map (·.2)

structure Pkl.Inv (K : Kind) (d : Dir) : Prop where
  names : (keys d).Nodup
  entry : ∀ e ∈ d, e.1 = pickleFilename e.2.1.1 e.2.1.2 ∧ wfKey K e.2.1 = true

theorem Pkl.inv_init (K : Kind) : Pkl.Inv K [] := ⟨by simp [keys], by simp⟩

theorem Pkl.load_eq (d : Dir) (p : Pid) (t : Tag) : Pkl.load d p t = (absPkl d).load (p, t) := by
  simp only [Pkl.load, Spec.load, absPkl]
  cases get? d (pickleFilename p t) <;> rfl

theorem Pkl.abs_save {K : Kind} (d : Dir) (p : Pid) (t : Tag) (v : Snap) (hk : wfKey K (p, t) = true)
    (k : Key) (hk' : wfKey K k = true) : absPkl (Pkl.save d p t v) k = (absPkl d).save (p, t) v k := by
  simp only [absPkl, Pkl.save, Spec.save, get?_set]
  by_cases h : k = (p, t)
  · subst h; simp
  · have : ¬ pickleFilename p t = pickleFilename k.1 k.2 := fun e => h (filename_injective hk hk' e).symm
    simp [h, this]

theorem Pkl.abs_del {K : Kind} (d : Dir) (p : Pid) (t : Tag) (hk : wfKey K (p, t) = true)
    (k : Key) (hk' : wfKey K k = true) : absPkl (Pkl.deleteCheckpoint d p t) k = (absPkl d).del (p, t) k := by
  simp only [absPkl, Pkl.deleteCheckpoint, Spec.del, get?_del]
  by_cases h : k = (p, t)
  · subst h; simp
  · have : ¬ pickleFilename p t = pickleFilename k.1 k.2 := fun e => h (filename_injective hk hk' e).symm
    simp [h, this]

theorem Pkl.inv_save {K : Kind} {d : Dir} (h : Pkl.Inv K d) (p : Pid) (t : Tag) (v : Snap) (hk : wfKey K (p, t) = true) :
    Pkl.Inv K (Pkl.save d p t v) := by
  refine ⟨nodup_keys_set _ _ h.names, ?_⟩
  intro e he
  rcases mem_set he with he | he
  · subst he; exact ⟨rfl, hk⟩
  · exact h.entry e he

theorem Pkl.inv_del {K : Kind} {d : Dir} (h : Pkl.Inv K d) (p : Pid) (t : Tag) : Pkl.Inv K (Pkl.deleteCheckpoint d p t) :=
  ⟨nodup_keys_del _ h.names, fun e he => h.entry e (mem_del he)⟩

theorem Pkl.mem_list {K : Kind} {d : Dir} (h : Pkl.Inv K d) (k : Key) :
    k ∈ Pkl.getCheckpoints d ↔ (wfKey K k = true ∧ (absPkl d k).isSome = true) := by
  simp only [Pkl.getCheckpoints, List.mem_map, List.mem_filter, absPkl]
  constructor
  · rintro ⟨e, ⟨he, _⟩, rfl⟩
    obtain ⟨name, ck, v⟩ := e
    have := h.entry _ he
    simp only at this
    refine ⟨this.2, ?_⟩
    rw [← this.1, get?_of_mem h.names he]; rfl
  · rintro ⟨hw, hs⟩
    cases hg : get? d (pickleFilename k.1 k.2) with
    | none => simp [hg] at hs
    | some f =>
      have hm := mem_of_get? hg
      have := h.entry _ hm
      simp only at this
      have hk : k = f.1 := filename_injective hw this.2 this.1
      exact ⟨_, ⟨hm, matchesPattern_filename _ _⟩, hk.symm⟩

theorem Pkl.nodup_list {K : Kind} {d : Dir} (h : Pkl.Inv K d) : (Pkl.getCheckpoints d).Nodup := by
  simp only [Pkl.getCheckpoints]
  have h1 : (d.filter (fun e => matchesPattern e.1)).Pairwise (fun a b => a.1 ≠ b.1) :=
    List.Pairwise.filter _ (List.pairwise_map.1 h.names)
  refine List.pairwise_map.2 (List.Pairwise.imp_of_mem ?_ h1)
  intro a b ha hb hab e
  have ea := (h.entry a (List.mem_filter.1 ha).1).1
  have eb := (h.entry b (List.mem_filter.1 hb).1).1
  exact hab (by rw [ea, eb, e])

theorem Pkl.mem_listp {K : Kind} {d : Dir} (h : Pkl.Inv K d) (p : Pid) (k : Key) :
    k ∈ Pkl.getProcessCheckpoints d p ↔ (k.1 = p ∧ wfKey K k = true ∧ (absPkl d k).isSome = true) := by
  simp only [Pkl.getProcessCheckpoints, List.mem_filter, Pkl.mem_list h, decide_eq_true_eq]
  constructor
  · rintro ⟨a, b⟩; exact ⟨b, a⟩
  · rintro ⟨a, b⟩; exact ⟨b, a⟩

theorem Pkl.foldl_del {K : Kind} (L : List Key) (hL : ∀ c ∈ L, wfKey K c = true) (d : Dir) (h : Pkl.Inv K d) :
    Pkl.Inv K (L.foldl (fun d c => Pkl.deleteCheckpoint d c.1 c.2) d) ∧
    ∀ k, wfKey K k = true →
      absPkl (L.foldl (fun d c => Pkl.deleteCheckpoint d c.1 c.2) d) k = if k ∈ L then none else absPkl d k := by
  induction L generalizing d with
  | nil => exact ⟨h, by simp⟩
  | cons c r ih =>
    have hc := hL c (by simp)
    obtain ⟨i1, i2⟩ := ih (fun x hx => hL x (List.mem_cons_of_mem _ hx)) (Pkl.deleteCheckpoint d c.1 c.2) (Pkl.inv_del h _ _)
    refine ⟨i1, ?_⟩
    intro k hk
    simp only [List.foldl_cons, i2 k hk, Pkl.abs_del d c.1 c.2 hc k hk, Spec.del, List.mem_cons]
    by_cases h1 : k ∈ r
    · simp [h1]
    · by_cases h2 : k = c <;> simp [h1, h2]

theorem Pkl.inv_delp {K : Kind} {d : Dir} (h : Pkl.Inv K d) (p : Pid) : Pkl.Inv K (Pkl.deleteProcessCheckpoints d p) :=
  (Pkl.foldl_del _ (fun c hc => ((Pkl.mem_listp h p c).1 hc).2.1) d h).1

theorem Pkl.abs_delp {K : Kind} {d : Dir} (h : Pkl.Inv K d) (p : Pid) (k : Key) (hk : wfKey K k = true) :
    absPkl (Pkl.deleteProcessCheckpoints d p) k = (absPkl d).delp p k := by
  have := (Pkl.foldl_del _ (fun c hc => ((Pkl.mem_listp h p c).1 hc).2.1) d h).2 k hk
  simp only [Pkl.deleteProcessCheckpoints, this, Pkl.mem_listp h, Spec.delp, hk, true_and]
  by_cases h1 : k.1 = p
  · cases hs : absPkl d k <;> simp [h1]
  · simp [h1]

def absFlat (f : Flat) : Spec := fun k => get? f k

theorem Flat.abs_save (f : Flat) (p : Pid) (t : Tag) (v : Snap) : absFlat (Flat.save f p t v) = (absFlat f).save (p, t) v := by
  funext k
  simp only [absFlat, Flat.save, Spec.save, get?_set, eq_comm]

theorem Flat.load_eq (f : Flat) (p : Pid) (t : Tag) : Flat.load f p t = (absFlat f).load (p, t) := by
  simp only [Flat.load, Spec.load, absFlat]

theorem Flat.abs_del (f : Flat) (p : Pid) (t : Tag) : absFlat (Flat.deleteCheckpoint f p t) = (absFlat f).del (p, t) := by
  funext k
  simp only [absFlat, Flat.deleteCheckpoint, Spec.del, get?_del, eq_comm]

theorem Flat.abs_delp (f : Flat) (p : Pid) : absFlat (Flat.deleteProcessCheckpoints f p) = (absFlat f).delp p := by
  funext k
  simp only [absFlat, Flat.deleteProcessCheckpoints, Spec.delp]
  rw [get?_filter (fun a : Key => decide (a.1 ≠ p))]
  by_cases h : k.1 = p <;> simp [h]

theorem Flat.nodup_delp {f : Flat} (h : (keys f).Nodup) (p : Pid) : (keys (Flat.deleteProcessCheckpoints f p)).Nodup := by
  simp only [Flat.deleteProcessCheckpoints, keys] at *
  exact List.pairwise_map.2 (List.Pairwise.filter _ (List.pairwise_map.1 h))

theorem Flat.lists {f : Flat} (h : (keys f).Nodup) : (absFlat f).Lists (Flat.getCheckpoints f) :=
  ⟨h, fun k => mem_keys_iff f k⟩

theorem Flat.listsP {f : Flat} (h : (keys f).Nodup) (p : Pid) : (absFlat f).ListsP p (Flat.getProcessCheckpoints f p) := by
  refine ⟨List.Pairwise.filter _ h, fun k => ?_⟩
  simp only [Flat.getProcessCheckpoints, List.mem_filter, decide_eq_true_eq, mem_keys_iff, absFlat]
  exact ⟨fun ⟨a, b⟩ => ⟨b, a⟩, fun ⟨a, b⟩ => ⟨b, a⟩⟩

/-- `I` refines the specification through the relation `R` for the operations satisfying `ok` -/
structure Refines {σ : Type} (I : Impl σ) (ok : Op → Prop) (R : σ → Spec → Prop) : Prop where
  init : R I.init Spec.empty
  step : ∀ (c : Cur) (x : σ) (s : Spec) (op : Op), ok op → R x s → R (stepSt I c x op) (specStep c s op)
  res : ∀ (x : σ) (s : Spec) (op : Op), ok op → R x s → ResOk s op (stepRes I x op)

theorem Refines.run {σ : Type} {I : Impl σ} {ok : Op → Prop} {R : σ → Spec → Prop} (h : Refines I ok R)
    (ops : List Op) (hok : ∀ op ∈ ops, ok op) (c : Cur) (x : σ) (s : Spec) (hR : R x s) :
    R (runSt I c x ops) (specRun c s ops) ∧ Conforms c s ops (runRes I c x ops) := by
  induction ops generalizing c x s with
  | nil => exact ⟨hR, trivial⟩
  | cons op ops ih =>
    have h1 := hok op (by simp)
    have := ih (fun o ho => hok o (List.mem_cons_of_mem _ ho)) (stepCur c op) _ _ (h.step c x s op h1 hR)
    exact ⟨this.1, h.res x s op h1 hR, this.2⟩

def RefM (m : InMem) (s : Spec) : Prop := Mem.Inv m ∧ absMem m = s

theorem mem_refines : Refines memImpl (fun _ => True) RefM where
  init := ⟨Mem.inv_init, by funext k; simp [absMem, memImpl, Spec.empty, get?]⟩
  step := by
    rintro c m s op - ⟨hi, rfl⟩
    cases op with
    | save p t => exact ⟨Mem.inv_save hi .., Mem.abs_save ..⟩
    | del p t => exact ⟨Mem.inv_del hi .., Mem.abs_del ..⟩
    | delp p => exact ⟨Mem.inv_delp hi .., Mem.abs_delp ..⟩
    | _ => exact ⟨hi, rfl⟩
  res := by
    rintro m s op - ⟨hi, rfl⟩
    cases op with
    | load p t => exact Mem.load_eq ..
    | list => exact Mem.lists hi
    | listp p => exact Mem.listsP hi p
    | _ => trivial

def RefF (f : Flat) (s : Spec) : Prop := (keys f).Nodup ∧ absFlat f = s

theorem flat_refines : Refines flatImpl (fun _ => True) RefF where
  init := ⟨by simp [flatImpl, keys], by funext k; simp [absFlat, flatImpl, Spec.empty, get?]⟩
  step := by
    rintro c m s op - ⟨hi, rfl⟩
    cases op with
    | save p t => exact ⟨nodup_keys_set _ _ hi, Flat.abs_save ..⟩
    | del p t => exact ⟨nodup_keys_del _ hi, Flat.abs_del ..⟩
    | delp p => exact ⟨Flat.nodup_delp hi _, Flat.abs_delp ..⟩
    | _ => exact ⟨hi, rfl⟩
  res := by
    rintro m s op - ⟨hi, rfl⟩
    cases op with
    | load p t => exact Flat.load_eq ..
    | list => exact Flat.lists hi
    | listp p => exact Flat.listsP hi p
    | _ => trivial

/-- the pickle directory represents `s`: on well-formed keys, and `s` stores nothing else -/
structure RefP (K : Kind) (d : Dir) (s : Spec) : Prop where
  inv : Pkl.Inv K d
  abs : ∀ k, wfKey K k = true → absPkl d k = s k
  dom : ∀ k, (s k).isSome = true → wfKey K k = true

theorem specStep_congr {s s' : Spec} {k : Key} (h : s k = s' k) (c : Cur) (op : Op) :
    specStep c s op k = specStep c s' op k := by
  cases op <;> simp only [specStep, Spec.save, Spec.del, Spec.delp, h]

theorem specStep_dom {K : Kind} {s : Spec} (hd : ∀ k, (s k).isSome = true → wfKey K k = true) {op : Op}
    (hop : wfOp K op = true) (c : Cur) : ∀ k, (specStep c s op k).isSome = true → wfKey K k = true := by
  intro k hs
  cases op with
  | save p t =>
    by_cases e : k = (p, t)
    · exact e ▸ hop
    · exact hd k (by simpa [specStep, Spec.save, e] using hs)
  | del p t =>
    by_cases e : k = (p, t)
    · simp [specStep, Spec.del, e] at hs
    · exact hd k (by simpa [specStep, Spec.del, e] using hs)
  | delp p =>
    by_cases e : k.1 = p
    · simp [specStep, Spec.delp, e] at hs
    · exact hd k (by simpa [specStep, Spec.delp, e] using hs)
  | _ => exact hd k hs

theorem Pkl.step {K : Kind} {d : Dir} (h : Pkl.Inv K d) (c : Cur) {op : Op} (hop : wfOp K op = true) :
    Pkl.Inv K (stepSt pklImpl c d op) ∧
      ∀ k, wfKey K k = true → absPkl (stepSt pklImpl c d op) k = specStep c (absPkl d) op k := by
  cases op with
  | save p t => exact ⟨Pkl.inv_save h _ _ _ hop, Pkl.abs_save d p t _ hop⟩
  | del p t => exact ⟨Pkl.inv_del h _ _, Pkl.abs_del d p t hop⟩
  | delp p => exact ⟨Pkl.inv_delp h _, Pkl.abs_delp h p⟩
  | _ => exact ⟨h, fun _ _ => rfl⟩

theorem pkl_refines (K : Kind) : Refines pklImpl (fun op => wfOp K op = true) (RefP K) where
  init := ⟨Pkl.inv_init K, by intro k _; simp [absPkl, pklImpl, Spec.empty, get?], by simp [Spec.empty]⟩
  step c d s op hop h :=
    have hs := Pkl.step h.inv c hop
    ⟨hs.1, fun k hk => (hs.2 k hk).trans (specStep_congr (h.abs k hk) c op), specStep_dom h.dom hop c⟩
  res := by
    intro d s op hop h
    -- a key is listed iff it is well formed and its file exists; `s` stores exactly those
    have hmem : ∀ k, (wfKey K k = true ∧ (absPkl d k).isSome = true) ↔ (s k).isSome = true := fun k =>
      ⟨fun ⟨hw, hs⟩ => h.abs k hw ▸ hs, fun hs => ⟨h.dom k hs, (h.abs k (h.dom k hs)).symm ▸ hs⟩⟩
    cases op with
    | load p t => exact (Pkl.load_eq d p t).trans (by simp only [Spec.load, h.abs _ hop])
    | list => exact ⟨Pkl.nodup_list h.inv, fun k => (Pkl.mem_list h.inv k).trans (hmem k)⟩
    | listp p =>
      exact ⟨List.Pairwise.filter _ (Pkl.nodup_list h.inv), fun k =>
        (Pkl.mem_listp h.inv p k).trans (and_congr_right fun _ => hmem k)⟩
    | _ => trivial

theorem Spec.Lists.perm {s : Spec} {l l' : List Key} (h : s.Lists l) (h' : s.Lists l') : l.Perm l' :=
  (List.perm_ext_iff_of_nodup h.1 h'.1).2 (fun k => (h.2 k).trans (h'.2 k).symm)

theorem Spec.ListsP.perm {s : Spec} {p : Pid} {l l' : List Key} (h : s.ListsP p l) (h' : s.ListsP p l') : l.Perm l' :=
  (List.perm_ext_iff_of_nodup h.1 h'.1).2 (fun k => (h.2 k).trans (h'.2 k).symm)

theorem resOk_resEq {s : Spec} {op : Op} {r r' : Res} (h : ResOk s op r) (h' : ResOk s op r') : ResEq r r' := by
  cases op with
  | load p t =>
    cases r with
    | loaded a => cases r' with
      | loaded b => exact h.trans h'.symm
      | _ => exact h'.elim
    | _ => exact h.elim
  | list =>
    cases r with
    | listed a => cases r' with
      | listed b => exact h.perm h'
      | _ => exact h'.elim
    | _ => exact h.elim
  | listp p =>
    cases r with
    | listed a => cases r' with
      | listed b => exact h.perm h'
      | _ => exact h'.elim
    | _ => exact h.elim
  | _ =>
    cases r with
    | done => cases r' with
      | done => trivial
      | _ => exact h'.elim
    | _ => exact h.elim

theorem conforms_obsEq {c : Cur} {s : Spec} {ops : List Op} {rs rs' : List Res}
    (h : Conforms c s ops rs) (h' : Conforms c s ops rs') : ObsEq rs rs' := by
  induction ops generalizing c s rs rs' with
  | nil => cases rs <;> cases rs' <;> simp_all [Conforms, ObsEq]
  | cons op ops ih =>
    cases rs with
    | nil => simp [Conforms] at h
    | cons r rs =>
      cases rs' with
      | nil => simp [Conforms] at h'
      | cons r' rs' => exact ⟨resOk_resEq h.1 h'.1, ih h.2 h'.2⟩

theorem specStep_frame {k : Key} {op : Op} (h : touches k op = false) (c : Cur) (s : Spec) : specStep c s op k = s k := by
  cases op with
  | save p t => have : ¬ k = (p, t) := fun e => by simp [touches, e] at h
                simp [specStep, Spec.save, this]
  | del p t => have : ¬ k = (p, t) := fun e => by simp [touches, e] at h
               simp [specStep, Spec.del, this]
  | delp p => have : ¬ k.1 = p := fun e => by simp [touches, e] at h
              simp [specStep, Spec.delp, this]
  | _ => rfl

theorem specRun_frame {k : Key} (ops : List Op) (h : ∀ op ∈ ops, touches k op = false) (c : Cur) (s : Spec) :
    specRun c s ops k = s k := by
  induction ops generalizing c s with
  | nil => rfl
  | cons op ops ih =>
    simp only [specRun]
    rw [ih (fun o ho => h o (List.mem_cons_of_mem _ ho)), specStep_frame (h op (by simp))]

theorem runCur_append (c : Cur) (a b : List Op) : runCur c (a ++ b) = runCur (runCur c a) b := by
  induction a generalizing c with
  | nil => rfl
  | cons op a ih => simp [runCur, ih]

theorem specRun_append (c : Cur) (s : Spec) (a b : List Op) :
    specRun c s (a ++ b) = specRun (runCur c a) (specRun c s a) b := by
  induction a generalizing c s with
  | nil => rfl
  | cons op a ih => simp [specRun, runCur, ih]

theorem runSt_append {σ : Type} (I : Impl σ) (c : Cur) (x : σ) (a b : List Op) :
    runSt I c x (a ++ b) = runSt I (runCur c a) (runSt I c x a) b := by
  induction a generalizing c x with
  | nil => rfl
  | cons op a ih => simp [runSt, runCur, ih]

theorem specRun_saved (c : Cur) (s : Spec) (pre post : List Op) (p : Pid) (t : Tag)
    (hpost : ∀ op ∈ post, touches (p, t) op = false) :
    specRun c s (pre ++ .save p t :: post) (p, t) = some (runCur c pre p) := by
  rw [specRun_append]
  simp only [specRun]
  rw [specRun_frame post hpost]
  simp [specStep, Spec.save]

theorem Spec.load_del (s : Spec) (k0 k : Key) : (s.del k0).load k = if k = k0 then .error .missing else s.load k := by
  by_cases h : k = k0 <;> simp [Spec.load, Spec.del, h]

theorem Spec.load_delp (s : Spec) (p : Pid) (k : Key) : (s.delp p).load k = if k.1 = p then .error .missing else s.load k := by
  by_cases h : k.1 = p <;> simp [Spec.load, Spec.delp, h]

theorem Spec.load_ok_iff (s : Spec) (k : Key) : (∃ v, s.load k = .ok v) ↔ (s k).isSome = true := by
  cases h : s k <;> simp [Spec.load, h]

section
variable {σ : Type} {I : Impl σ} {ok : Op → Prop} {R : σ → Spec → Prop}

theorem Refines.load_eq (h : Refines I ok R) {x : σ} {s : Spec} (hR : R x s) {p : Pid} {t : Tag} (hk : ok (.load p t)) :
    I.load x p t = s.load (p, t) := h.res x s (.load p t) hk hR

theorem Refines.mem_list (h : Refines I ok R) {x : σ} {s : Spec} (hR : R x s) (hl : ok .list) (k : Key) :
    k ∈ I.list x ↔ (s k).isSome = true := (h.res x s .list hl hR).2 k

theorem Refines.list_exact (h : Refines I ok R) {x : σ} {s : Spec} (hR : R x s) (hl : ok .list)
    (hload : ∀ k : Key, k ∈ I.list x → ok (.load k.1 k.2)) :
    (I.list x).Nodup ∧ (∀ k : Key, k ∈ I.list x → ∃ v, I.load x k.1 k.2 = .ok v) ∧
      (∀ k : Key, ok (.load k.1 k.2) → (∃ v, I.load x k.1 k.2 = .ok v) → k ∈ I.list x) := by
  refine ⟨(h.res x s .list hl hR).1, fun k hk => ?_, fun k hok hv => ?_⟩
  · rw [h.load_eq hR (hload k hk)]; exact (Spec.load_ok_iff s k).2 ((h.mem_list hR hl k).1 hk)
  · rw [h.load_eq hR hok] at hv; exact (h.mem_list hR hl k).2 ((Spec.load_ok_iff s k).1 hv)

theorem Refines.delete_local (h : Refines I ok R) {x : σ} {s : Spec} (hR : R x s) (c : Cur) {p : Pid} {t : Tag}
    (hd : ok (.del p t)) (hl : ok .list) :
    (∀ k : Key, ok (.load k.1 k.2) →
      I.load (I.del x p t) k.1 k.2 = if k = (p, t) then .error .missing else I.load x k.1 k.2) ∧
    (∀ k : Key, k ∈ I.list (I.del x p t) ↔ (k ≠ (p, t) ∧ k ∈ I.list x)) := by
  have hR' : R (I.del x p t) (s.del (p, t)) := h.step c x s (.del p t) hd hR
  refine ⟨fun k hk => ?_, fun k => ?_⟩
  · rw [h.load_eq hR' hk, h.load_eq hR hk, Spec.load_del]
  · rw [h.mem_list hR' hl, h.mem_list hR hl]
    by_cases e : k = (p, t) <;> simp [Spec.del, e]

theorem Refines.delete_process_exact (h : Refines I ok R) {x : σ} {s : Spec} (hR : R x s) (c : Cur) {p : Pid}
    (hd : ok (.delp p)) (hl : ok .list) :
    (∀ k : Key, ok (.load k.1 k.2) →
      I.load (I.delp x p) k.1 k.2 = if k.1 = p then .error .missing else I.load x k.1 k.2) ∧
    (∀ k : Key, k ∈ I.list (I.delp x p) ↔ (k.1 ≠ p ∧ k ∈ I.list x)) := by
  have hR' : R (I.delp x p) (s.delp p) := h.step c x s (.delp p) hd hR
  refine ⟨fun k hk => ?_, fun k => ?_⟩
  · rw [h.load_eq hR' hk, h.load_eq hR hk, Spec.load_delp]
  · rw [h.mem_list hR' hl, h.mem_list hR hl]
    by_cases e : k.1 = p <;> simp [Spec.delp, e]

/-- **most recent save**: whatever refines the specification returns, for a saved key that nothing touched since, the value
the process had when it was saved -/
theorem Refines.load_saved (h : Refines I ok R) (c : Cur) (pre post : List Op) (p : Pid) (t : Tag)
    (hok : ∀ op ∈ pre ++ .save p t :: post, ok op) (hl : ok (.load p t))
    (hpost : ∀ op ∈ post, touches (p, t) op = false) :
    I.load (runSt I c I.init (pre ++ .save p t :: post)) p t = .ok (runCur c pre p) := by
  rw [h.load_eq (h.run _ hok c _ _ h.init).1 hl]
  simp [Spec.load, specRun_saved c Spec.empty pre post p t hpost]

/-- two implementations of the specification cannot be told apart on a history that both accept -/
theorem Refines.obsEq (h : Refines I ok R) {τ : Type} {J : Impl τ} {ok' : Op → Prop} {R' : τ → Spec → Prop}
    (h' : Refines J ok' R') (c : Cur) (ops : List Op) (hok : ∀ op ∈ ops, ok op) (hok' : ∀ op ∈ ops, ok' op) :
    ObsEq (runRes I c I.init ops) (runRes J c J.init ops) :=
  conforms_obsEq (h.run ops hok c _ _ h.init).2 (h'.run ops hok' c _ _ h'.init).2
end

theorem wfHist_mem {K : Kind} {ops : List Op} (h : wfHist K ops = true) : ∀ op ∈ ops, wfOp K op = true := by
  simpa [wfHist] using h
end Persister
