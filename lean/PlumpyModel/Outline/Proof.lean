import PlumpyModel.Outline.Step
namespace Outline

/-! abstraction: the remaining program denoted by a stepper state -/
mutual
def absI : Instr → St → Block
  | .call f, _ => [.call f]
  | .ret c, _ => [.ret c]
  | .ite _, .leaf => []
  | .ite bs, .node pos none => if pos = bs.length then [] else [.ite bs]
  | .ite bs, .node pos (some c) =>
      match h : bs[pos]? with
      | some br => absB br.2 c
      | none => []
  | .while_ _ _, .leaf => []
  | .while_ p b, .node _ none => [.while_ p b]
  | .while_ p b, .node _ (some c) => absB b c ++ [.while_ p b]
termination_by i => sizeOf i
decreasing_by
  all_goals simp_wf
  · have := sizeOf_body_lt h; omega
  · omega
def absB : Block → St → Block
  | is, .node pos (some c) =>
      match h : is[pos]? with
      | some i => absI i c ++ is.drop (pos+1)
      | none => []
  | _, _ => []
termination_by is => sizeOf is
decreasing_by
  all_goals simp_wf
  have hm : i ∈ is := List.mem_of_getElem? h
  have := List.sizeOf_lt_of_mem hm
  omega
end

/-- iterate the reference step; returns the configuration reached and the last step-function result seen -/
def refIter {σ} (W : World σ) : Nat → Block → σ → Ret → Block × σ × Ret
  | 0, k, w, r => (k, w, r)
  | n+1, k, w, r =>
    match ref1 W k w with
    | .halt => (k, w, r)
    | .next k' w' r' => refIter W n k' w' (r'.getD r)

#eval absB [.call 1, .while_ 0 [.call 2], .call 3] (createBlock [.call 1, .while_ 0 [.call 2], .call 3])

theorem refIter_add {σ} (W : World σ) (n m : Nat) (k : Block) (w : σ) (r : Ret) :
    refIter W (n + m) k w r =
      refIter W m (refIter W n k w r).1 (refIter W n k w r).2.1 (refIter W n k w r).2.2 := by
  induction n generalizing k w r with
  | zero => simp [refIter]
  | succ n ih =>
    rw [Nat.add_right_comm]
    simp only [refIter]
    cases h : ref1 W k w with
    | halt =>
      simp only
      -- halting is absorbing
      have : ∀ m, refIter W m k w r = (k, w, r) := by
        intro m; cases m with
        | zero => rfl
        | succ m => simp [refIter, h]
      rw [this]
    | next k' w' r' => simp only; exact ih ..

-- well-formed outlines: no empty block anywhere, every if_ has at least one branch
mutual
def wfI : Instr → Bool
  | .call _ => true
  | .ret _ => true
  | .ite bs => !bs.isEmpty && wfBranches bs
  | .while_ _ b => wfB b
def wfB : Block → Bool
  | [] => false
  | i :: is => wfI i && wfRest is
def wfRest : Block → Bool
  | [] => true
  | i :: is => wfI i && wfRest is
def wfBranches : List Branch → Bool
  | [] => true
  | (_, b) :: bs => wfB b && wfBranches bs
end

theorem wfRest_get {is : Block} (h : wfRest is = true) {j : Nat} {i : Instr} (hj : is[j]? = some i) : wfI i = true := by
  have hall : ∀ is, wfRest is = is.all wfI := by
    intro is; induction is with
    | nil => rfl
    | cons a as ih => rw [wfRest, ih]; rfl
  exact List.all_eq_true.mp (hall is ▸ h) i (List.mem_of_getElem? hj)

theorem wfB_get {is : Block} (h : wfB is = true) {j : Nat} {i : Instr} (hj : is[j]? = some i) : wfI i = true := by
  cases is with
  | nil => cases h
  | cons a as => exact wfRest_get (is := a :: as) h hj

theorem wfBranches_get {bs : List Branch} (h : wfBranches bs = true) {j : Nat} {br : Branch} (hj : bs[j]? = some br) :
    wfB br.2 = true := by
  have hall : ∀ bs, wfBranches bs = bs.all (fun br => wfB br.2) := by
    intro bs; induction bs with
    | nil => rfl
    | cons a as ih => rw [wfBranches, ih]; rfl
  exact List.all_eq_true.mp (hall bs ▸ h) br (List.mem_of_getElem? hj)

theorem absI_create (i : Instr) (h : wfI i = true) : absI i (create i) = [i] := by
  cases i with
  | call f => simp [create, absI]
  | ret c => simp [create, absI]
  | ite bs => cases bs <;> simp_all [create, absI, wfI]
  | while_ p b => simp [create, absI]

-- invariant of *live* stepper states (finished steppers are discarded by their parent)
mutual
def invI : Instr → St → Prop
  | .call _, _ => True
  | .ret _, _ => True
  | .ite _, .leaf => False
  | .ite _, .node pos none => pos = 0
  | .ite bs, .node pos (some c) =>
      match h : bs[pos]? with
      | some br => invB br.2 c
      | none => False
  | .while_ _ _, .leaf => False
  | .while_ _ _, .node _ none => True
  | .while_ _ b, .node _ (some c) => invB b c
termination_by i => sizeOf i
decreasing_by
  all_goals simp_wf
  · have := sizeOf_body_lt h; omega
  · omega
def invB : Block → St → Prop
  | is, .node pos (some c) =>
      match h : is[pos]? with
      | some i => invI i c
      | none => False
  | _, _ => False
termination_by is => sizeOf is
decreasing_by
  all_goals simp_wf
  have hm : i ∈ is := List.mem_of_getElem? h
  have := List.sizeOf_lt_of_mem hm
  omega
end

/-- what one stepper call must correspond to in the reference semantics -/
def Sim {σ} (W : World σ) (o : Out σ) (start : Block) (abs' : St → Block) (inv' : St → Prop)
    (k : Block) (w : σ) : Prop :=
  match o with
  | .ok fin r s' w' =>
      ∃ n, refIter W n (start ++ k) w .none = ((if fin then [] else abs' s') ++ k, w', r) ∧
        (fin = false → inv' s')
  | .propagate c w' =>
      ∃ n k', (refIter W n (start ++ k) w .none).1 = .ret c :: k' ∧ (refIter W n (start ++ k) w .none).2.1 = w'
  | .error _ => False

/-! `absB`, `invB` on a running block and `absI`, `invI` on a running `ite`, without the proof-carrying `match` -/

theorem absB_node (is : Block) (pos : Nat) (c : St) :
    absB is (.node pos (some c)) = match is[pos]? with | some i => absI i c ++ is.drop (pos+1) | none => [] := by
  unfold absB; split <;> rename_i h <;> simp only [h]

theorem invB_node (is : Block) (pos : Nat) (c : St) :
    invB is (.node pos (some c)) = match is[pos]? with | some i => invI i c | none => False := by
  unfold invB; split <;> rename_i h <;> simp only [h]

theorem absI_ite (bs : List Branch) (pos : Nat) (c : St) :
    absI (.ite bs) (.node pos (some c)) = match bs[pos]? with | some br => absB br.2 c | none => [] := by
  unfold absI; split <;> rename_i h <;> simp only [h]

theorem invI_ite (bs : List Branch) (pos : Nat) (c : St) :
    invI (.ite bs) (.node pos (some c)) = match bs[pos]? with | some br => invB br.2 c | none => False := by
  unfold invI; split <;> rename_i h <;> simp only [h]

theorem invI_create (i : Instr) : invI i (create i) := by
  cases i <;> simp [create, invI]

theorem absB_at (is : Block) (h : wfB is = true) (pos : Nat) :
    absB is (.node pos ((is[pos]?).map create)) = is.drop pos ∧
    (pos < is.length → invB is (.node pos ((is[pos]?).map create))) := by
  cases hget : is[pos]? with
  | none =>
    have := List.getElem?_eq_none_iff.mp hget
    exact ⟨by rw [List.drop_eq_nil_of_le this]; simp [absB], fun hlt => absurd hlt (by omega)⟩
  | some i =>
    obtain ⟨hlt, rfl⟩ := List.getElem?_eq_some_iff.mp hget
    simp only [Option.map_some, absB_node, invB_node, hget, absI_create _ (wfB_get h hget)]
    exact ⟨(List.drop_eq_getElem_cons hlt).symm, fun _ => invI_create _⟩

theorem initial_stepper (is : Block) (hwf : wfB is = true) :
    absB is (createBlock is) = is ∧ invB is (createBlock is) := by
  rw [createBlock, List.head?_eq_getElem?]
  exact ⟨(absB_at is hwf 0).1, (absB_at is hwf 0).2 (by cases is with | nil => cases hwf | cons => exact Nat.succ_pos _)⟩

theorem refIter_one_next {σ} (W : World σ) {k k' : Block} {w w' : σ} {ro : Option Ret} (r : Ret)
    (h : ref1 W k w = .next k' w' ro) (n : Nat) :
    refIter W (n+1) k w r = refIter W n k' w' (ro.getD r) := by
  simp [refIter, h]

theorem scan_sim {σ} (W : World σ) (rest : List Branch) (pos : Nat) (w : σ) (k : Block) (r : Ret) :
    ∃ n, ((scan W rest pos w).2.2 = true →
            ∃ br, rest[(scan W rest pos w).1 - pos]? = some br ∧ pos ≤ (scan W rest pos w).1 ∧
              refIter W n (.ite rest :: k) w r = (br.2 ++ k, (scan W rest pos w).2.1, r)) ∧
         ((scan W rest pos w).2.2 = false →
            (scan W rest pos w).1 = pos + rest.length ∧
              refIter W n (.ite rest :: k) w r = (k, (scan W rest pos w).2.1, r)) := by
  have first : ∀ (pos : Nat) (a : Branch) rest, (a :: rest)[pos - pos]? = some a := fun pos a rest => by
    rw [Nat.sub_self]; rfl
  induction rest generalizing pos w with
  | nil => exact ⟨1, fun h => Bool.noConfusion h, fun _ => ⟨rfl, rfl⟩⟩
  | cons a rest ih =>
    obtain ⟨p, b⟩ := a
    cases p with
    | none => exact ⟨1, fun _ => ⟨_, first _ _ _, Nat.le_refl _, rfl⟩, fun h => Bool.noConfusion h⟩
    | some p =>
      cases hp : W.pred w p with
      | mk w' t =>
        cases t with
        | true =>
          rw [show scan W ((some p, b) :: rest) pos w = (pos, w', true) by simp [scan, hp]]
          exact ⟨1, fun _ => ⟨_, first _ _ _, Nat.le_refl _, by simp [refIter, ref1, hp]⟩, fun h => Bool.noConfusion h⟩
        | false =>
          -- one reference step to `.ite rest`, then the scan of `rest` from `pos + 1`
          obtain ⟨n, h1, h2⟩ := ih (pos+1) w'
          have e : scan W ((some p, b) :: rest) pos w = scan W rest (pos+1) w' := by simp [scan, hp]
          have e1 : refIter W (n+1) (.ite ((some p, b) :: rest) :: k) w r = refIter W n (.ite rest :: k) w' r := by
            simp [refIter, ref1, hp]
          rw [e]
          refine ⟨n+1, fun hf => ?_, fun hf => ?_⟩
          · obtain ⟨br, hbr, hle, hit⟩ := h1 hf
            refine ⟨br, ?_, by omega, e1.trans hit⟩
            rw [show (scan W rest (pos+1) w').1 - pos = (scan W rest (pos+1) w').1 - (pos+1) + 1 by
              rw [← Nat.sub_add_comm hle, Nat.add_sub_add_right]]
            exact hbr
          · obtain ⟨hlen, hit⟩ := h2 hf
            exact ⟨by rw [hlen, List.length_cons]; omega, e1.trans hit⟩

def PI {σ} (W : World σ) (i : Instr) : Prop :=
  wfI i = true → ∀ (s : St) (w : σ) (k : Block), invI i s → Sim W (stepI W i s w) (absI i s) (absI i) (invI i) k w
def PB {σ} (W : World σ) (is : Block) : Prop :=
  wfB is = true → ∀ (s : St) (w : σ) (k : Block), invB is s → Sim W (stepB W is s w) (absB is s) (absB is) (invB is) k w

/-- lift the simulation of a body block to the enclosing instruction, after `m` reference steps reached the body -/
theorem Sim_lift {σ} (W : World σ) {o : Out σ} {body tail k : Block} {w w0 : σ} {start : Block}
    {absb : St → Block} {invb : St → Prop}
    (m : Nat) (hpre : refIter W m (start ++ k) w0 .none = (body ++ (tail ++ k), w, .none))
    (h : Sim W o body absb invb (tail ++ k) w)
    (o' : Out σ) (abs' : St → Block) (inv' : St → Prop)
    (hok : ∀ fin r s' w', o = .ok fin r s' w' →
        ∃ fin' s'', o' = .ok fin' r s'' w' ∧
          ((if fin then [] else absb s') ++ (tail ++ k) = (if fin' then [] else abs' s'') ++ k) ∧
          ((fin = false → invb s') → fin' = false → inv' s''))
    (hprop : ∀ c w', o = .propagate c w' → o' = .propagate c w')
    : Sim W o' start abs' inv' k w0 := by
  cases o with
  | error w' => simp [Sim] at h
  | propagate c w' =>
    rw [hprop c w' rfl]
    obtain ⟨n, k', h1, h2⟩ := h
    refine ⟨m + n, k', ?_, ?_⟩ <;> rw [refIter_add, hpre] <;> assumption
  | ok fin r s' w' =>
    obtain ⟨fin', s'', ho', habs, hinv⟩ := hok fin r s' w' rfl
    rw [ho']
    obtain ⟨n, h1, h2⟩ := h
    refine ⟨m + n, ?_, hinv h2⟩
    rw [refIter_add, hpre]; simp only; rw [h1, habs]

/-- **Frame rule**: `m` reference steps lead from the parent's program to the child's program `body` followed by the
frame's `tail`; the child's call simulates `body`; the parent's states denote the child's program followed by `tail`
(`hwrap`) and its state after the child has finished denotes `tail` (`hdone`).  Then the parent's call simulates the
parent's program. -/
theorem sim_frame {σ} (W : World σ) {o : Out σ} {body tail k start : Block} {w w0 : σ}
    {absb abs' : St → Block} {invb inv' : St → Prop} {finD : Bool} {sD : St} {wrap : St → St}
    (m : Nat) (hpre : refIter W m (start ++ k) w0 .none = (body ++ (tail ++ k), w, .none))
    (h : Sim W o body absb invb (tail ++ k) w)
    (hdone : tail = if finD then [] else abs' sD) (hdinv : finD = false → inv' sD)
    (hwrap : ∀ c, abs' (wrap c) = absb c ++ tail) (hwinv : ∀ c, invb c → inv' (wrap c)) :
    Sim W (frameOut finD sD wrap o) start abs' inv' k w0 := by
  refine Sim_lift W m hpre h _ _ _ ?_ ?_
  · rintro fin r s' w' rfl
    cases fin with
    | true => exact ⟨finD, sD, rfl, by rw [← hdone]; rfl, fun _ => hdinv⟩
    | false => exact ⟨false, wrap s', rfl, by simp [hwrap], fun hi _ => hwinv _ (hi rfl)⟩
  · rintro c' w' rfl; rfl

theorem PB_fresh {σ} {W : World σ} {b : Block} (hb : PB W b) (hwb : wfB b = true) (w : σ) (k : Block) :
    Sim W (stepB W b (createBlock b) w) b (absB b) (invB b) k w := by
  have := hb hwb (createBlock b) w k (initial_stepper b hwb).2
  rwa [(initial_stepper b hwb).1] at this

theorem simB_of_elems {σ} (W : World σ) (is : Block) (hel : ∀ i ∈ is, PI W i) : PB W is := by
  intro hwf s w k hinv
  match s, hinv with
  | .leaf, hinv => simp [invB] at hinv
  | .node _ none, hinv => simp [invB] at hinv
  | .node pos (some c), hinv =>
    cases hget : is[pos]? with
    | none => simp only [invB_node, hget] at hinv
    | some i =>
      simp only [invB_node, hget] at hinv
      have hlt := (List.getElem?_eq_some_iff.mp hget).1
      obtain ⟨habs, hlive⟩ := absB_at is hwf (pos+1)
      rw [stepB_node W hget]
      refine sim_frame W (tail := is.drop (pos+1)) 0 (by simp only [absB_node, hget, refIter, List.append_assoc])
        (hel i (List.mem_of_getElem? hget) (wfB_get hwf hget) c w _ hinv) ?_
        (fun hne => hlive (Nat.lt_of_le_of_ne hlt (by simpa using hne)))
        (fun c' => by simp [absB_node, hget]) (fun c' hc' => by simpa only [Function.comp, invB_node, hget] using hc')
      -- at the end of the block `drop` is empty
      rw [habs]; split
      · rename_i h; rw [beq_iff_eq.mp h, List.drop_length]
      · rfl

theorem simI_call {σ} (W : World σ) (f : Nat) : PI W (.call f) := by
  intro _ s w k _
  cases hf : W.stepFn w f with
  | mk w' r =>
    simp only [stepI, hf, Sim]
    refine ⟨1, ?_, by simp⟩
    simp [absI, refIter, ref1, hf]

theorem simI_ret {σ} (W : World σ) (c : Option Int) : PI W (.ret c) := by
  intro _ s w k _
  simp only [stepI, Sim]
  exact ⟨0, k, by simp [absI, refIter], by simp [refIter]⟩

theorem simI_while {σ} (W : World σ) (p : Nat) (b : Block) (hb : PB W b) : PI W (.while_ p b) := by
  intro hwf s w k hinv
  have hwb : wfB b = true := by simpa [wfI] using hwf
  -- `Instr.` is spelt out: a `.while_` here is resolved only after the binders are closed, and the `have` is then slow to check
  have frame {c m w1 w0 start body} (hpre) (h : Sim W (stepB W b c w1) body (absB b) (invB b) ([Instr.while_ p b] ++ k) w1) :=
    sim_frame W (abs' := absI (.while_ p b)) (inv' := invI (.while_ p b)) (finD := false) (sD := .node 0 none)
      (wrap := .node 0 ∘ some) (start := start) (w0 := w0) m hpre h
      (by simp [absI]) (by simp [invI]) (by simp [absI]) (by simp [invI])
  match s, hinv with
  | .leaf, h => simp [invI] at h
  | .node q (some c), h =>
    rw [stepI_while_node]
    exact frame (m := 0) (by simp [absI, refIter]) (hb hwb c w _ (by simpa [invI] using h))
  | .node q none, _ =>
    rw [stepI_while_pred]
    cases hp : W.pred w p with
    | mk w1 t =>
      cases t with
      | false => exact ⟨1, by simp [absI, refIter, ref1, hp], by simp⟩
      | true =>
        simpa [absI] using frame (m := 1) (start := [.while_ p b]) (w0 := w) (by simp [refIter, ref1, hp])
          (PB_fresh hb hwb w1 _)

theorem simI_ite {σ} (W : World σ) (bs : List Branch) (hb : ∀ br ∈ bs, PB W br.2) : PI W (.ite bs) := by
  intro hwf s w k hinv
  have hne : bs ≠ [] := by rintro rfl; cases hwf
  have hwbs : wfBranches bs = true := by simp [wfI] at hwf; exact hwf.2
  have frame {pos br c m w1 w0 start body} (hget : bs[pos]? = some br) (hpre)
      (h : Sim W (stepB W br.2 c w1) body (absB br.2) (invB br.2) ([] ++ k) w1) :=
    sim_frame W (abs' := absI (.ite bs)) (inv' := invI (.ite bs)) (finD := true) (sD := .node bs.length none)
      (wrap := .node pos ∘ some) (start := start) (w0 := w0) (tail := []) m hpre h
      rfl (fun h => by cases h) (fun c => by simp [absI_ite, hget])
      (fun c hc => by simpa only [Function.comp, invI_ite, hget] using hc)
  match s, hinv with
  | .leaf, h => simp [invI] at h
  | .node pos (some c), h =>
    cases hget : bs[pos]? with
    | none => simp only [invI_ite, hget] at h
    | some br =>
      simp only [invI_ite, hget] at h
      rw [stepI_ite_node W hget]
      exact frame hget (m := 0) (by simp [absI_ite, hget, refIter])
        (hb br (List.mem_of_getElem? hget) (wfBranches_get hwbs hget) c w _ h)
  | .node pos none, h =>
    obtain rfl : pos = 0 := by simpa [invI] using h
    have hlen : ¬ (0 = bs.length) := fun h0 => hne (List.eq_nil_of_length_eq_zero h0.symm)
    rw [stepI_ite_scan, if_neg hlen, show absI (.ite bs) (.node 0 none) = [.ite bs] by simp [absI, hlen]]
    obtain ⟨n, hfound, hnot⟩ := scan_sim W bs 0 w k .none
    cases hf : (scan W bs 0 w).2.2 with
    | false =>
      obtain ⟨hp', hit⟩ := hnot hf
      rw [hp', Nat.zero_add, List.getElem?_eq_none (Nat.le_refl _)]
      dsimp only
      rw [if_pos rfl]
      exact ⟨n, by simpa using hit, by simp⟩
    | true =>
      obtain ⟨br, hget, _, hit⟩ := hfound hf
      rw [Nat.sub_zero] at hget
      rw [hget]
      exact frame hget (m := n) hit (PB_fresh (hb br (List.mem_of_getElem? hget)) (wfBranches_get hwbs hget) _ _)

/-- **Refinement**: one call of a well-formed block stepper in a live state is a finite number of reference
steps on the remaining program, returns the last step function's value, and leaves a live state. -/
theorem stepper_refines {σ} (W : World σ) (is : Block) (hwf : wfB is = true) (s : St) (w : σ) (k : Block)
    (hinv : invB is s) : Sim W (stepB W is s w) (absB is s) (absB is) (invB is) k w :=
  (instr_block_induction (simI_call W) (simI_ret W) (simI_while W) (simI_ite W) (simB_of_elems W)).2 is hwf s w k hinv

-- non-vacuity: a concrete nested outline is well formed
example : wfB [.call 1, .ite [(some 0, [.while_ 1 [.call 2, .ret (some 3)]]), (none, [.call 4])], .call 5] = true := by
  decide

end Outline

#print axioms Outline.stepper_refines
#print axioms Outline.initial_stepper
