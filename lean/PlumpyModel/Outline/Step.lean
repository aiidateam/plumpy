import PlumpyModel.Outline.Model
/-!
What the three traversals of the steppers rest on (`Outline/Proof.lean`: a stepper call simulates the reference semantics;
`Persist/Proof.lean`: a saved stepper state is restored exactly; `Persist/Resume.lean`: a stepper call keeps the shape of
the stepper state): the one thing a parent stepper does with the result of its child (`frameOut`), the equations of
`stepI` / `stepB` in its terms, and induction over instructions and blocks together (the first two are used by
`Outline/Proof.lean` and `Persist/Resume.lean`, the induction by all three).
-/
namespace Outline

/-- what a parent stepper makes of the result of its child: when the child has finished, the parent answers `finD`
and goes to `sD`; otherwise it is not finished and keeps the child's new state, wrapped -/
def frameOut {σ} (finD : Bool) (sD : St) (wrap : St → St) : Out σ → Out σ
  | .ok fin r c' w' => if fin then .ok finD r sD w' else .ok false r (wrap c') w'
  | o => o

/-! ### what `stepB` / `stepI` do on a node, without the proof-carrying `match` -/

theorem stepB_node {σ} (W : World σ) {is : Block} {pos : Nat} {i : Instr} (hget : is[pos]? = some i) (c : St) (w : σ) :
    stepB W is (.node pos (some c)) w =
      frameOut (pos + 1 == is.length) (.node (pos + 1) ((is[pos + 1]?).map create)) (.node pos ∘ some) (stepI W i c w) := by
  rw [stepB]
  split <;> rename_i h' <;> rw [hget] at h' <;> cases h'
  rfl

theorem stepI_ite_node {σ} (W : World σ) {bs : List Branch} {pos : Nat} {br : Branch} (hget : bs[pos]? = some br)
    (c : St) (w : σ) :
    stepI W (.ite bs) (.node pos (some c)) w =
      frameOut true (.node bs.length none) (.node pos ∘ some) (stepB W br.2 c w) := by
  have hne : ¬ pos = bs.length := fun e => by simp [e] at hget
  rw [stepI, if_neg hne]
  split <;> rename_i h' <;> rw [hget] at h' <;> cases h'
  rfl

/-- the scanning call of `_IfStepper.step` -/
theorem stepI_ite_scan {σ} (W : World σ) (bs : List Branch) (pos : Nat) (w : σ) :
    stepI W (.ite bs) (.node pos none) w =
      if pos = bs.length then .ok true .none (.node pos none) w else
      match bs[(scan W bs pos w).1]? with
      | some br => frameOut true (.node bs.length none) (.node (scan W bs pos w).1 ∘ some)
          (stepB W br.2 (createBlock br.2) (scan W bs pos w).2.1)
      | none => if (scan W bs pos w).1 = bs.length then .ok true .none (.node (scan W bs pos w).1 none) (scan W bs pos w).2.1
          else .error (scan W bs pos w).2.1 := by
  rw [stepI]
  split
  · rfl
  cases hget : bs[(scan W bs pos w).1]? with
  | none =>
    dsimp only
    split
    · rfl
    · split <;> rename_i h' <;> rw [hget] at h' <;> cases h'
  | some br =>
    have hp : ¬ (scan W bs pos w).1 = bs.length := fun e => by simp [e] at hget
    dsimp only
    rw [if_neg hp]
    split <;> rename_i h' <;> rw [hget] at h' <;> cases h'
    rfl

theorem stepI_while_node {σ} (W : World σ) (p : Nat) (b : Block) (q : Nat) (c : St) (w : σ) :
    stepI W (.while_ p b) (.node q (some c)) w =
      frameOut false (.node 0 none) (.node 0 ∘ some) (stepB W b c w) := by
  rw [stepI]
  cases stepB W b c w with
  | ok fin r c' w' => cases fin <;> rfl
  | _ => rfl

theorem stepI_while_pred {σ} (W : World σ) (p : Nat) (b : Block) (q : Nat) (w : σ) :
    stepI W (.while_ p b) (.node q none) w =
      if (W.pred w p).2 then frameOut false (.node 0 none) (.node 0 ∘ some) (stepB W b (createBlock b) (W.pred w p).1)
      else .ok true .none (.node 0 none) (W.pred w p).1 := by
  rw [stepI]
  dsimp only
  split
  · cases stepB W b (createBlock b) (W.pred w p).1 with
    | ok fin r c' w' => cases fin <;> rfl
    | _ => rfl
  · rfl

/-- induction over instructions and blocks together, by the recursor of the nested type (the `induction` tactic does not
take nested types) -/
theorem instr_block_induction {PI : Instr → Prop} {PB : Block → Prop} (call : ∀ f, PI (.call f)) (ret : ∀ c, PI (.ret c))
    (while_ : ∀ p b, PB b → PI (.while_ p b)) (ite : ∀ bs : List Branch, (∀ br ∈ bs, PB br.2) → PI (.ite bs))
    (block : ∀ is : Block, (∀ i ∈ is, PI i) → PB is) : (∀ i, PI i) ∧ ∀ is, PB is :=
  have hI : ∀ i, PI i := fun i =>
    Instr.rec (motive_1 := PI) (motive_2 := fun bs => ∀ br ∈ bs, ∀ i ∈ br.2, PI i)
      (motive_3 := fun is => ∀ i ∈ is, PI i) (motive_4 := fun br => ∀ i ∈ br.2, PI i)
      call (fun bs ih => ite bs fun br hbr => block br.2 (ih br hbr)) (fun p b ih => while_ p b (block b ih)) ret
      (List.forall_mem_nil _) (fun _ _ h t => List.forall_mem_cons.mpr ⟨h, t⟩)
      (List.forall_mem_nil _) (fun _ _ h t => List.forall_mem_cons.mpr ⟨h, t⟩) (fun _ _ ih => ih) i
  ⟨hI, fun is => block is fun i _ => hI i⟩

end Outline
