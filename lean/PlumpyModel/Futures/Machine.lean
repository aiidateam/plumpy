import PlumpyModel.Futures.Proof
/-!
# One moving callback

The scenarios of C20 have the same shape: the environment owns the futures `0..N-1`, of one kind, and completes them
in any order with designated outcomes `d`; the adapter under study owns the futures from `N` on, its task and its
deliveries, and keeps exactly one callback alive.  That callback is registered, alone, on one pending future of the
environment (`Pos.wait f`), or it is queued for invocation (`Pos.hot r`: on the stack for concurrent futures, which runs
at once; on the loop for asyncio futures, which runs at some later tick), or it is gone.  `Machine.envRun` is the
induction over the events of the environment, once for all adapters.
-/
namespace Futures

/-- the environment's futures `0..N-1` -/
structure Env (K : Kind) (N : Nat) (d : FId → St) (s : State) : Prop where
  next : N ≤ s.next
  errs : s.errs = []
  fuel : s.fuelOut = false
  kind : ∀ f, f < N → (s.heap f).kind = K
  sts : ∀ f, f < N → s.st f = .pending ∨ s.st f = d f

/-- the adapter's side is untouched: its cells, its task, the deliveries to its cells; and what is done on the
environment's side stays done -/
structure Frame (N : Nat) (s s' : State) : Prop where
  heap : ∀ x, N ≤ x → s'.heap x = s.heap x
  next : s'.next = s.next
  tasks : s'.tasks = s.tasks
  sets : ∀ x, N ≤ x → s'.sets.count x = s.sets.count x
  ntasks : s'.ntasks = s.ntasks
  done : ∀ x, x < N → s.st x ≠ .pending → s'.st x = s.st x

theorem Frame.queues (N : Nat) (s : State) (st rd) : Frame N s { s with stack := st, ready := rd } :=
  ⟨fun _ _ => rfl, rfl, rfl, fun _ _ => rfl, rfl, fun _ _ _ => rfl⟩

theorem Frame.st {N s s'} (hf : Frame N s s') {x : FId} (hx : N ≤ x) : s'.st x = s.st x := congrArg Cell.st (hf.heap x hx)

theorem Frame.levels {n o s s'} (hf : Frame (n + 1) s s') {j : Nat} (hj : j ≤ n + 1)
    (h : ∀ i, i < j → s.st i = chainD n o i) : ∀ i, i < j → s'.st i = chainD n o i := fun i hi => by
  have hin : i ≤ n := by omega
  rw [hf.done i (by omega) (by rw [h i hi]; exact chainD_ne_pending hin)]; exact h i hi

/-- the environment's futures are untouched -/
structure Below (N : Nat) (s s' : State) : Prop where
  heap : ∀ x, x < N → s'.heap x = s.heap x
  next : s.next ≤ s'.next
  errs : s'.errs = s.errs
  fuel : s'.fuelOut = s.fuelOut

theorem Below.st {N s s'} (hb : Below N s s') {x : FId} (hx : x < N) : s'.st x = s.st x := congrArg Cell.st (hb.heap x hx)

theorem Env.below {K N d s s'} (h : Env K N d s) (hb : Below N s s') : Env K N d s' :=
  ⟨Nat.le_trans h.next hb.next, hb.errs.trans h.errs, hb.fuel.trans h.fuel,
    fun f hf => by rw [hb.heap f hf]; exact h.kind f hf,
    fun f hf => by rw [hb.st hf]; exact h.sts f hf⟩

inductive Pos where
  | wait (f : FId)
  | hot (r : Ready)
  | gone

/-- the callbacks registered on the environment's futures: none, or `cb` alone on the pending future `f` -/
def Reg (N : Nat) (s : State) : Option (FId × Cb) → Prop
  | none => ∀ g, g < N → (s.heap g).cbs = []
  | some (f, cb) => f < N ∧ s.st f = .pending ∧ (s.heap f).cbs = [cb] ∧ ∀ g, g < N → g ≠ f → (s.heap g).cbs = []

def Queued (K : Kind) (st : List (Cb × FId)) (rd : List Ready) : Option Ready → Prop
  | none => st = [] ∧ rd = []
  | some r =>
    match K with
    | .aio => st = [] ∧ rd = [r]
    | .kiwi => rd = [] ∧ ∃ c f, r = .call c f ∧ st = [(c, f)]

/-- the callback registered on the future `f` is `cb f` (one closure per level for `plum_to_kiwi_future`) -/
def At (K : Kind) (N : Nat) (cb : FId → Cb) (s : State) : Pos → Prop
  | .wait f => Reg N s (some (f, cb f)) ∧ Queued K s.stack s.ready none
  | .hot r => Reg N s none ∧ Queued K s.stack s.ready (some r)
  | .gone => Reg N s none ∧ Queued K s.stack s.ready none

theorem Reg.below {N s s' w} (h : Reg N s w) (hb : Below N s s') : Reg N s' w := by
  cases w with
  | none => intro g hg; rw [hb.heap g hg]; exact h g hg
  | some q =>
    refine ⟨h.1, ?_, ?_, fun g hg hne => ?_⟩
    · exact (hb.st h.1).trans h.2.1
    · rw [hb.heap _ h.1]; exact h.2.2.1
    · rw [hb.heap g hg]; exact h.2.2.2 g hg hne

theorem At.below {K N cb s s' p} (h : At K N cb s p) (hb : Below N s s') (hs : s'.stack = s.stack)
    (hr : s'.ready = s.ready) : At K N cb s' p := by
  cases p <;> exact ⟨h.1.below hb, by rw [hs, hr]; exact h.2⟩

theorem Pre.env {K N d s} (h : Pre K N d s) (cb : FId → Cb) : Env K N d s ∧ At K N cb s .gone :=
  ⟨⟨Nat.le_of_eq h.next.symm, h.errs, h.fuel, h.kind, h.sts⟩, h.cbs, h.stack, h.ready⟩

theorem setOutcome_queues {K : Kind} {s : State} {g : FId} (hp : s.st g = .pending) (hk : (s.heap g).kind = K) (o : St) :
    ∃ st rd, (setOutcome s g o).1 = { s with
        heap := upd s.heap g { s.heap g with st := o, cbs := [] }, stack := st, ready := rd, sets := g :: s.sets } ∧
      ((s.heap g).cbs = [] → st = s.stack ∧ rd = s.ready) ∧
      ∀ c, (s.heap g).cbs = [c] → Queued K s.stack s.ready none → Queued K st rd (some (.call c g)) := by
  cases K with
  | kiwi =>
    exact ⟨_, _, congrArg Prod.fst (setOutcome_kiwi hp hk o), fun hc => ⟨by rw [hc]; rfl, rfl⟩,
      fun c hc hq => ⟨hq.2, c, g, rfl, by rw [hc, hq.1]; rfl⟩⟩
  | aio =>
    exact ⟨_, _, congrArg Prod.fst (setOutcome_aio hp hk o), fun hc => ⟨rfl, by rw [hc]; exact List.append_nil _⟩,
      fun c hc hq => ⟨hq.1, by rw [hc, hq.2]; rfl⟩⟩

def Pos.after (cb : FId → Cb) (g : FId) : Pos → Pos
  | .wait f => if f = g then .hot (.call (cb g) g) else .wait f
  | p => p

theorem At.complete {K N d cb s p} (he : Env K N d s) (ha : At K N cb s p) {g : Nat} (hg : g < N)
    (ho : d g ≠ .pending) :
    Env K N d (complete s g (d g)).1 ∧ At K N cb (complete s g (d g)).1 (p.after cb g) ∧
      Frame N s (complete s g (d g)).1 ∧ (complete s g (d g)).1.st g = d g := by
  have hcnt : ∀ x, N ≤ x → (g :: s.sets).count x = s.sets.count x := fun x hx =>
    List.count_cons_of_ne (show g ≠ x by omega)
  rw [complete_eq _ _ ho]
  by_cases hp : s.st g = .pending
  case neg =>
    -- a repeated completion: only the log grows
    rw [setOutcome_done hp]
    have hpa : p.after cb g = p := by
      cases p with
      | wait f =>
        simp only [Pos.after]; split
        · next e => subst e; exact absurd ha.1.2.1 hp
        · rfl
      | _ => rfl
    rw [hpa]
    refine ⟨⟨he.next, he.errs, he.fuel, he.kind, he.sts⟩, ?_, ⟨fun _ _ => rfl, rfl, rfl, hcnt, rfl, fun _ _ _ => rfl⟩,
      (he.sts g hg).resolve_left hp⟩
    cases p <;> exact ha
  obtain ⟨st, rd, e, hnil, hone⟩ := setOutcome_queues hp (he.kind g hg) (d g)
  rw [e]
  refine ⟨⟨he.next, he.errs, he.fuel, fun f hf => ?_, fun f hf => ?_⟩, ?_,
    ⟨fun x hx => upd_other _ _ (Nat.ne_of_gt (Nat.lt_of_lt_of_le hg hx)), rfl, rfl, hcnt, rfl, fun x _ hx => by
      have hxg : x ≠ g := fun e => hx (e ▸ hp)
      simp only [State.st]; rw [upd_other _ _ hxg]⟩,
    by simp only [State.st, upd_self]⟩
  · show (upd _ _ _ f).kind = K; rw [upd_congr Cell.kind (by rfl)]; exact he.kind f hf
  · simp only [State.st]
    by_cases hfg : f = g
    · rw [hfg, upd_self]; exact .inr rfl
    · rw [upd_other _ _ hfg]; exact he.sts f hf
  -- the callbacks registered elsewhere stay, none is left on `g`
  have hreg : ∀ w, Reg N s w → (∀ c, w ≠ some (g, c)) → Reg N { s with
      heap := upd s.heap g { s.heap g with st := d g, cbs := [] }, stack := st, ready := rd, sets := g :: s.sets } w :=
    fun w hw hne => by
      cases w with
      | none =>
        intro x hx
        show (upd _ _ _ x).cbs = []
        by_cases hxg : x = g
        · rw [hxg, upd_self]
        · rw [upd_other _ _ hxg]; exact hw x hx
      | some q =>
        obtain ⟨f, c⟩ := q
        have hfg : f ≠ g := fun e => hne c (by rw [e])
        refine ⟨hw.1, ?_, ?_, fun x hx hxf => ?_⟩ <;> simp only [State.st]
        · rw [upd_other _ _ hfg]; exact hw.2.1
        · rw [upd_other _ _ hfg]; exact hw.2.2.1
        · by_cases hxg : x = g
          · rw [hxg, upd_self]
          · rw [upd_other _ _ hxg]; exact hw.2.2.2 x hx hxf
  -- nothing was registered on `g`: the queues are as they were
  have idle : ∀ {q}, (s.heap g).cbs = [] → Queued K s.stack s.ready q → Queued K st rd q := fun hc hq => by
    obtain ⟨rfl, rfl⟩ := hnil hc; exact hq
  cases p with
  | hot r => exact ⟨hreg none ha.1 (fun _ h => nomatch h), idle (ha.1 g hg) ha.2⟩
  | gone => exact ⟨hreg none ha.1 (fun _ h => nomatch h), idle (ha.1 g hg) ha.2⟩
  | wait f =>
    simp only [Pos.after]
    by_cases hfg : f = g
    · rw [if_pos hfg]
      subst hfg
      refine ⟨fun x hx => ?_, hone (cb f) ha.1.2.2.1 ha.2⟩
      show (upd _ _ _ x).cbs = []
      by_cases hxg : x = f
      · rw [hxg, upd_self]
      · rw [upd_other _ _ hxg]; exact ha.1.2.2.2 x hx hxg
    · rw [if_neg hfg]
      exact ⟨hreg _ ha.1 (fun c e => hfg (by injection e with e; injection e with e1 e2)),
        idle (ha.1.2.2.2 g hg (Ne.symm hfg)) ha.2⟩

/-- before an adapter is applied nothing is registered: completions only set states -/
theorem pre_envStep {K N d s} (hd : ∀ f, N ≤ f → d f = .pending) (h : Pre K N d s) (fuel : Nat) (ev : Ev) :
    Pre K N d (envStep d fuel s ev) := by
  cases ev with
  | tick i => rw [envStep, tick_ready_nil _ _ _ h.ready]; exact h
  | complete f =>
    rw [envStep]
    by_cases hne : d f = .pending
    · rw [hne]; show Pre K N d (runStack fuel s); rw [runStack_nil _ _ h.stack]; exact h
    obtain ⟨he, ha⟩ := h.env (fun _ => .wake 0)
    obtain ⟨he', ha', hf, _⟩ := ha.complete he (Nat.lt_of_not_le fun hle => hne (hd f hle)) hne
    rw [runStack_nil _ _ ha'.2.1]
    exact ⟨hf.next.trans h.next, he'.errs, he'.fuel, ha'.2.2, ha'.2.1, hf.ntasks.trans h.ntasks,
      fun g hg => List.count_eq_zero.1 ((hf.sets g hg).trans (List.count_eq_zero.2 (h.sets g hg))), he'.kind, he'.sts, ha'.1⟩

theorem pre_envRun {K N d} (hd : ∀ f, N ≤ f → d f = .pending) (fuel : Nat) (evs : List Ev) :
    ∀ s, Pre K N d s → Pre K N d (envRun d fuel s evs) :=
  envRun_inv (I := Pre K N d) (fun _ ev h => pre_envStep hd h fuel ev) evs

theorem At.addDone {K N d cb s} (he : Env K N d s) (ha : At K N cb s .gone) {j : Nat} (hj : j < N) :
    Env K N d (addDone s j (cb j)) ∧ Frame N s (addDone s j (cb j)) ∧
      At K N cb (addDone s j (cb j)) (if s.st j = .pending then .wait j else .hot (.call (cb j) j)) := by
  obtain ⟨hreg, hs, hr⟩ := ha
  by_cases hp : s.st j = .pending
  · rw [addDone_pending hp, if_pos hp]
    refine ⟨⟨he.next, he.errs, he.fuel, fun f hf => ?_, fun f hf => ?_⟩,
      ⟨fun x hx => upd_other _ _ (Nat.ne_of_gt (Nat.lt_of_lt_of_le hj hx)), rfl, rfl, fun _ _ => rfl, rfl,
        fun x _ _ => upd_congr Cell.st (by rfl) x⟩, ⟨hj, ?_, ?_, fun g hg hne => ?_⟩, hs, hr⟩ <;> simp only [State.st]
    · rw [upd_congr Cell.kind (by rfl)]; exact he.kind f hf
    · rw [upd_congr Cell.st (by rfl)]; exact he.sts f hf
    · rw [upd_self]; exact hp
    · rw [upd_self, hreg j hj]; rfl
    · rw [upd_other _ _ hne]; exact hreg g hg
  · rw [if_neg hp]
    cases K with
    | kiwi =>
      rw [addDone_done_kiwi hp (he.kind j hj)]
      exact ⟨⟨he.next, he.errs, he.fuel, he.kind, he.sts⟩, Frame.queues N s _ s.ready,
        hreg, hr, cb j, j, rfl, by show _ :: s.stack = _; rw [hs]⟩
    | aio =>
      rw [addDone_done_aio hp (he.kind j hj)]
      exact ⟨⟨he.next, he.errs, he.fuel, he.kind, he.sts⟩, Frame.queues N s s.stack _,
        hreg, hs, by show s.ready ++ _ = _; rw [hr]; rfl⟩

theorem deliver {N : Nat} {s : State} {t : Nat} (ht : N ≤ t) (hp : s.st t = .pending) (hc : (s.heap t).cbs = []) (o : St) :
    Below N s (setOutcome s t o).1 ∧ (setOutcome s t o).1.stack = s.stack ∧ (setOutcome s t o).1.ready = s.ready ∧
      (setOutcome s t o).1.heap = upd s.heap t { s.heap t with st := o } ∧ (setOutcome s t o).1.sets = t :: s.sets ∧
      (setOutcome s t o).1.tasks = s.tasks ∧ (setOutcome s t o).1.next = s.next := by
  rw [setOutcome_quiet hp hc]
  exact ⟨⟨fun x hx => upd_other _ _ (Nat.ne_of_lt (Nat.lt_of_lt_of_le hx ht)), Nat.le_refl _, rfl, rfl⟩,
    rfl, rfl, rfl, rfl, rfl, rfl⟩

/-- the last hop down a chain: the innermost outcome goes to the adapter's own future `t` -/
theorem deliver_last {n : Nat} {o : Outcome} {s : State} {t : Nat} (ht : n + 1 ≤ t) (hp : s.st t = .pending)
    (hc : (s.heap t).cbs = []) (hu : s.sets.count t = 0) (hl : ∀ i, i < n → s.st i = chainD n o i)
    (hn : s.st n = o.toSt) :
    Below (n + 1) s (setOutcome s t o.toSt).1 ∧ (setOutcome s t o.toSt).1.stack = s.stack ∧
      (setOutcome s t o.toSt).1.ready = s.ready ∧ (setOutcome s t o.toSt).1.tasks = s.tasks ∧
      (∀ x, x ≠ t → (setOutcome s t o.toSt).1.heap x = s.heap x ∧
        (setOutcome s t o.toSt).1.sets.count x = s.sets.count x) ∧
      (∀ i, i ≤ n → (setOutcome s t o.toSt).1.st i = chainD n o i) ∧ (setOutcome s t o.toSt).1.st t = o.toSt ∧
      (setOutcome s t o.toSt).1.sets.count t = 1 := by
  obtain ⟨hb, hs, hr, hheap, hsets, htasks, _⟩ := deliver ht hp hc o.toSt
  refine ⟨hb, hs, hr, htasks, fun x hx => ⟨by rw [hheap, upd_other _ _ hx], by rw [hsets, List.count_cons_of_ne (Ne.symm hx)]⟩,
    fun i hi => ?_, by simp only [State.st]; rw [hheap, upd_self], by rw [hsets, List.count_cons_self, hu]⟩
  rw [hb.st (Nat.lt_succ_of_le hi)]
  rcases Nat.lt_or_eq_of_le hi with hi' | rfl
  · exact hl i hi'
  · rw [chainD_last]; exact hn

/-- the future `N` the adapter is to resolve, not yet delivered to -/
structure Own (k : Kind) (N : Nat) (s : State) : Prop where
  next : s.next = N + 1
  tkind : (s.heap N).kind = k
  tcbs : (s.heap N).cbs = []
  pend : s.st N = .pending
  unset : s.sets.count N = 0

theorem Own.frame {k N s s'} (h : Own k N s) (hf : Frame N s s') : Own k N s' := by
  have e := hf.heap N (Nat.le_refl _)
  exact ⟨hf.next.trans h.next, by rw [e]; exact h.tkind, by rw [e]; exact h.tcbs,
    (hf.st (Nat.le_refl _)).trans h.pend, (hf.sets _ (Nat.le_refl _)).trans h.unset⟩

theorem Own.congr {k N s s'} (h : Own k N s) (hh : s'.heap = s.heap) (hn : s'.next = s.next) (hs : s'.sets = s.sets) :
    Own k N s' :=
  ⟨hn.trans h.next, by rw [hh]; exact h.tkind, by rw [hh]; exact h.tcbs, by simp only [State.st]; rw [hh]; exact h.pend,
    by rw [hs]; exact h.unset⟩

theorem Own.alloc {K N d s} (h : Pre K N d s) (k : Kind) :
    Below N s (alloc s k).1 ∧ (alloc s k).2 = N ∧ Own k N (alloc s k).1 := by
  rw [alloc_eq, h.next]
  refine ⟨⟨fun x hx => upd_other _ _ (Nat.ne_of_lt hx), by rw [h.next]; exact Nat.le_succ _, rfl, rfl⟩, rfl, rfl, ?_, ?_, ?_,
    List.count_eq_zero.mpr (h.sets _ (Nat.le_refl _))⟩ <;> simp only [State.st, upd_self]

/-- `create_task` and `_schedule_rpc` start alike: a future of the adapter's own and a helper task whose first step is on
the loop -/
theorem Pre.spawn {N d s} (h : Pre .aio N d s) (k : Kind) (c : TCont) (cb : FId → Cb) {s' : State}
    (e : s' = { ((alloc s k).1.setTask s.ntasks c) with ntasks := s.ntasks + 1, ready := s.ready ++ [.start s.ntasks] }) :
    (alloc s k).2 = N ∧ Env .aio N d s' ∧ At .aio N cb s' (.hot (.start 0)) ∧ Own k N s' ∧ s'.tasks 0 = c := by
  obtain ⟨he, ha⟩ := h.env cb
  obtain ⟨hb, hid, ho⟩ := Own.alloc h k
  subst e
  have hb' : Below N s { ((alloc s k).1.setTask s.ntasks c) with ntasks := s.ntasks + 1, ready := s.ready ++ [.start s.ntasks] } :=
    ⟨hb.heap, hb.next, rfl, rfl⟩
  refine ⟨hid, he.below hb', ⟨ha.1.below hb', h.stack, ?_⟩, ho.congr rfl rfl rfl, ?_⟩
  · show s.ready ++ [.start s.ntasks] = _; rw [h.ready, h.ntasks]; rfl
  · show (if 0 = s.ntasks then _ else _) = _; rw [h.ntasks]; rfl

def exec (s : State) (fuel : Nat) (src : Src) : Ready → State
  | .call c f => invoke s fuel src c f
  | .start t => advance s fuel t

theorem runReady_eq (s : State) (fuel : Nat) (r : Ready) : runReady s fuel r = exec s fuel .loop r := by
  cases r <;> rfl

/-- an adapter, as far as the induction over events is concerned: what it keeps of its own cells, tasks and deliveries in
each position of its callback (`Priv`, which operations on the environment's futures do not disturb), and what an
invocation of the queued callback does from a state in which nothing else is registered or queued.  `μ` bounds how often
an invocation on a concurrent future can queue the callback again at once (the inline recursion of `runStack`). -/
structure Machine (K : Kind) (N : Nat) (d : FId → St) (cb : FId → Cb) where
  Priv : Pos → State → Prop
  fuelMin : Nat
  μ : Ready → Nat
  bound : Nat
  μ_lt : K = .kiwi → ∀ r, μ r < bound
  frame : ∀ {p s s'}, Frame N s s' → Priv p s → Priv p s'
  wake : ∀ {f s}, Priv (.wait f) s → s.st f = d f → d f ≠ .pending → Priv (.hot (.call (cb f) f)) s
  fire : ∀ {s r} (src : Src) {fuel : Nat}, fuelMin ≤ fuel → Env K N d s → At K N cb s .gone → Priv (.hot r) s →
    Env K N d (exec s fuel src r) ∧ ∃ p, At K N cb (exec s fuel src r) p ∧ Priv p (exec s fuel src r) ∧
      ∀ r', K = .kiwi → p = .hot r' → μ r' < μ r

variable {K : Kind} {N : Nat} {d : FId → St} {cb : FId → Cb}

/-- quiescent states: on concurrent futures the callback is never left queued -/
def Machine.Inv (M : Machine K N d cb) (s : State) : Prop :=
  Env K N d s ∧ ∃ p, At K N cb s p ∧ M.Priv p s ∧ (K = .kiwi → ∀ r, p ≠ .hot r)

theorem Machine.runHot (M : Machine .kiwi N d cb) : ∀ (m fuel : Nat) (s : State) (r : Ready), M.μ r < m →
    M.fuelMin + m ≤ fuel → Env .kiwi N d s → At .kiwi N cb s (.hot r) → M.Priv (.hot r) s → M.Inv (runStack fuel s) := by
  intro m
  induction m with
  | zero => intro _ _ _ h; exact absurd h (Nat.not_lt_zero _)
  | succ m ih =>
    intro fuel s r hμ hfuel he ha hp
    obtain ⟨hreg, hrd, c, f, rfl, hst⟩ := ha
    obtain ⟨fuel, rfl⟩ : ∃ k, fuel = k + 1 := ⟨fuel - 1, by omega⟩
    simp only [runStack, hst]
    show M.Inv (runStack fuel (exec { s with stack := [] } (fuel + 1) .inline (.call c f)))
    obtain ⟨he', p', ha', hp', hdec⟩ := M.fire (s := { s with stack := [] }) (r := .call c f) .inline (fuel := fuel + 1)
      (by omega) (he.below ⟨fun _ _ => rfl, Nat.le_refl _, rfl, rfl⟩)
      ⟨fun g hg => hreg g hg, rfl, hrd⟩ (M.frame (Frame.queues N s [] s.ready) hp)
    cases p' with
    | hot r' =>
      exact ih fuel _ r' (Nat.lt_of_lt_of_le (hdec r' rfl rfl) (Nat.le_of_lt_succ hμ)) (by omega) he' ha' hp'
    | wait g =>
      rw [runStack_nil _ _ ha'.2.1]
      exact ⟨he', .wait g, ha', hp', fun _ _ h => nomatch h⟩
    | gone =>
      rw [runStack_nil _ _ ha'.2.1]
      exact ⟨he', .gone, ha', hp', fun _ _ h => nomatch h⟩

/-- what is on the stack runs, wherever the callback is: nothing unless it is queued on a concurrent future -/
theorem Machine.settle (M : Machine K N d cb) {fuel : Nat} (hfuel : M.fuelMin + M.bound ≤ fuel) {s : State} {p : Pos}
    (he : Env K N d s) (ha : At K N cb s p) (hp : M.Priv p s) : M.Inv (runStack fuel s) := by
  cases p with
  | wait f => rw [runStack_nil _ _ ha.2.1]; exact ⟨he, _, ha, hp, fun _ _ h => nomatch h⟩
  | gone => rw [runStack_nil _ _ ha.2.1]; exact ⟨he, _, ha, hp, fun _ _ h => nomatch h⟩
  | hot r =>
    cases K with
    | aio => rw [runStack_nil _ _ ha.2.1]; exact ⟨he, _, ha, hp, fun h => nomatch h⟩
    | kiwi => exact M.runHot M.bound fuel _ _ (M.μ_lt rfl _) hfuel he ha hp

theorem Machine.envStep (M : Machine K N d cb) (hd : ∀ f, N ≤ f → d f = .pending) {fuel : Nat}
    (hfuel : M.fuelMin + M.bound ≤ fuel) {s : State} (h : M.Inv s) (ev : Ev) : M.Inv (envStep d fuel s ev) := by
  obtain ⟨he, p, ha, hp, hk⟩ := h
  cases ev with
  | complete g =>
    simp only [Futures.envStep]
    by_cases ho : d g = .pending
    · rw [ho]; exact M.settle hfuel he ha hp
    have hg : g < N := Nat.lt_of_not_le fun hle => ho (hd g hle)
    obtain ⟨he', ha', hfr, hst⟩ := ha.complete he hg ho
    have hp' := M.frame hfr hp
    -- unless the callback was waiting on `g` it is where it was
    cases p with
    | hot r => exact M.settle hfuel he' ha' hp'
    | gone => exact M.settle hfuel he' ha' hp'
    | wait f =>
      by_cases hfg : f = g
      · subst hfg
        simp only [Pos.after, if_pos] at ha'
        exact M.settle hfuel he' ha' (M.wake hp' hst ho)
      · simp only [Pos.after, if_neg hfg] at ha'
        exact M.settle hfuel he' ha' hp'
  | tick i =>
    simp only [Futures.envStep]
    have idle : s.ready = [] → M.Inv (tick s fuel i) := fun hr => by
      rw [tick_ready_nil _ _ _ hr]; exact ⟨he, p, ha, hp, hk⟩
    cases p with
    | wait f => exact idle ha.2.2
    | gone => exact idle ha.2.2
    | hot r =>
      cases K with
      | kiwi => exact absurd rfl (hk rfl r)
      | aio =>
        obtain ⟨hreg, hst, hrd⟩ := ha
        cases i with
        | succ i => simp only [tick, hrd, List.getElem?_cons_succ, List.getElem?_nil]; exact ⟨he, .hot r, ⟨hreg, hst, hrd⟩, hp, hk⟩
        | zero =>
          simp only [tick, hrd, List.getElem?_cons_zero, List.eraseIdx_cons_zero, runReady_eq]
          obtain ⟨he', p', ha', hp', _⟩ := M.fire (s := { s with ready := [] }) (r := r) .loop (fuel := fuel)
            (by omega) (he.below ⟨fun _ _ => rfl, Nat.le_refl _, rfl, rfl⟩)
            ⟨fun g hg => hreg g hg, hst, rfl⟩ (M.frame (Frame.queues N s s.stack []) hp)
          exact M.settle hfuel he' ha' hp'

theorem Machine.envRun (M : Machine K N d cb) (hd : ∀ f, N ≤ f → d f = .pending) {fuel : Nat}
    (hfuel : M.fuelMin + M.bound ≤ fuel) (evs : List Ev) : ∀ s, M.Inv s → M.Inv (envRun d fuel s evs) :=
  envRun_inv (fun _ ev h => M.envStep hd hfuel h ev) evs

end Futures
