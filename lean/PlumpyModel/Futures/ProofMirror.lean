import PlumpyModel.Futures.Machine
/-!
# `plum_to_kiwi_future` over a chain of loop futures `0..n`

The mirror of level `i` is the concurrent future `n+1+i` (mirrors are allocated one by one as the levels resolve to
futures); the callback registered on level `i` is the `on_done` closure of that mirror (`mcb`).  The closure of level
`m < n` opens the mirror of level `m+1` (`mirror_open`, which is also how the scenario starts) and resolves mirror `m` to
it; the closure of level `n` delivers the innermost outcome.
-/
namespace Futures

/-- mirrors `0..m` exist; those below `m` are resolved to the next mirror, each set once (the scenario's invariant in
one piece: what `Env`, `At` and `MOwn` say together) -/
structure MBase (n : Nat) (o : Outcome) (m : Nat) (s : State) : Prop where
  hm : m ≤ n
  next : s.next = n + 2 + m
  errs : s.errs = []
  fuel : s.fuelOut = false
  stack : s.stack = []
  kindp : ∀ f, f ≤ n → (s.heap f).kind = .aio
  kindk : ∀ i, i ≤ m → (s.heap (n + 1 + i)).kind = .kiwi
  sts : ∀ i, i ≤ n → s.st i = .pending ∨ s.st i = chainD n o i
  kcbs : ∀ i, i ≤ m → (s.heap (n + 1 + i)).cbs = []
  below : ∀ i, i < m → s.st (n + 1 + i) = .result (.ref (n + 2 + i)) ∧ s.sets.count (n + 1 + i) = 1 ∧
            s.st i = chainD n o i
  others : ∀ i, i ≤ n → i ≠ m → (s.heap i).cbs = []
  fresh : ∀ f, n + 1 + m < f → f ∉ s.sets

theorem invokeMirror_outcome {s : State} {src : Src} {k f : FId} (o : Outcome) (hf : s.st f = o.toSt)
    (hk : s.st k = .pending) : invokeMirror s src k f = (setOutcome s k o.toSt).1 := by
  cases o <;> simp only [invokeMirror, hf, Outcome.toSt]
  · exact captureSetResult_ok hk ..
  · exact captureSetExc_ok hk _ rfl
  · exact cancelFut_eq ..

theorem invokeMirror_ref {s : State} {src : Src} {k f g : FId} (hf : s.st f = .result (.ref g))
    (hg : (s.heap g).kind = .aio) (hk : (plumToKiwi s g).1.st k = .pending) :
    invokeMirror s src k f = (setOutcome (plumToKiwi s g).1 k (.result (.ref (plumToKiwi s g).2))).1 := by
  simp only [invokeMirror, hf, hg, if_true]
  exact captureSetResult_ok hk ..


def mcb (n : Nat) (f : FId) : Cb := .mirror (n + 1 + f)

/-- mirrors `0..m` exist; those below `m` are resolved to the next mirror, each set once, their levels done; mirror `m`
is untouched and nothing beyond it has been delivered to -/
structure MOwn (n : Nat) (o : Outcome) (m : Nat) (s : State) : Prop where
  hm : m ≤ n
  next : s.next = n + 2 + m
  below : ∀ i, i < m → s.st (n + 1 + i) = .result (.ref (n + 2 + i)) ∧ s.sets.count (n + 1 + i) = 1
  levels : ∀ i, i < m → s.st i = chainD n o i
  cell : s.heap (n + 1 + m) = { kind := .kiwi }
  fresh : ∀ f, n + 1 + m ≤ f → s.sets.count f = 0

theorem MOwn.pend {n o m s} (h : MOwn n o m s) : s.st (n + 1 + m) = .pending := by
  simp only [State.st]; rw [h.cell]

def MPriv (n : Nat) (o : Outcome) : Pos → State → Prop
  | .hot (.start _) => fun _ => False
  | .hot (.call c m) => fun s => c = mcb n m ∧ MOwn n o m s ∧ s.st m = chainD n o m
  | .wait m => MOwn n o m
  | .gone => fun s => (∀ i, i < n → s.st (n + 1 + i) = .result (.ref (n + 2 + i)) ∧ s.sets.count (n + 1 + i) = 1) ∧
      (∀ i, i ≤ n → s.st i = chainD n o i) ∧ s.st (n + 1 + n) = o.toSt ∧ s.sets.count (n + 1 + n) = 1

theorem MOwn.frame {n o m s s'} (h : MOwn n o m s) (hf : Frame (n + 1) s s') : MOwn n o m s' := by
  have hm := h.hm
  have cell : ∀ i, s'.heap (n + 1 + i) = s.heap (n + 1 + i) := fun i => hf.heap _ (Nat.le_add_right _ _)
  refine ⟨hm, hf.next.trans h.next, fun i hi => ?_, hf.levels (by omega) h.levels, (cell m).trans h.cell,
    fun f hf' => (hf.sets f (by omega)).trans (h.fresh f hf')⟩
  simp only [State.st]; rw [cell, hf.sets _ (Nat.le_add_right _ _)]; exact h.below i hi

theorem MPriv.frame {n o p s s'} (hf : Frame (n + 1) s s') (h : MPriv n o p s) : MPriv n o p s' := by
  cases p with
  | wait m => exact MOwn.frame h hf
  | hot r =>
    cases r with
    | start t => exact h
    | call c m =>
      obtain ⟨h1, h2, h3⟩ := h
      exact ⟨h1, h2.frame hf, by rw [hf.done m (Nat.lt_succ_of_le h2.hm) (by rw [h3]; exact chainD_ne_pending h2.hm)]; exact h3⟩
  | gone =>
    obtain ⟨h1, h2, h3, h4⟩ := h
    have cell : ∀ i, s'.heap (n + 1 + i) = s.heap (n + 1 + i) := fun i => hf.heap _ (Nat.le_add_right _ _)
    refine ⟨fun i hi => ?_, fun i hi => hf.levels (Nat.le_refl _) (fun i hi => h2 i (by omega)) i (by omega), ?_,
      (hf.sets _ (Nat.le_add_right _ _)).trans h4⟩ <;> simp only [State.st]
    · rw [cell, hf.sets _ (Nat.le_add_right _ _)]; exact h1 i hi
    · rw [cell]; exact h3

/-- `plum_to_kiwi_future(level j)` when nothing is registered or queued and the mirrors so far are `n+1 .. n+j`: mirror
`n+1+j` is new, its closure is on level `j` (registered, or scheduled if the level is done), the other cells of the
adapter and its deliveries are as before -/
theorem mirror_open {n : Nat} {o : Outcome} {s : State} {j : Nat} (hj : j ≤ n) (he : Env .aio (n + 1) (chainD n o) s)
    (ha : At .aio (n + 1) (mcb n) s .gone) (hnext : s.next = n + 1 + j) :
    (plumToKiwi s j).2 = n + 1 + j ∧ Env .aio (n + 1) (chainD n o) (plumToKiwi s j).1 ∧
      At .aio (n + 1) (mcb n) (plumToKiwi s j).1 (if s.st j = .pending then .wait j else .hot (.call (mcb n j) j)) ∧
      (s.st j ≠ .pending → (plumToKiwi s j).1.st j = chainD n o j) ∧
      (plumToKiwi s j).1.next = n + 2 + j ∧ (plumToKiwi s j).1.heap (n + 1 + j) = { kind := .kiwi } ∧
      (∀ x, n + 1 ≤ x → x ≠ n + 1 + j → (plumToKiwi s j).1.heap x = s.heap x) ∧
      (∀ x, n + 1 ≤ x → (plumToKiwi s j).1.sets.count x = s.sets.count x) ∧
      (∀ i, i < n + 1 → s.st i ≠ .pending → (plumToKiwi s j).1.st i = s.st i) := by
  have hjn : j < n + 1 := Nat.lt_succ_of_le hj
  have hb : Below (n + 1) s (alloc s .kiwi).1 :=
    ⟨fun x hx => upd_other _ _ (Nat.ne_of_lt (Nat.lt_of_lt_of_le hx (by rw [hnext]; omega))), Nat.le_succ _, rfl, rfl⟩
  have hlev : ∀ i, i < n + 1 → (alloc s .kiwi).1.st i = s.st i := fun i hi => hb.st hi
  obtain ⟨he2, hf, ha2⟩ := At.addDone (cb := mcb n) (he.below hb) (ha.below hb rfl rfl) hjn
  rw [hlev j hjn] at ha2
  have e : plumToKiwi s j = (addDone (alloc s .kiwi).1 j (mcb n j), n + 1 + j) := by
    rw [plumToKiwi, show (alloc s .kiwi).2 = n + 1 + j from hnext]; rfl
  rw [e]
  refine ⟨rfl, he2, ha2, fun hp => (he2.sts j hjn).resolve_left ?_, by rw [hf.next]; show s.next + 1 = _; omega, ?_,
    fun x hx hne => ?_, fun x hx => hf.sets x hx, fun i hi hp => ?_⟩
  · rw [hf.done j hjn (by rw [hlev j hjn]; exact hp), hlev j hjn]; exact hp
  · rw [hf.heap _ (Nat.le_add_right _ _)]; show upd _ _ _ _ = _; rw [hnext, upd_self]
  · rw [hf.heap x hx]; exact upd_other _ _ (by rw [hnext]; exact hne)
  · rw [hf.done i hi (by rw [hlev i hi]; exact hp), hlev i hi]

def mirrorMachine (n : Nat) (o : Outcome) : Machine .aio (n + 1) (chainD n o) (mcb n) where
  Priv := MPriv n o
  fuelMin := 0
  μ := fun _ => 0
  bound := 0
  μ_lt := fun h => nomatch h
  frame := MPriv.frame
  wake := fun h hst _ => ⟨rfl, h, hst⟩
  fire := fun {s r} src {fuel} _ he ha hp => by
    cases r with
    | start t => exact absurd hp id
    | call c m =>
      obtain ⟨m, rfl⟩ : ∃ m' : Nat, m' = m := ⟨m, rfl⟩
      obtain ⟨rfl, ho, hst⟩ := hp
      have hm := ho.hm
      have hpend := ho.pend
      have hcbs : (s.heap (n + 1 + m)).cbs = [] := by rw [ho.cell]
      simp only [exec, invoke, mcb]
      by_cases hmn : m < n
      · -- level `m` resolves to level `m+1`: a mirror for that level is opened, then mirror `m` is resolved to it
        rw [chainD_lt hmn] at hst
        obtain ⟨hid, he2, ha2, hhot, hnext, hnew, hcells, hcnt, hdone⟩ :=
          mirror_open (j := m + 1) hmn he ha (by rw [ho.next]; omega)
        have hcell := hcells (n + 1 + m) (by omega) (by omega)
        obtain ⟨hbl, hs, hr, hheap, hsets, _, hnext'⟩ := deliver (N := n + 1) (t := n + 1 + m) (by omega)
          (s := (plumToKiwi s (m + 1)).1) (by simp only [State.st]; rw [hcell]; exact hpend) (by rw [hcell]; exact hcbs)
          (.result (.ref (plumToKiwi s (m + 1)).2))
        rw [invokeMirror_ref hst (he.kind (m + 1) (by omega)) (by simp only [State.st]; rw [hcell]; exact hpend)]
        have hown : MOwn n o (m + 1) (setOutcome (plumToKiwi s (m + 1)).1 (n + 1 + m) (.result (.ref (plumToKiwi s (m + 1)).2))).1 := by
          refine ⟨hmn, by rw [hnext', hnext], fun i hi => ?_, fun i hi => ?_, ?_, fun f hf' => ?_⟩ <;>
            (try simp only [State.st])
          · rw [hheap, hsets]
            rcases Nat.lt_or_eq_of_le (Nat.le_of_lt_succ hi) with hi' | rfl
            · rw [upd_other _ _ (Nat.ne_of_lt (by omega)), hcells _ (by omega) (by omega), List.count_cons_of_ne (by omega),
                hcnt _ (by omega)]
              exact ho.below i hi'
            · rw [upd_self, List.count_cons_self, hcnt _ (by omega), ho.fresh _ (Nat.le_refl _), hid]
              exact ⟨by show St.result (.ref (n + 1 + (i + 1))) = _; rw [show n + 1 + (i + 1) = n + 2 + i by omega], rfl⟩
          · rw [hbl.heap i (by omega)]
            rcases Nat.lt_or_eq_of_le (Nat.le_of_lt_succ hi) with hi' | rfl
            · have := hdone i (by omega) (by rw [ho.levels i hi']; exact chainD_ne_pending (by omega))
              simp only [State.st] at this; rw [this]; exact ho.levels i hi'
            · have := hdone i (by omega) (by rw [hst]; simp)
              simp only [State.st] at this; rw [this, chainD_lt hmn]; exact hst
          · rw [hheap, upd_other _ _ (Nat.ne_of_gt (by omega))]; exact hnew
          · rw [hsets, List.count_cons_of_ne (by omega), hcnt f (by omega)]; exact ho.fresh f (by omega)
        refine ⟨he2.below hbl, _, ha2.below hbl hs hr, ?_, fun _ h => nomatch h⟩
        split
        · exact hown
        · next hp =>
          refine ⟨rfl, hown, ?_⟩
          exact (hbl.st (show m + 1 < n + 1 by omega)).trans (hhot hp)
      · obtain rfl : m = n := by omega
        rw [chainD_last] at hst
        rw [invokeMirror_outcome o hst hpend]
        obtain ⟨hb, hs, hr, _, hoth, h1, h2, h3⟩ := deliver_last (t := m + 1 + m) (by omega) hpend hcbs
          (ho.fresh _ (Nat.le_refl _)) ho.levels hst
        refine ⟨he.below hb, .gone, ha.below hb hs hr, ⟨fun i hi => ?_, h1, h2, h3⟩, fun _ h => nomatch h⟩
        obtain ⟨e1, e2⟩ := hoth (m + 1 + i) (Nat.ne_of_lt (by omega))
        simp only [State.st]; rw [e1, e2]; exact ho.below i hi

theorem mirror_start {n o s} (h : Pre .aio (n + 1) (chainD n o) s) (fuel : Nat) :
    (plumToKiwi s 0).2 = n + 1 ∧ (mirrorMachine n o).Inv (runStack fuel (plumToKiwi s 0).1) := by
  obtain ⟨he, ha⟩ := h.env (mcb n)
  obtain ⟨hid, he', ha', hhot, hnext, hnew, _, hcnt, _⟩ := mirror_open (j := 0) (Nat.zero_le n) he ha h.next
  have hown : MOwn n o 0 (plumToKiwi s 0).1 :=
    ⟨Nat.zero_le n, hnext, fun i hi => absurd hi (Nat.not_lt_zero i), fun i hi => absurd hi (Nat.not_lt_zero i), hnew,
      fun f hf' => (hcnt f hf').trans (List.count_eq_zero.mpr (h.sets f hf'))⟩
  refine ⟨hid, (mirrorMachine n o).settle (Nat.zero_le _) he' ha' ?_⟩
  split
  · exact hown
  · next hp => exact ⟨rfl, hown, hhot hp⟩

theorem Outcome.toSt_ne_ref (o : Outcome) (g : FId) : o.toSt ≠ .result (.ref g) := by cases o <;> simp [Outcome.toSt]

theorem deref_chain (s : State) (b : Nat) : ∀ (m fuel : Nat), m < fuel →
    (∀ i, i < m → s.st (b + i) = .result (.ref (b + i + 1))) →
    (∀ g, s.st (b + m) ≠ .result (.ref g)) → deref s fuel b = s.st (b + m) := by
  intro m
  induction m generalizing b with
  | zero =>
    intro fuel hf _ hlast
    obtain ⟨fuel, rfl⟩ : ∃ k, fuel = k + 1 := ⟨fuel - 1, by omega⟩
    simp only [deref, Nat.add_zero] at *
  | succ m ih =>
    intro fuel hf hch hlast
    obtain ⟨fuel, rfl⟩ : ∃ k, fuel = k + 1 := ⟨fuel - 1, by omega⟩
    have h0 := hch 0 (Nat.succ_pos m)
    rw [Nat.add_zero] at h0
    have e : ∀ i, b + 1 + i = b + (i + 1) := fun i => by omega
    simp only [deref, h0]
    rw [ih (b + 1) fuel (by omega) (fun i hi => by rw [e i]; exact hch (i + 1) (by omega))
      (fun g => by rw [e m]; exact hlast g), e m]

/-- what `C20_mirror_faithful` says of the mirrors below the frontier `m`, and what following them from mirror `0` yields -/
theorem mirror_chain {n m : Nat} {o : Outcome} {s : State} (hm : m ≤ n)
    (hb : ∀ i, i < m → s.st (n + 1 + i) = .result (.ref (n + 2 + i)) ∧ s.sets.count (n + 1 + i) = 1)
    (hl : ∀ i, i < m → s.st i = chainD n o i) :
    (∀ i, i < m → s.st i = .result (.ref (i + 1)) ∧ s.st (n + 1 + i) = .result (.ref (n + 1 + i + 1)) ∧
      s.sets.count (n + 1 + i) = 1) ∧
    ((∀ g, s.st (n + 1 + m) ≠ .result (.ref g)) → deref s (n + 1) (n + 1) = s.st (n + 1 + m)) := by
  have e : ∀ i, n + 2 + i = n + 1 + i + 1 := fun i => by omega
  have hbelow : ∀ i, i < m → s.st i = .result (.ref (i + 1)) ∧ s.st (n + 1 + i) = .result (.ref (n + 1 + i + 1)) ∧
      s.sets.count (n + 1 + i) = 1 := fun i hi =>
    ⟨by rw [hl i hi, chainD_lt (by omega)], by rw [(hb i hi).1, e], (hb i hi).2⟩
  exact ⟨hbelow, deref_chain s (n + 1) m (n + 1) (by omega) fun i hi => (hbelow i hi).2.1⟩

end Futures
