import PlumpyModel.Futures.Proof
/-!
# `CancellableAction`: any history of `run()` and `cancel()` calls on one action
-/
namespace Futures

inductive AEv where
  | run
  | cancel
deriving Repr, DecidableEq

def actStep (a : FId) (s : State) : AEv → State
  | .run => (runAction s a).1
  | .cancel => cancelFut s a

def actRun (a : FId) (s : State) (evs : List AEv) : State := evs.foldl (actStep a) s

/-- the three situations of an action created with function `fn` -/
inductive AInv (fn : ActFn) (a : FId) (s : State) : Prop where
  | fresh (h1 : s.st a = .pending) (h2 : s.acts a = some { fn := some fn, calls := 0 })
  | consumed (h1 : s.st a = .pending) (h2 : s.acts a = some { fn := none, calls := 1 })   -- the function raised a BaseException
  | done (c : Nat) (f : Option ActFn) (h1 : s.st a ≠ .pending) (h2 : s.acts a = some { fn := f, calls := c }) (h3 : c ≤ 1)

theorem setOutcome_acts (s : State) (f : Nat) (o : St) : (setOutcome s f o).1.acts = s.acts := by
  obtain ⟨_, _, _, e, _⟩ := setOutcome_shape s f o
  rw [e]

theorem setOutcome_errs (s : State) (f : Nat) (o : St) : (setOutcome s f o).1.errs = s.errs := by
  obtain ⟨_, _, _, e, _⟩ := setOutcome_shape s f o
  rw [e]

theorem cancelFut_acts (s : State) (f : Nat) : (cancelFut s f).acts = s.acts := by
  rw [cancelFut_eq]; exact setOutcome_acts ..

theorem cancelFut_errs (s : State) (f : Nat) : (cancelFut s f).errs = s.errs := by
  rw [cancelFut_eq]; exact setOutcome_errs ..

theorem setOutcome_st_self (s : State) (f : Nat) (o : St) (ho : o ≠ .pending) : (setOutcome s f o).1.st f ≠ .pending := by
  rw [setOutcome_st]
  split
  · exact ho
  · assumption

theorem setOutcome_pending (s : State) (f : Nat) (o : St) (hp : s.st f = .pending) :
    (setOutcome s f o).2 = true ∧ (setOutcome s f o).1.st f = o :=
  ⟨setOutcome_ok hp o, by rw [setOutcome_st, if_pos hp]⟩

theorem cancelFut_st_self (s : State) (f : Nat) : (cancelFut s f).st f ≠ .pending := by
  rw [cancelFut_eq]; exact setOutcome_st_self s f _ (by simp)

theorem cancelFut_pending (s : State) (f : Nat) (hp : s.st f = .pending) : (cancelFut s f).st f = .cancelled := by
  rw [cancelFut_eq]; exact (setOutcome_pending s f _ hp).2

theorem newAction_inv (s : State) (fn : ActFn) : AInv fn (newAction s fn).2 (newAction s fn).1 := by
  refine .fresh ?_ ?_ <;> simp [newAction, alloc, State.setAct, State.st]

theorem done_of_ne_pending {st : St} (h : st ≠ .pending) : st.done = true := by
  cases st <;> simp_all [St.done]

/-- `run()` on an action that is done or cancelled raises `InvalidStateError` and changes nothing -/
theorem runAction_refuses (s : State) (a : Nat) (act : Act) (h : s.acts a = some act) (hd : s.st a ≠ .pending) :
    runAction s a = (s, some .actionInvalid) := by
  simp [runAction, h, done_of_ne_pending hd]

/-- the `try / except / else` block on a pending action: the outcome is stored in the action -/
theorem actFinish_pending (s : State) (a : Nat) (c : Call) (hp : s.st a = .pending) :
    match c with
    | .ret v => (actFinish s a c).2 = none ∧ (actFinish s a c).1.st a = .result v ∧
        (actFinish s a c).1.acts = s.acts ∧ (actFinish s a c).1.errs = s.errs
    | .raise e =>
        (e.isException = true → (actFinish s a c).2 = none ∧ (actFinish s a c).1.st a = .exc e ∧
          (actFinish s a c).1.acts = s.acts ∧ (actFinish s a c).1.errs = s.errs) ∧
        (e.isException = false → actFinish s a c = (s, some e)) := by
  have hnd : (s.st a).done = false := by simp [St.done, hp]
  cases c with
  | ret v =>
    simp only [actFinish, hnd, Bool.false_eq_true, if_false]
    exact ⟨trivial, (setOutcome_pending s a _ hp).2, setOutcome_acts .., setOutcome_errs ..⟩
  | raise e =>
    refine ⟨fun he => ?_, fun he => ?_⟩
    · simp only [actFinish, he, if_true, hnd, Bool.false_eq_true, if_false]
      exact ⟨trivial, (setOutcome_pending s a _ hp).2, setOutcome_acts .., setOutcome_errs ..⟩
    · simp [actFinish, he]

/-- the same block on an action that got cancelled while its function ran: nothing is stored, an `Exception` is logged and does
not propagate (only a `BaseException` does) -/
theorem actFinish_done (s : State) (a : Nat) (c : Call) (hd : s.st a ≠ .pending) :
    (actFinish s a c).1 = s ∧
    (actFinish s a c).2 = match c with | .ret _ => none | .raise e => if e.isException then none else some e := by
  have hdn := done_of_ne_pending hd
  cases c with
  | ret v => simp [actFinish, hdn]
  | raise e => by_cases he : e.isException = true <;> simp [actFinish, hdn, he]

theorem run_fresh {fn : ActFn} {a : Nat} {s : State} (h1 : s.st a = .pending)
    (h2 : s.acts a = some { fn := some fn, calls := 0 }) :
    (runAction s a).1.acts a = some { fn := none, calls := 1 } ∧ (runAction s a).1.errs = s.errs ∧
    (fn.cancels = false →
      match fn.out with
      | .ret v => (runAction s a).2 = none ∧ (runAction s a).1.st a = .result v
      | .raise e => (e.isException = true → (runAction s a).2 = none ∧ (runAction s a).1.st a = .exc e) ∧
                    (e.isException = false → (runAction s a).2 = some e ∧ (runAction s a).1.st a = .pending)) ∧
    (fn.cancels = true → (runAction s a).1.st a = .cancelled ∧
      (runAction s a).2 = match fn.out with | .ret _ => none | .raise e => if e.isException then none else some e) := by
  have hnd : (s.st a).done = false := by simp [St.done, h1]
  have hst : (s.setAct a (some { fn := none, calls := 0 + 1 })).st a = .pending := by simpa [State.setAct, State.st] using h1
  have hact : (s.setAct a (some { fn := none, calls := 0 + 1 })).acts a = some { fn := none, calls := 1 } := by simp [State.setAct]
  have herr : (s.setAct a (some { fn := none, calls := 0 + 1 })).errs = s.errs := by simp [State.setAct]
  simp only [runAction, h2, hnd, Bool.false_eq_true, if_false]
  by_cases hc : fn.cancels = true
  · simp only [hc, if_true]
    have hd := cancelFut_st_self (s.setAct a (some { fn := none, calls := 0 + 1 })) a
    have hcs := cancelFut_pending _ a hst
    have := actFinish_done _ a fn.out hd
    rw [this.1, this.2]
    refine ⟨by rw [cancelFut_acts]; exact hact, by rw [cancelFut_errs]; exact herr, fun h => by simp at h, fun _ => ⟨hcs, rfl⟩⟩
  · have hc' : fn.cancels = false := by simpa using hc
    simp only [hc', Bool.false_eq_true, if_false]
    have hp := actFinish_pending _ a fn.out hst
    cases hout : fn.out with
    | ret v =>
      rw [hout] at hp; simp only at hp
      exact ⟨by rw [hp.2.2.1]; exact hact, by rw [hp.2.2.2]; exact herr, fun _ => ⟨hp.1, hp.2.1⟩, fun h => by simp at h⟩
    | raise e =>
      rw [hout] at hp; simp only at hp
      by_cases he : e.isException = true
      · have hp1 := hp.1 he
        refine ⟨by rw [hp1.2.2.1]; exact hact, by rw [hp1.2.2.2]; exact herr,
          fun _ => ⟨fun _ => ⟨hp1.1, hp1.2.1⟩, fun h => by rw [he] at h; simp at h⟩, fun h => by simp at h⟩
      · have he' : e.isException = false := by simpa using he
        have hp2 := hp.2 he'
        rw [hp2]
        refine ⟨hact, herr, fun _ => ⟨fun h => by rw [he'] at h; simp at h, fun _ => ⟨rfl, hst⟩⟩, fun h => by simp at h⟩

/-- after the first `run()` the action is done, or (the function raised a `BaseException`) still pending with the exception
propagating to the caller -/
theorem run_fresh_settles {fn : ActFn} {a : Nat} {s : State} (h1 : s.st a = .pending)
    (h2 : s.acts a = some { fn := some fn, calls := 0 }) :
    (runAction s a).1.st a ≠ .pending ∨ ((runAction s a).1.st a = .pending ∧ ∃ e, (runAction s a).2 = some e) := by
  obtain ⟨_, _, hnc, hcc⟩ := run_fresh h1 h2
  cases hc : fn.cancels with
  | true => exact .inl (by rw [(hcc hc).1]; simp)
  | false =>
    have hnc := hnc hc
    cases hout : fn.out with
    | ret v => rw [hout] at hnc; exact .inl (by rw [hnc.2]; simp)
    | raise e =>
      rw [hout] at hnc
      cases he : e.isException with
      | true => exact .inl (by rw [(hnc.1 he).2]; simp)
      | false => exact .inr ⟨(hnc.2 he).2, e, (hnc.2 he).1⟩

/-- `run()` on an action whose function is gone and that is still pending (the function raised a `BaseException`): the call
of `None` raises `TypeError`, which is stored as the action's exception -/
theorem run_consumed {a : Nat} {s : State} (h1 : s.st a = .pending) (h2 : s.acts a = some { fn := none, calls := 1 }) :
    (runAction s a).1.st a = .exc .notCallable ∧ (runAction s a).1.acts = s.acts := by
  have hnd : (s.st a).done = false := by simp [St.done, h1]
  simp only [runAction, h2, hnd, Bool.false_eq_true, if_false]
  have hp := (actFinish_pending s a (.raise .notCallable) h1).1 rfl
  exact ⟨hp.2.1, hp.2.2.1⟩

theorem actStep_inv {fn : ActFn} {a : Nat} {s : State} (h : AInv fn a s) (ev : AEv) : AInv fn a (actStep a s ev) := by
  cases ev with
  | cancel =>
    simp only [actStep]
    cases h with
    | fresh h1 h2 => exact .done 0 _ (cancelFut_st_self s a) (by rw [cancelFut_acts]; exact h2) (by omega)
    | consumed h1 h2 => exact .done 1 _ (cancelFut_st_self s a) (by rw [cancelFut_acts]; exact h2) (by omega)
    | done c f h1 h2 h3 => exact .done c f (cancelFut_st_self s a) (by rw [cancelFut_acts]; exact h2) h3
  | run =>
    simp only [actStep]
    cases h with
    | done c f h1 h2 h3 => rw [runAction_refuses s a _ h2 h1]; exact .done c f h1 h2 h3
    | consumed h1 h2 =>
      obtain ⟨hst, hacts⟩ := run_consumed h1 h2
      exact .done 1 none (by rw [hst]; simp) (by rw [hacts]; exact h2) (by omega)
    | fresh h1 h2 =>
      have hacts := (run_fresh h1 h2).1
      rcases run_fresh_settles h1 h2 with hd | ⟨hp, _⟩
      · exact .done 1 none hd hacts (by omega)
      · exact .consumed hp hacts

theorem actRun_inv {fn : ActFn} {a : Nat} (evs : List AEv) : ∀ s, AInv fn a s → AInv fn a (actRun a s evs) := by
  induction evs with
  | nil => intro s h; exact h
  | cons ev evs ih => intro s h; exact ih _ (actStep_inv h ev)

theorem AInv.calls_le {fn a s} (h : AInv fn a s) : ∃ act, s.acts a = some act ∧ act.calls ≤ 1 := by
  cases h with
  | fresh h1 h2 => exact ⟨_, h2, by simp⟩
  | consumed h1 h2 => exact ⟨_, h2, by simp⟩
  | done c f h1 h2 h3 => exact ⟨_, h2, h3⟩

theorem run_none_done {fn : ActFn} {a : Nat} {s : State} (h : AInv fn a s) (hn : (runAction s a).2 = none) :
    (runAction s a).1.st a ≠ .pending := by
  cases h with
  | done c f h1 h2 h3 => rw [runAction_refuses s a _ h2 h1] at hn; simp at hn
  | consumed h1 h2 => rw [(run_consumed h1 h2).1]; simp
  | fresh h1 h2 =>
    rcases run_fresh_settles h1 h2 with hd | ⟨_, e, he⟩
    · exact hd
    · rw [he] at hn; cases hn

end Futures
