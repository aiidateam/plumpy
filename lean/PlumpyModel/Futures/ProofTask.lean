import PlumpyModel.Futures.Machine
/-!
# `create_task`: a coroutine awaiting loop futures `0..N-1` that the environment completes in any order

The future returned by `create_task` is `N`, the helper task (`run_task`) is task `0`, its wake-up the callback.
-/
namespace Futures

/-- what `run_task` does with an exception raised by the coroutine: `Exception`s are captured, `CancelledError` cancels
the returned future, any other `BaseException` kills the helper task (the future stays pending) -/
def raiseSt (e : Exc) : St :=
  if e = .cancelledError then .cancelled else if e.isException then .exc e else .pending

/-- reference semantics: the outcome of the coroutine given the states `st` of the futures it awaits
(`pending`: it is blocked on a future that is not complete) -/
def taskRef (st : FId → St) : Coro → St
  | .ret v => .result v
  | .raise e => raiseSt e
  | .await f k =>
    match st f with
    | .pending => .pending
    | .result _ => taskRef st k
    | .exc e => raiseSt e
    | .cancelled => .cancelled
  | .retAwait f =>
    match st f with
    | .pending => .pending
    | .result v => .result v
    | .exc e => raiseSt e
    | .cancelled => .cancelled

/-- every awaited future is one of the environment's futures `0..N-1` -/
def Coro.wf (N : Nat) : Coro → Prop
  | .ret _ => True
  | .raise _ => True
  | .await f k => f < N ∧ k.wf N
  | .retAwait f => f < N

/-- the coroutine got from `c` to `k` through awaits of futures that are done with a result -/
inductive Passed (st : FId → St) : Coro → Coro → Prop where
  | refl (c : Coro) : Passed st c c
  | step {f v k k'} (h : st f = .result v) (p : Passed st k k') : Passed st (.await f k) k'

theorem Passed.taskRef_eq {st c k} (p : Passed st c k) : taskRef st c = taskRef st k := by
  induction p with
  | refl => rfl
  | step h _ ih => simp [taskRef, h, ih]

theorem Passed.trans {st a b c} (p : Passed st a b) (q : Passed st b c) : Passed st a c := by
  induction p with
  | refl => exact q
  | step h _ ih => exact .step h (ih q)

theorem Passed.wf {st c k N} (p : Passed st c k) (h : c.wf N) : k.wf N := by
  induction p with
  | refl => exact h
  | step _ _ ih => exact ih h.2

theorem Passed.mono {st st' : FId → St} {c k N} (p : Passed st c k) (hw : c.wf N)
    (hm : ∀ f, f < N → st f ≠ .pending → st' f = st f) : Passed st' c k := by
  induction p with
  | refl => exact .refl _
  | step h _ ih => exact .step (by rw [hm _ hw.1 (by rw [h]; simp), h]) (ih hw.2)

def Coro.awaiting (f : FId) : Coro → Prop
  | .await g _ => g = f
  | .retAwait g => g = f
  | _ => False

/-- the evaluation of `c` under `st` does not block on a pending future -/
def taskDet (st : FId → St) : Coro → Prop
  | .ret _ => True
  | .raise _ => True
  | .await f k =>
    match st f with
    | .pending => False
    | .result _ => taskDet st k
    | _ => True
  | .retAwait f => st f ≠ .pending

theorem runCoro_spec (h : FId → Cell) (N : Nat) (hk : ∀ f, f < N → (h f).kind = .aio) : ∀ (c : Coro), c.wf N →
    match runCoro h c with
    | .suspend f k => Passed (fun x => (h x).st) c k ∧ k.awaiting f ∧ (h f).st = .pending ∧ f < N
    | .returned v => taskRef (fun x => (h x).st) c = .result v ∧ taskDet (fun x => (h x).st) c
    | .raised e => taskRef (fun x => (h x).st) c = raiseSt e ∧ taskDet (fun x => (h x).st) c := by
  intro c
  induction c with
  | ret v => intro _; exact ⟨rfl, trivial⟩
  | raise e => intro _; exact ⟨rfl, trivial⟩
  | retAwait f =>
    intro hw
    simp only [runCoro, awaitOn, hk f hw, taskRef, taskDet]
    cases hs : (h f).st with
    | pending => exact ⟨.refl _, rfl, hs, hw⟩
    | result v => simp
    | exc e => simp
    | cancelled => simp [raiseSt]
  | await f k ih =>
    intro hw
    simp only [runCoro, awaitOn, hk f hw.1, taskRef, taskDet]
    cases hs : (h f).st with
    | pending => exact ⟨.refl _, rfl, hs, hw.1⟩
    | result v =>
      have := ih hw.2
      cases hr : runCoro h k with
      | suspend g k' => rw [hr] at this; exact ⟨.step hs this.1, this.2⟩
      | returned v' => rw [hr] at this; exact this
      | raised e => rw [hr] at this; exact this
    | exc e => simp
    | cancelled => simp [raiseSt]

theorem taskRef_stable {st st' : FId → St} {N : Nat} (hm : ∀ f, f < N → st f ≠ .pending → st' f = st f) :
    ∀ c : Coro, c.wf N → taskDet st c → taskRef st' c = taskRef st c ∧ taskDet st' c := by
  intro c
  induction c with
  | ret v => intro _ _; simp [taskRef, taskDet]
  | raise e => intro _ _; simp [taskRef, taskDet]
  | retAwait f =>
    intro hw hd
    simp only [taskDet] at hd
    have := hm f hw hd
    simp only [taskRef, taskDet, this]
    exact ⟨trivial, hd⟩
  | await f k ih =>
    intro hw hd
    simp only [taskDet] at hd
    cases hs : st f with
    | pending => simp [hs] at hd
    | result v =>
      have := hm f hw.1 (by rw [hs]; simp)
      simp only [hs] at hd
      simp only [taskRef, taskDet, this, hs]
      exact ih hw.2 hd
    | exc e =>
      have := hm f hw.1 (by rw [hs]; simp)
      simp [taskRef, taskDet, this, hs]
    | cancelled =>
      have := hm f hw.1 (by rw [hs]; simp)
      simp [taskRef, taskDet, this, hs]

theorem Passed.det {st c k} (p : Passed st c k) (h : taskDet st k) : taskDet st c := by
  induction p with
  | refl => exact h
  | step hs _ ih => simp only [taskDet, hs]; exact ih h

/-- the helper task has not delivered yet; the coroutine stands at `k` -/
structure TLive (N : Nat) (c0 k : Coro) (s : State) : Prop where
  task : s.tasks 0 = .coro N k
  passed : Passed s.st c0 k
  fpend : s.st N = .pending
  unset : N ∉ s.sets

theorem advanceCoro_suspend {s : State} {t fut : Nat} {c : Coro} {f k} (h : runCoro s.heap c = .suspend f k) :
    advanceCoro s t fut c = addDone (s.setTask t (.coro fut k)) f (.wake t) := by unfold advanceCoro; rw [h]

theorem advanceCoro_returned {s : State} {t fut : Nat} {c : Coro} {v} (h : runCoro s.heap c = .returned v) :
    advanceCoro s t fut c = taskSetResult s t fut v := by unfold advanceCoro; rw [h]

theorem advanceCoro_cancelled {s : State} {t fut : Nat} {c : Coro} (h : runCoro s.heap c = .raised .cancelledError) :
    advanceCoro s t fut c = (cancelFut s fut).setTask t (.finished none) := by unfold advanceCoro; rw [h]

theorem advanceCoro_raised {s : State} {t fut : Nat} {c : Coro} {e} (h : runCoro s.heap c = .raised e)
    (he : e ≠ .cancelledError) : advanceCoro s t fut c = taskSetExc s t fut e := by
  unfold advanceCoro; rw [h]; cases e <;> simp_all

theorem taskRef_awaiting {st : FId → St} {k : Coro} {f : Nat} (ha : k.awaiting f) (hp : st f = .pending) :
    taskRef st k = .pending := by
  cases k with
  | ret v => exact absurd ha (by simp [Coro.awaiting])
  | raise e => exact absurd ha (by simp [Coro.awaiting])
  | await g k => simp only [Coro.awaiting] at ha; subst ha; simp [taskRef, hp]
  | retAwait g => simp only [Coro.awaiting] at ha; subst ha; simp [taskRef, hp]

/-- `run_task` is alive: at the coroutine's first step, or at an `await` of the future its wake-up is registered on or
queued for; or it is over, and the returned future holds the reference outcome, which is determined -/
def TPriv (N : Nat) (c0 : Coro) : Pos → State → Prop
  | .hot (.start t) => fun s => t = 0 ∧ Own .aio N s ∧ TLive N c0 c0 s
  | .hot (.call c _) => fun s => c = .wake 0 ∧ Own .aio N s ∧ ∃ k, TLive N c0 k s
  | .wait f => fun s => Own .aio N s ∧ ∃ k, TLive N c0 k s ∧ k.awaiting f
  | .gone => fun s => (∃ x, s.tasks 0 = .finished x) ∧ taskDet s.st c0 ∧ s.st N = taskRef s.st c0 ∧
      (s.st N = .pending → s.sets.count N = 0) ∧ (s.st N ≠ .pending → s.sets.count N = 1)

theorem TLive.frame {N c0 k s s'} (hw0 : c0.wf N) (h : TLive N c0 k s) (hf : Frame N s s') : TLive N c0 k s' :=
  ⟨(congrFun hf.tasks 0).trans h.task, h.passed.mono hw0 hf.done,
    (hf.st (Nat.le_refl _)).trans h.fpend,
    List.count_eq_zero.mp ((hf.sets N (Nat.le_refl _)).trans (List.count_eq_zero.mpr h.unset))⟩

theorem TPriv.frame {N c0 p s s'} (hw0 : c0.wf N) (hf : Frame N s s') (h : TPriv N c0 p s) : TPriv N c0 p s' := by
  cases p with
  | wait f => exact ⟨h.1.frame hf, h.2.imp fun k hk => ⟨hk.1.frame hw0 hf, hk.2⟩⟩
  | hot r =>
    cases r with
    | start t => exact ⟨h.1, h.2.1.frame hf, h.2.2.frame hw0 hf⟩
    | call c f => exact ⟨h.1, h.2.1.frame hf, h.2.2.imp fun k hk => hk.frame hw0 hf⟩
  | gone =>
    -- the outcome is determined: futures completing later do not change it
    obtain ⟨h1, h2, h3, h4, h5⟩ := h
    have hN : s'.st N = s.st N := hf.st (Nat.le_refl _)
    have hst := taskRef_stable (st := s.st) (st' := s'.st) hf.done c0 hw0 h2
    have hc := hf.sets N (Nat.le_refl _)
    exact ⟨h1.imp fun x hx => (congrFun hf.tasks 0).trans hx, hst.2, by rw [hN, hst.1]; exact h3,
      fun hp => hc.trans (h4 (hN ▸ hp)), fun hp => hc.trans (h5 (hN ▸ hp))⟩

/-- `run_task` ends in `s'`, which differs from `s` in its own cell and task only: the returned future holds the outcome
of the reference semantics, which is determined (`pending`: a `BaseException` killed the helper task) -/
theorem task_done {N d c0 k s s'} (hw0 : c0.wf N) (he : Env .aio N d s) (ha : At .aio N (fun _ => .wake 0) s .gone)
    (hl : TLive N c0 k s) (href : taskRef s.st k = s'.st N) (hdet : taskDet s.st k)
    (hb : Below N s s') (hs : s'.stack = s.stack) (hr : s'.ready = s.ready)
    (ht : ∃ x, s'.tasks 0 = .finished x) (hu1 : s'.st N = .pending → s'.sets.count N = 0)
    (hu2 : s'.st N ≠ .pending → s'.sets.count N = 1) :
    Env .aio N d s' ∧ ∃ p, At .aio N (fun _ => .wake 0) s' p ∧ TPriv N c0 p s' ∧ ∀ r, p ≠ .hot r := by
  have hc := taskRef_stable (st := s.st) (st' := s'.st) (fun g hg _ => hb.st hg) c0 hw0
    (hl.passed.det hdet)
  exact ⟨he.below hb, .gone, ha.below hb hs hr,
    ⟨ht, hc.2, (href.symm.trans (hl.passed.taskRef_eq.symm.trans hc.1.symm)), hu1, hu2⟩, fun _ h => nomatch h⟩

theorem advanceCoro_fire {N d c0 k s} (hw0 : c0.wf N) (he : Env .aio N d s) (ha : At .aio N (fun _ => .wake 0) s .gone)
    (ho : Own .aio N s) (hl : TLive N c0 k s) :
    Env .aio N d (advanceCoro s 0 N k) ∧ ∃ p, At .aio N (fun _ => .wake 0) (advanceCoro s 0 N k) p ∧
      TPriv N c0 p (advanceCoro s 0 N k) ∧ ∀ r, p ≠ .hot r := by
  have hspec := runCoro_spec s.heap N he.kind k (hl.passed.wf hw0)
  have done : ∀ {st : St}, st ≠ .pending → taskRef s.st k = st → taskDet s.st k →
      Env .aio N d ((setOutcome s N st).1.setTask 0 (.finished none)) ∧
      ∃ p, At .aio N (fun _ => .wake 0) ((setOutcome s N st).1.setTask 0 (.finished none)) p ∧
        TPriv N c0 p ((setOutcome s N st).1.setTask 0 (.finished none)) ∧ ∀ r, p ≠ .hot r := fun {st} hne href hd => by
    obtain ⟨hbl, hs, hr, hheap, hsets, _, _⟩ := deliver (N := N) (Nat.le_refl _) ho.pend ho.tcbs st
    have hst : ((setOutcome s N st).1.setTask 0 (.finished none)).st N = st := by
      show ((setOutcome s N st).1.heap N).st = st; rw [hheap, upd_self]
    exact task_done hw0 he ha hl (href.trans hst.symm) hd ⟨hbl.heap, hbl.next, hbl.errs, hbl.fuel⟩ hs hr
      ⟨none, by simp [State.setTask]⟩ (fun hp => absurd (hst.symm.trans hp) hne)
      (fun _ => by show (setOutcome s N st).1.sets.count N = 1; rw [hsets, List.count_cons_self, ho.unset])
  cases hrc : runCoro s.heap k with
  | suspend f k2 =>
    rw [hrc] at hspec
    obtain ⟨hp, haw, hpf, hfN⟩ := hspec
    have hb : Below N s (s.setTask 0 (.coro N k2)) := ⟨fun _ _ => rfl, Nat.le_refl _, rfl, rfl⟩
    obtain ⟨he', hf, ha'⟩ := At.addDone (cb := fun _ => .wake 0) (he.below hb) (ha.below hb rfl rfl) hfN
    rw [if_pos (show (s.setTask 0 (.coro N k2)).st f = .pending from hpf)] at ha'
    rw [advanceCoro_suspend hrc]
    exact ⟨he', .wait f, ha', TPriv.frame (p := .wait f) hw0 hf
      ⟨ho.congr rfl rfl rfl, k2, ⟨rfl, hl.passed.trans hp, hl.fpend, hl.unset⟩, haw⟩, fun _ h => nomatch h⟩
  | returned v =>
    rw [hrc] at hspec
    rw [advanceCoro_returned hrc, taskSetResult_ok hl.fpend]
    exact done (by simp) hspec.1 hspec.2
  | raised e =>
    rw [hrc] at hspec
    obtain ⟨hspec, hdet⟩ := hspec
    by_cases hce : e = .cancelledError
    · subst hce
      rw [advanceCoro_cancelled hrc, cancelFut_eq]
      exact done (st := .cancelled) (by simp) hspec hdet
    · by_cases hex : e.isException = true
      · rw [advanceCoro_raised hrc hce, taskSetExc_ok hl.fpend _ hex]
        exact done (st := .exc e) (by simp) (hspec.trans (by rw [raiseSt, if_neg hce, if_pos hex])) hdet
      · -- a `BaseException` ends the helper task; the returned future stays pending, which is the reference outcome
        rw [advanceCoro_raised hrc hce, taskSetExc, if_neg hex]
        exact task_done hw0 he ha hl (hspec.trans ((by rw [raiseSt, if_neg hce, if_neg hex] : raiseSt e = .pending).trans
          hl.fpend.symm)) hdet ⟨fun _ _ => rfl, Nat.le_refl _, rfl, rfl⟩ rfl rfl
          ⟨some e, by simp [State.setTask]⟩ (fun _ => ho.unset) (fun h => absurd hl.fpend h)

def taskMachine (N : Nat) (d : FId → St) (c0 : Coro) (hw0 : c0.wf N) : Machine .aio N d (fun _ => .wake 0) where
  Priv := TPriv N c0
  fuelMin := 0
  μ := fun _ => 0
  bound := 0
  μ_lt := fun h => nomatch h
  frame := TPriv.frame hw0
  wake := fun h _ _ => ⟨rfl, h.1, h.2.imp fun _ hk => hk.1⟩
  fire := fun {s r} src {fuel} _ he ha hp => by
    cases r with
    | start t =>
      obtain ⟨rfl, ho, hl⟩ := hp
      obtain ⟨h1, p, h2, h3, _⟩ := advanceCoro_fire hw0 he ha ho hl
      simp only [exec, advance, hl.task]
      exact ⟨h1, p, h2, h3, fun _ h => nomatch h⟩
    | call c f =>
      obtain ⟨rfl, ho, k, hl⟩ := hp
      obtain ⟨h1, p, h2, h3, _⟩ := advanceCoro_fire hw0 he ha ho hl
      simp only [exec, invoke, advance, hl.task]
      exact ⟨h1, p, h2, h3, fun _ h => nomatch h⟩

theorem task_start {N d s} (c0 : Coro) (hw0 : c0.wf N) (h : Pre .aio N d s) :
    (createTask s c0).2 = N ∧ (taskMachine N d c0 hw0).Inv (createTask s c0).1 := by
  obtain ⟨hid, he, ha, ho, ht⟩ := h.spawn .aio (.coro (alloc s .aio).2 c0) (fun _ => .wake 0) rfl
  exact ⟨hid, he, .hot (.start 0), ha,
    ⟨rfl, ho, by rw [← hid]; exact ht, .refl _, ho.pend, List.count_eq_zero.mp ho.unset⟩, fun h => nomatch h⟩

end Futures
