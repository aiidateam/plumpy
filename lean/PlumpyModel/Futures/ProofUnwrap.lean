import PlumpyModel.Futures.Machine
/-!
# The two adapters that unwrap a chain `0..n` into the concurrent future `n+1`

`unwrap_kiwi_future` (concurrent futures; the callback is its `unwrap` closure, which registers itself on the next level
and is invoked inline) and `Process._schedule_rpc` whose callback returns level 0 (loop futures; `run_callback` is task
`0`, the callback its wake-up, the walk down the levels that are done is the loop inside `rpcLoop`).  Both keep the same
thing while they are at level `j` (`Walk`) and end in the same way (`Walked`).
-/
namespace Futures

/-- the adapter is at level `j`: the levels above it are done, the future `n+1` is untouched -/
structure Walk (n : Nat) (o : Outcome) (j : Nat) (s : State) : Prop where
  own : Own .kiwi (n + 1) s
  hj : j ≤ n
  above : ∀ i, i < j → s.st i = chainD n o i

/-- the innermost outcome is in the future `n+1`, delivered once -/
def Walked (n : Nat) (o : Outcome) (s : State) : Prop :=
  (∀ i, i ≤ n → s.st i = chainD n o i) ∧ s.st (n + 1) = o.toSt ∧ s.sets.count (n + 1) = 1

theorem Walk.frame {n o j s s'} (h : Walk n o j s) (hf : Frame (n + 1) s s') : Walk n o j s' :=
  ⟨h.own.frame hf, h.hj, hf.levels (Nat.le_succ_of_le h.hj) h.above⟩

theorem Walked.frame {n o s s'} (h : Walked n o s) (hf : Frame (n + 1) s s') : Walked n o s' := by
  refine ⟨fun i hi => hf.levels (Nat.le_refl _) (fun i hi => h.1 i (Nat.le_of_lt_succ hi)) i (Nat.lt_succ_of_le hi), ?_,
    (hf.sets _ (Nat.le_refl _)).trans h.2.2⟩
  exact (hf.st (Nat.le_refl _)).trans h.2.1

theorem Walk.next {n o j s} (h : Walk n o j s) (hlt : j < n) (hst : s.st j = .result (.ref (j + 1))) :
    Walk n o (j + 1) s :=
  ⟨h.own, hlt, fun i hi => by
    rcases Nat.lt_or_eq_of_le (Nat.le_of_lt_succ hi) with hi' | rfl
    · exact h.above i hi'
    · rw [hst, chainD_lt hlt]⟩

theorem Walk.last {n o s} (h : Walk n o n s) (hn : s.st n = o.toSt) :
    Below (n + 1) s (setOutcome s (n + 1) o.toSt).1 ∧ (setOutcome s (n + 1) o.toSt).1.stack = s.stack ∧
      (setOutcome s (n + 1) o.toSt).1.ready = s.ready ∧ (setOutcome s (n + 1) o.toSt).1.tasks = s.tasks ∧
      Walked n o (setOutcome s (n + 1) o.toSt).1 := by
  obtain ⟨hb, hs, hr, ht, _, h1, h2, h3⟩ := deliver_last (Nat.le_refl _) h.own.pend h.own.tcbs h.own.unset h.above hn
  exact ⟨hb, hs, hr, ht, h1, h2, h3⟩

/-- the scenario's invariant written out in one piece (`UBase`, `UCursor`: what `Env`, `At` and `Walk` say together) -/
structure UBase (n : Nat) (o : Outcome) (s : State) : Prop where
  next : s.next = n + 2
  errs : s.errs = []
  fuel : s.fuelOut = false
  ready : s.ready = []
  kind : ∀ f, f ≤ n + 1 → (s.heap f).kind = .kiwi
  sts : ∀ i, i ≤ n → s.st i = .pending ∨ s.st i = chainD n o i
  ucbs : (s.heap (n + 1)).cbs = []

/-- the `unwrap` closure sits at level `k`: registered on it while it is pending, about to be invoked once it is done -/
structure UCursor (n : Nat) (o : Outcome) (k : Nat) (s : State) : Prop extends UBase n o s where
  hk : k ≤ n
  upend : s.st (n + 1) = .pending
  unset : (n + 1) ∉ s.sets
  before : ∀ i, i < k → s.st i = chainD n o i
  others : ∀ i, i ≤ n → i ≠ k → (s.heap i).cbs = []
  here : (s.st k = .pending ∧ (s.heap k).cbs = [.unwrap (n + 1)] ∧ s.stack = []) ∨
         (s.st k = chainD n o k ∧ (s.heap k).cbs = [] ∧ s.stack = [(.unwrap (n + 1), k)])

theorem UCursor.waiting {n o k s} (h : UCursor n o k s) (hs : s.stack = []) :
    s.st k = .pending ∧ (s.heap k).cbs = [.unwrap (n + 1)] := by
  rcases h.here with ⟨h1, h2, _⟩ | ⟨_, _, h3⟩
  · exact ⟨h1, h2⟩
  · simp [hs] at h3

theorem invokeUnwrap_outcome {s : State} {src : Src} {u f : FId} (o : Outcome) (hf : s.st f = o.toSt)
    (hu : s.st u = .pending) : invokeUnwrap s src u f = (setOutcome s u o.toSt).1 := by
  cases o <;> simp only [invokeUnwrap, hf, Outcome.toSt]
  · exact captureSetResult_ok hu ..
  · exact captureSetExc_ok hu _ rfl
  · exact cancelFut_eq ..

theorem invokeUnwrap_ref {s : State} {src : Src} {u f g : FId} (hf : s.st f = .result (.ref g))
    (hk : (s.heap g).kind = .kiwi) : invokeUnwrap s src u f = addDone s g (.unwrap u) := by
  simp [invokeUnwrap, hf, hk]

def UPriv (n : Nat) (o : Outcome) : Pos → State → Prop
  | .hot (.start _) => fun _ => False
  | .hot (.call c k) => fun s => c = .unwrap (n + 1) ∧ Walk n o k s ∧ s.st k = chainD n o k
  | .wait k => Walk n o k
  | .gone => Walked n o

def unwrapMachine (n : Nat) (o : Outcome) : Machine .kiwi (n + 1) (chainD n o) (fun _ => .unwrap (n + 1)) where
  Priv := UPriv n o
  fuelMin := 0
  μ := fun r => match r with | .call _ k => n - k | .start _ => 0
  bound := n + 1
  μ_lt := fun _ r => by cases r <;> simp only <;> omega
  frame := fun {p s s'} hf h => by
    cases p with
    | wait k => exact Walk.frame h hf
    | gone => exact Walked.frame h hf
    | hot r =>
      cases r with
      | start t => exact h
      | call c k =>
        refine ⟨h.1, h.2.1.frame hf, ?_⟩
        rw [hf.done k (Nat.lt_succ_of_le h.2.1.hj) (by rw [h.2.2]; exact chainD_ne_pending h.2.1.hj)]; exact h.2.2
  wake := fun h hst _ => ⟨rfl, h, hst⟩
  fire := fun {s r} src {fuel} _ he ha hp => by
    cases r with
    | start t => exact absurd hp id
    | call c k =>
      obtain ⟨k, rfl⟩ : ∃ k' : Nat, k' = k := ⟨k, rfl⟩
      obtain ⟨rfl, hw, hst⟩ := hp
      have hk := hw.hj
      simp only [exec, invoke]
      by_cases hkn : k < n
      · -- the level resolves to the next one: the closure moves there
        rw [chainD_lt hkn] at hst
        rw [invokeUnwrap_ref hst (he.kind (k + 1) (by omega))]
        obtain ⟨he', hf, ha'⟩ := At.addDone he ha (show k + 1 < n + 1 by omega)
        have hw' := (hw.next hkn hst).frame hf
        refine ⟨he', _, ha', ?_, ?_⟩
        · split
          · exact hw'
          · next hp =>
            exact ⟨rfl, hw', (he'.sts (k + 1) (by omega)).resolve_left (by rw [hf.done (k + 1) (by omega) hp]; exact hp)⟩
        · intro r' _ e
          split at e
          · exact nomatch e
          · injection e with e; subst e; show n - (k + 1) < n - k; omega
      · obtain rfl : k = n := by omega
        rw [chainD_last] at hst
        rw [invokeUnwrap_outcome o hst hw.own.pend]
        obtain ⟨hb, hs, hr, _, hd⟩ := hw.last hst
        exact ⟨he.below hb, .gone, ha.below hb hs hr, hd, fun _ _ h => nomatch h⟩

theorem unwrap_start {n o s} (h : Pre .kiwi (n + 1) (chainD n o) s) {fuel : Nat} (hfuel : n + 1 ≤ fuel) :
    (unwrapKiwi s 0).2 = n + 1 ∧ (unwrapMachine n o).Inv (runStack fuel (unwrapKiwi s 0).1) := by
  obtain ⟨he, ha⟩ := h.env (fun _ => .unwrap (n + 1))
  obtain ⟨hb, hid, ho⟩ := Own.alloc h .kiwi
  refine ⟨hid, ?_⟩
  rw [unwrapKiwi, hid]
  obtain ⟨he', hf, ha'⟩ := At.addDone (he.below hb) (ha.below hb rfl rfl) (Nat.succ_pos n)
  have hw : Walk n o 0 (addDone (alloc s .kiwi).1 0 (.unwrap (n + 1))) :=
    Walk.frame ⟨ho, Nat.zero_le n, fun i hi => absurd hi (Nat.not_lt_zero i)⟩ hf
  refine (unwrapMachine n o).settle (by show 0 + (n + 1) ≤ fuel; omega) he' ha' ?_
  split
  · exact hw
  · next hp =>
    exact ⟨rfl, hw, (he'.sts 0 (Nat.succ_pos n)).resolve_left (by rw [hf.done 0 (Nat.succ_pos n) hp]; exact hp)⟩

def RPriv (n : Nat) (o : Outcome) : Pos → State → Prop
  | .hot (.start t) => fun s => t = 0 ∧ Own .kiwi (n + 1) s ∧ s.tasks 0 = .rpcCall (n + 1) (.ret (.ref 0))
  | .hot (.call c j) => fun s => c = .wake 0 ∧ Walk n o j s ∧ s.tasks 0 = .rpcLoop (n + 1) (.ref j)
  | .wait j => fun s => Walk n o j s ∧ s.tasks 0 = .rpcLoop (n + 1) (.ref j)
  | .gone => fun s => Walked n o s ∧ s.tasks 0 = .finished none

theorem RPriv.frame {n o p s s'} (hf : Frame (n + 1) s s') (h : RPriv n o p s) : RPriv n o p s' := by
  have ht := congrFun hf.tasks 0
  cases p with
  | wait j => exact ⟨h.1.frame hf, ht.trans h.2⟩
  | gone => exact ⟨h.1.frame hf, ht.trans h.2⟩
  | hot r =>
    cases r with
    | start t => exact ⟨h.1, h.2.1.frame hf, ht.trans h.2.2⟩
    | call c j => exact ⟨h.1, h.2.1.frame hf, ht.trans h.2.2⟩

theorem rpcLoop_outcome {s : State} {t : TId} {kf g : FId} (o : Outcome) (hk : (s.heap g).kind = .aio)
    (hg : s.st g = o.toSt) (hp : s.st kf = .pending) (fuel : Nat) :
    rpcLoop s t kf (fuel + 2) (.ref g) = (setOutcome s kf o.toSt).1.setTask t (.finished none) := by
  cases o <;> simp only [rpcLoop, hk, if_true, hg, Outcome.toSt]
  · exact taskSetResult_ok hp ..
  · exact taskSetExc_ok hp _ rfl
  · rw [cancelFut_eq]

/-- the unwrapping loop of `run_callback`, entered at level `j` with nothing registered or queued -/
theorem rpcLoop_spec {n o} : ∀ (m j : Nat) (s : State), n - j < m → Env .aio (n + 1) (chainD n o) s →
    At .aio (n + 1) (fun _ => .wake 0) s .gone → Walk n o j s → ∀ fuel, m + 1 ≤ fuel →
    Env .aio (n + 1) (chainD n o) (rpcLoop s 0 (n + 1) fuel (.ref j)) ∧
      ∃ p, At .aio (n + 1) (fun _ => .wake 0) (rpcLoop s 0 (n + 1) fuel (.ref j)) p ∧
        RPriv n o p (rpcLoop s 0 (n + 1) fuel (.ref j)) ∧ ∀ r, p ≠ .hot r := by
  intro m
  induction m with
  | zero => intro j s hm; exact absurd hm (Nat.not_lt_zero _)
  | succ m ih =>
    intro j s hm he ha hw fuel hfuel
    obtain ⟨fuel, rfl⟩ : ∃ k, fuel = k + 2 := ⟨fuel - 2, by omega⟩
    have hj := hw.hj
    have hjn : j < n + 1 := Nat.lt_succ_of_le hj
    by_cases hs : s.st j = .pending
    · -- suspend on level `j`
      have e : rpcLoop s 0 (n + 1) (fuel + 2) (.ref j) = addDone (s.setTask 0 (.rpcLoop (n + 1) (.ref j))) j (.wake 0) := by
        simp only [rpcLoop, he.kind j hjn, if_true, hs]
      have hb : Below (n + 1) s (s.setTask 0 (.rpcLoop (n + 1) (.ref j))) := ⟨fun _ _ => rfl, Nat.le_refl _, rfl, rfl⟩
      obtain ⟨he', hf, ha'⟩ := At.addDone (he.below hb) (ha.below hb rfl rfl) hjn
      rw [if_pos (show (s.setTask 0 (.rpcLoop (n + 1) (.ref j))).st j = .pending from hs)] at ha'
      rw [e]
      exact ⟨he', .wait j, ha', RPriv.frame (p := .wait j) hf ⟨⟨hw.own.congr rfl rfl rfl, hj, hw.above⟩, rfl⟩, fun _ h => nomatch h⟩
    by_cases hjn' : j = n
    · subst hjn'
      have hn : s.st j = o.toSt := chainD_last ▸ (he.sts j hjn).resolve_left hs
      obtain ⟨hb, hst, hrd, _, hd⟩ := hw.last hn
      rw [rpcLoop_outcome o (he.kind j hjn) hn hw.own.pend]
      have hb' : Below (j + 1) s ((setOutcome s (j + 1) o.toSt).1.setTask 0 (.finished none)) := ⟨hb.heap, hb.next, hb.errs, hb.fuel⟩
      exact ⟨he.below hb', .gone, ha.below hb' hst hrd, ⟨hd, by simp [State.setTask]⟩, fun _ h => nomatch h⟩
    have hlt : j < n := Nat.lt_of_le_of_ne hj hjn'
    have hsj : s.st j = .result (.ref (j + 1)) := chainD_lt hlt ▸ (he.sts j hjn).resolve_left hs
    have hstep : rpcLoop s 0 (n + 1) (fuel + 2) (.ref j) = rpcLoop s 0 (n + 1) (fuel + 1) (.ref (j + 1)) := by
      simp only [rpcLoop, he.kind j hjn, if_true, hsj]
    rw [hstep]
    exact ih (j + 1) s (by omega) he ha (hw.next hlt hsj) (fuel + 1) (by omega)

def rpcMachine (n : Nat) (o : Outcome) : Machine .aio (n + 1) (chainD n o) (fun _ => .wake 0) where
  Priv := RPriv n o
  fuelMin := n + 2
  μ := fun _ => 0
  bound := 0
  μ_lt := fun h => nomatch h
  frame := RPriv.frame
  wake := fun h _ _ => ⟨rfl, h⟩
  fire := fun {s r} src {fuel} hfuel he ha hp => by
    have run : ∀ j, Walk n o j s → _ := fun j hw =>
      rpcLoop_spec (n - j + 1) j s (Nat.lt_succ_self _) he ha hw fuel (by have := hw.hj; omega)
    cases r with
    | start t =>
      obtain ⟨rfl, ho, ht⟩ := hp
      obtain ⟨h1, p, h2, h3, h4⟩ := run 0 ⟨ho, Nat.zero_le n, fun i hi => absurd hi (Nat.not_lt_zero i)⟩
      simp only [exec, advance, ht, advanceRpc]
      exact ⟨h1, p, h2, h3, fun _ h => nomatch h⟩
    | call c j =>
      obtain ⟨rfl, hw, ht⟩ := hp
      obtain ⟨h1, p, h2, h3, h4⟩ := run j hw
      simp only [exec, invoke, advance, ht]
      exact ⟨h1, p, h2, h3, fun _ h => nomatch h⟩

theorem rpc_start {n o s} (h : Pre .aio (n + 1) (chainD n o) s) :
    (scheduleRpc s (.ret (.ref 0))).2 = n + 1 ∧ (rpcMachine n o).Inv (scheduleRpc s (.ret (.ref 0))).1 := by
  obtain ⟨hid, he, ha, ho, ht⟩ := h.spawn .kiwi (.rpcCall (alloc s .kiwi).2 (.ret (.ref 0))) (fun _ => .wake 0) rfl
  exact ⟨hid, he, .hot (.start 0), ha, ⟨rfl, ho, by rw [← hid]; exact ht⟩, fun h => nomatch h⟩

end Futures
