import PlumpyModel.Futures.Model
/-!
# Scenarios and helper lemmas for C20

The environment owns a chain of futures `0 .. n`: level `i < n` resolves to future `i+1`, level `n` (the innermost
computation) ends with a value, an exception or a cancellation.  It completes the levels in any order (`Ev.complete`,
in any order, repeated or spurious completions included: they are rejected by the futures) and runs loop callbacks in
any order (`Ev.tick i`).

The proofs do not unfold the model's operations: what `setOutcome`, `cancelFut`, `complete`, `alloc` and `addDone` do is
stated once, by cases, as equations between states whose heap differs from the old one in one cell (`upd`).
-/
namespace Futures

/-- outcome of the innermost computation -/
inductive Outcome where
  | value (n : Nat)
  | error (n : Nat)
  | cancelled
deriving DecidableEq, Repr

def Outcome.toSt : Outcome → St
  | .value n => .result (.plain n)
  | .error n => .exc (.user n)
  | .cancelled => .cancelled

/-- what each level of the chain `0..n` is completed with -/
def chainD (n : Nat) (o : Outcome) (f : FId) : St :=
  if f < n then .result (.ref (f + 1)) else if f = n then o.toSt else .pending

inductive Ev where
  | complete (f : FId)
  | tick (i : Nat)
deriving Repr

def envStep (d : FId → St) (fuel : Nat) (s : State) : Ev → State
  | .complete f => runStack fuel (complete s f (d f)).1
  | .tick i => tick s fuel i

def envRun (d : FId → St) (fuel : Nat) (s : State) (evs : List Ev) : State := evs.foldl (envStep d fuel) s

def newFutures (k : Kind) : Nat → State → State
  | 0, s => s
  | n+1, s => newFutures k n (alloc s k).1

theorem envRun_append (d fuel s a b) : envRun d fuel s (a ++ b) = envRun d fuel (envRun d fuel s a) b := by
  simp [envRun, List.foldl_append]

theorem envRun_inv {d : FId → St} {fuel : Nat} {I : State → Prop} (h : ∀ s ev, I s → I (envStep d fuel s ev))
    (evs : List Ev) : ∀ s, I s → I (envRun d fuel s evs) := by
  induction evs with
  | nil => intro s hs; exact hs
  | cons ev evs ih => intro s hs; exact ih _ (h s ev hs)

theorem Outcome.toSt_ne_pending (o : Outcome) : o.toSt ≠ .pending := by cases o <;> simp [Outcome.toSt]

theorem chainD_ne_pending {n o f} (h : f ≤ n) : chainD n o f ≠ .pending := by
  unfold chainD
  by_cases hf : f < n
  · simp [hf]
  · have : f = n := by omega
    simp [this, Outcome.toSt_ne_pending]

@[simp] theorem runStack_nil (fuel : Nat) (s : State) (h : s.stack = []) : runStack fuel s = s := by
  cases fuel <;> simp [runStack, h]

def upd (h : FId → Cell) (f : FId) (c : Cell) : FId → Cell := fun x => if x = f then c else h x

theorem upd_self (h : FId → Cell) (f : FId) (c : Cell) : upd h f c f = c := if_pos rfl

theorem upd_other (h : FId → Cell) {f x : FId} (c : Cell) (hx : x ≠ f) : upd h f c x = h x := if_neg hx

theorem upd_same (h : FId → Cell) (f : FId) : upd h f (h f) = h :=
  funext fun x => by unfold upd; split <;> simp [*]

/-- a field that the new cell shares with the old one reads the same everywhere -/
theorem upd_congr {α} (g : Cell → α) {h : FId → Cell} {f : FId} {c : Cell} (hc : g c = g (h f)) (x : FId) :
    g (upd h f c x) = g (h x) := by
  unfold upd; split
  · next hx => rw [hx, hc]
  · rfl

/-! ## What a delivery does

Every delivery is a `setOutcome`: `cancel()` is one with outcome `cancelled`, and so is a completion by the environment.
`setOutcome` itself is described by cases: the future is done (only the ghost log grows), it is pending without
callbacks (only its state changes), or it is pending and hands its callbacks to the stack (kiwi) or the loop (aio). -/

theorem cancelFut_eq (s : State) (f : FId) : cancelFut s f = (setOutcome s f .cancelled).1 := by
  by_cases hp : (s.heap f).st = .pending <;> simp [cancelFut, setOutcome, hp]

theorem complete_eq (s : State) (f : FId) {o : St} (ho : o ≠ .pending) : (complete s f o).1 = (setOutcome s f o).1 := by
  cases o with
  | pending => exact absurd rfl ho
  | cancelled => exact cancelFut_eq s f
  | _ => rfl

theorem setOutcome_ok {s : State} {f : FId} (hp : s.st f = .pending) (o : St) : (setOutcome s f o).2 = true := by
  have hp' : (s.heap f).st = .pending := hp
  simp [setOutcome, hp']

theorem setOutcome_done {s : State} {f : FId} (hp : s.st f ≠ .pending) (o : St) :
    setOutcome s f o = ({ s with sets := f :: s.sets }, false) := if_neg hp

theorem setOutcome_quiet {s : State} {f : FId} (hp : s.st f = .pending) (hc : (s.heap f).cbs = []) (o : St) :
    setOutcome s f o = ({ s with heap := upd s.heap f { s.heap f with st := o }, sets := f :: s.sets }, true) := by
  have hp' : (s.heap f).st = .pending := hp
  cases hk : (s.heap f).kind <;> simp [setOutcome, fire, hp', hk, hc, State.setCell] <;>
    (funext x; by_cases hx : x = f <;> simp [hx, upd])

theorem setOutcome_kiwi {s : State} {f : FId} (hp : s.st f = .pending) (hk : (s.heap f).kind = .kiwi) (o : St) :
    setOutcome s f o = ({ s with
      heap := upd s.heap f { s.heap f with st := o, cbs := [] },
      stack := (s.heap f).cbs.map (fun cb => (cb, f)) ++ s.stack,
      sets := f :: s.sets }, true) := by
  have hp' : (s.heap f).st = .pending := hp
  simp [setOutcome, fire, hp', hk, State.setCell]; funext x; by_cases hx : x = f <;> simp [hx, upd]

theorem setOutcome_aio {s : State} {f : FId} (hp : s.st f = .pending) (hk : (s.heap f).kind = .aio) (o : St) :
    setOutcome s f o = ({ s with
      heap := upd s.heap f { s.heap f with st := o, cbs := [] },
      ready := s.ready ++ (s.heap f).cbs.map (fun cb => Ready.call cb f),
      sets := f :: s.sets }, true) := by
  have hp' : (s.heap f).st = .pending := hp
  simp [setOutcome, fire, hp', hk, State.setCell]; funext x; by_cases hx : x = f <;> simp [hx, upd]

theorem setOutcome_shape (s : State) (f : FId) (o : St) : ∃ c st rd,
    (setOutcome s f o).1 = { s with heap := upd s.heap f c, stack := st, ready := rd, sets := f :: s.sets } ∧
    c.kind = (s.heap f).kind ∧ c.st = if s.st f = .pending then o else s.st f := by
  by_cases hp : s.st f = .pending
  · cases hk : (s.heap f).kind
    · exact ⟨{ s.heap f with st := o, cbs := [] }, _, s.ready, by rw [setOutcome_kiwi hp hk], hk, (if_pos hp).symm⟩
    · exact ⟨{ s.heap f with st := o, cbs := [] }, s.stack, _, by rw [setOutcome_aio hp hk], hk, (if_pos hp).symm⟩
  · exact ⟨s.heap f, s.stack, s.ready, by rw [setOutcome_done hp, upd_same], rfl, (if_neg hp).symm⟩

theorem setOutcome_st (s : State) (f : FId) (o : St) :
    (setOutcome s f o).1.st f = if s.st f = .pending then o else s.st f := by
  obtain ⟨c, _, _, e, _, hc⟩ := setOutcome_shape s f o
  rw [e]; simp only [State.st, upd_self]; exact hc

theorem setOutcome_next (s : State) (f : FId) (o : St) : (setOutcome s f o).1.next = s.next := by
  obtain ⟨c, _, _, e, _⟩ := setOutcome_shape s f o
  rw [e]

theorem alloc_eq (s : State) (k : Kind) :
    alloc s k = ({ s with heap := upd s.heap s.next { kind := k }, next := s.next + 1 }, s.next) := rfl

theorem addDone_pending {s : State} {f : FId} (hp : s.st f = .pending) (cb : Cb) :
    addDone s f cb =
      { s with heap := upd s.heap f { s.heap f with cbs := (s.heap f).cbs ++ [cb] } } :=
  if_pos hp

theorem addDone_done_kiwi {s : State} {f : FId} (hp : s.st f ≠ .pending) (hk : (s.heap f).kind = .kiwi) (cb : Cb) :
    addDone s f cb = { s with stack := (cb, f) :: s.stack } := by
  have hp' : (s.heap f).st ≠ .pending := hp
  simp [addDone, hp', hk]

theorem addDone_done_aio {s : State} {f : FId} (hp : s.st f ≠ .pending) (hk : (s.heap f).kind = .aio) (cb : Cb) :
    addDone s f cb = { s with ready := s.ready ++ [.call cb f] } := by
  have hp' : (s.heap f).st ≠ .pending := hp
  simp [addDone, hp', hk]

def Mono (s s' : State) : Prop :=
  s.next ≤ s'.next ∧ ∀ g, g < s.next → s.st g ≠ .pending → s'.st g = s.st g

theorem Mono.refl (s : State) : Mono s s := ⟨Nat.le_refl _, fun _ _ _ => rfl⟩

theorem Mono.trans {a b c : State} (h1 : Mono a b) (h2 : Mono b c) : Mono a c := by
  refine ⟨Nat.le_trans h1.1 h2.1, fun g hg hp => ?_⟩
  have e1 := h1.2 g hg hp
  have e2 := h2.2 g (Nat.lt_of_lt_of_le hg h1.1) (by rw [e1]; exact hp)
  rw [e2, e1]

theorem mono_setOutcome (s : State) (f : Nat) (o : St) : Mono s (setOutcome s f o).1 := by
  refine ⟨Nat.le_of_eq (setOutcome_next s f o).symm, fun g _ hd => ?_⟩
  obtain ⟨c, _, _, e, _, hc⟩ := setOutcome_shape s f o
  rw [e]; simp only [State.st]
  by_cases hg : g = f
  · subst hg; rw [upd_self, hc, if_neg hd]; rfl
  · rw [upd_other _ _ hg]

theorem mono_cancelFut (s : State) (f : Nat) : Mono s (cancelFut s f) := by
  rw [cancelFut_eq]; exact mono_setOutcome ..

theorem mono_addDone (s : State) (f : Nat) (cb : Cb) : Mono s (addDone s f cb) := by
  by_cases hp : s.st f = .pending
  · rw [addDone_pending hp]; exact ⟨Nat.le_refl _, fun g _ _ => upd_congr Cell.st (by rfl) g⟩
  · cases hk : (s.heap f).kind
    · rw [addDone_done_kiwi hp hk]; exact ⟨Nat.le_refl _, fun _ _ _ => rfl⟩
    · rw [addDone_done_aio hp hk]; exact ⟨Nat.le_refl _, fun _ _ _ => rfl⟩

theorem mono_alloc (s : State) (k : Kind) : Mono s (alloc s k).1 :=
  ⟨Nat.le_succ _, fun _ hg _ => congrArg Cell.st (upd_other s.heap _ (Nat.ne_of_lt hg))⟩

theorem mono_logErr (s : State) (src e) : Mono s (s.logErr src e) := ⟨Nat.le_refl _, fun _ _ _ => rfl⟩
theorem mono_setTask (s : State) (t c) : Mono s (s.setTask t c) := ⟨Nat.le_refl _, fun _ _ _ => rfl⟩

theorem mono_setAct (s : State) (t c) : Mono s (s.setAct t c) := ⟨Nat.le_refl _, fun _ _ _ => rfl⟩

theorem mono_captureSetExc (s : State) (src) (t : Nat) (e) : Mono s (captureSetExc s src t e) := by
  unfold captureSetExc
  split
  · split
    · exact mono_setOutcome ..
    · exact (mono_setOutcome ..).trans (mono_logErr ..)
  · exact mono_logErr ..

theorem mono_captureSetResult (s : State) (src) (t : Nat) (v) : Mono s (captureSetResult s src t v) := by
  unfold captureSetResult
  split
  · exact mono_setOutcome ..
  · exact (mono_setOutcome ..).trans (mono_captureSetExc ..)

theorem mono_plumToKiwi (s : State) (p : Nat) : Mono s (plumToKiwi s p).1 :=
  (mono_alloc ..).trans (mono_addDone ..)

theorem mono_unwrapKiwi (s : State) (f : Nat) : Mono s (unwrapKiwi s f).1 :=
  (mono_alloc ..).trans (mono_addDone ..)

theorem mono_invokeUnwrap (s : State) (src) (u f : Nat) : Mono s (invokeUnwrap s src u f) := by
  unfold invokeUnwrap
  split
  · exact mono_cancelFut ..
  · exact mono_logErr ..
  · exact mono_captureSetExc ..
  · split
    · exact mono_addDone ..
    · exact mono_captureSetResult ..
  · exact mono_captureSetResult ..

theorem mono_invokeMirror (s : State) (src) (k f : Nat) : Mono s (invokeMirror s src k f) := by
  unfold invokeMirror
  split
  · exact mono_cancelFut ..
  · exact mono_logErr ..
  · exact mono_captureSetExc ..
  · split
    · exact (mono_plumToKiwi ..).trans (mono_captureSetResult ..)
    · exact mono_captureSetResult ..
  · exact mono_captureSetResult ..

theorem mono_taskSetExc (s : State) (t target : Nat) (e) : Mono s (taskSetExc s t target e) := by
  unfold taskSetExc
  split
  · exact (mono_setOutcome ..).trans (mono_setTask ..)
  · exact mono_setTask ..

theorem mono_taskSetResult (s : State) (t target : Nat) (v) : Mono s (taskSetResult s t target v) := by
  unfold taskSetResult
  split
  · exact (mono_setOutcome ..).trans (mono_setTask ..)
  · exact (mono_setOutcome ..).trans (mono_taskSetExc ..)

theorem mono_advanceCoro (s : State) (t fut : Nat) (c) : Mono s (advanceCoro s t fut c) := by
  unfold advanceCoro
  split
  · exact (mono_setTask ..).trans (mono_addDone ..)
  · exact mono_taskSetResult ..
  · exact (mono_cancelFut ..).trans (mono_setTask ..)
  · exact mono_taskSetExc ..

theorem mono_rpcLoop (t kf : Nat) : ∀ (fuel : Nat) (s : State) (v : Val), Mono s (rpcLoop s t kf fuel v) := by
  intro fuel
  induction fuel with
  | zero => intro s v; exact ⟨Nat.le_refl _, fun _ _ _ => rfl⟩
  | succ n ih =>
    intro s v
    cases v with
    | plain m => simp only [rpcLoop]; exact mono_taskSetResult ..
    | ref g =>
      simp only [rpcLoop]
      split
      · split
        · exact (mono_setTask ..).trans (mono_addDone ..)
        · exact ih ..
        · exact mono_taskSetExc ..
        · exact (mono_cancelFut ..).trans (mono_setTask ..)
      · exact mono_taskSetResult ..

theorem mono_advanceRpc (s : State) (t kf fuel : Nat) (c) : Mono s (advanceRpc s t kf fuel c) := by
  unfold advanceRpc
  split
  · exact mono_taskSetExc ..
  · exact mono_taskSetExc ..
  · exact mono_rpcLoop ..

theorem mono_advance (s : State) (fuel t : Nat) : Mono s (advance s fuel t) := by
  unfold advance
  split
  · exact mono_advanceCoro ..
  · exact mono_advanceRpc ..
  · exact mono_rpcLoop ..
  · exact Mono.refl _

theorem mono_invoke (s : State) (fuel : Nat) (src cb) (f : Nat) : Mono s (invoke s fuel src cb f) := by
  unfold invoke
  split
  · exact mono_invokeUnwrap ..
  · exact mono_invokeMirror ..
  · exact mono_advance ..

theorem mono_runStack : ∀ (fuel : Nat) (s : State), Mono s (runStack fuel s) := by
  intro fuel
  induction fuel with
  | zero => intro s; unfold runStack; split <;> exact ⟨Nat.le_refl _, fun _ _ _ => rfl⟩
  | succ n ih =>
    intro s
    unfold runStack
    split
    · exact Mono.refl _
    · refine Mono.trans ?_ (ih _)
      refine Mono.trans ?_ (mono_invoke ..)
      exact ⟨Nat.le_refl _, fun _ _ _ => rfl⟩

theorem mono_runReady (s : State) (fuel : Nat) (r) : Mono s (runReady s fuel r) := by
  unfold runReady
  split
  · exact mono_invoke ..
  · exact mono_advance ..

theorem mono_tick (s : State) (fuel i : Nat) : Mono s (tick s fuel i) := by
  unfold tick
  split
  · exact Mono.refl _
  · refine Mono.trans ?_ (mono_runStack ..)
    refine Mono.trans ?_ (mono_runReady ..)
    exact ⟨Nat.le_refl _, fun _ _ _ => rfl⟩

theorem mono_drain (fuel : Nat) : ∀ (n : Nat) (s : State), Mono s (drain fuel n s) := by
  intro n
  induction n with
  | zero => intro s; unfold drain; split <;> exact ⟨Nat.le_refl _, fun _ _ _ => rfl⟩
  | succ n ih =>
    intro s
    unfold drain
    split
    · exact Mono.refl _
    · exact (mono_tick ..).trans (ih _)

theorem mono_complete (s : State) (f : Nat) (o : St) : Mono s (complete s f o).1 := by
  unfold complete
  split
  · exact Mono.refl _
  · exact mono_cancelFut ..
  · exact mono_setOutcome ..

theorem mono_createTask (s : State) (c : Coro) : Mono s (createTask s c).1 :=
  (mono_alloc s .aio).trans ⟨Nat.le_refl _, fun _ _ _ => rfl⟩

theorem mono_scheduleRpc (s : State) (c : Call) : Mono s (scheduleRpc s c).1 :=
  (mono_alloc s .kiwi).trans ⟨Nat.le_refl _, fun _ _ _ => rfl⟩

theorem mono_newAction (s : State) (fn : ActFn) : Mono s (newAction s fn).1 :=
  (mono_alloc s .aio).trans ⟨Nat.le_refl _, fun _ _ _ => rfl⟩

theorem mono_actFinish (s : State) (a : Nat) (c : Call) : Mono s (actFinish s a c).1 := by
  unfold actFinish
  split
  · split
    · exact Mono.refl _
    · exact mono_setOutcome ..
  · split
    · split
      · exact Mono.refl _
      · exact mono_setOutcome ..
    · exact Mono.refl _

theorem mono_runAction (s : State) (a : Nat) : Mono s (runAction s a).1 := by
  unfold runAction
  split
  · exact Mono.refl _
  · split
    · exact Mono.refl _
    · split
      · exact mono_actFinish ..
      · split
        · exact ((mono_setAct ..).trans (mono_cancelFut ..)).trans (mono_actFinish ..)
        · exact (mono_setAct ..).trans (mono_actFinish ..)

theorem mono_envStep (d) (fuel : Nat) (s : State) (ev) : Mono s (envStep d fuel s ev) := by
  cases ev with
  | complete f => exact (mono_complete ..).trans (mono_runStack ..)
  | tick i => exact mono_tick ..

theorem mono_envRun (d) (fuel : Nat) (evs : List Ev) (s : State) : Mono s (envRun d fuel s evs) :=
  envRun_inv (I := Mono s) (fun _ _ h => h.trans (mono_envStep ..)) evs s (Mono.refl s)

theorem chainD_gt {n o} {f : Nat} (h : n < f) : chainD n o f = .pending := by
  have h1 : ¬ f < n := by omega
  have h2 : ¬ f = n := by omega
  simp [chainD, h1, h2]

theorem chainD_lt {n o} {f : Nat} (h : f < n) : chainD n o f = .result (.ref (f + 1)) := by simp [chainD, h]

theorem chainD_last {n o} : chainD n o n = o.toSt := by simp [chainD]

theorem captureSetResult_ok {s : State} {t : FId} (hp : s.st t = .pending) (src : Src) (v : Val) :
    captureSetResult s src t v = (setOutcome s t (.result v)).1 := by
  rw [captureSetResult, setOutcome_ok hp, if_pos rfl]

theorem captureSetExc_ok {s : State} {t : FId} (hp : s.st t = .pending) (src : Src) {e : Exc} (he : e.isException = true) :
    captureSetExc s src t e = (setOutcome s t (.exc e)).1 := by
  rw [captureSetExc, he, setOutcome_ok hp, if_pos rfl, if_pos rfl]

theorem taskSetResult_ok {s : State} {target : FId} (hp : s.st target = .pending) (t : TId) (v : Val) :
    taskSetResult s t target v = (setOutcome s target (.result v)).1.setTask t (.finished none) := by
  rw [taskSetResult, setOutcome_ok hp, if_pos rfl]

theorem taskSetExc_ok {s : State} {target : FId} (hp : s.st target = .pending) (t : TId) {e : Exc}
    (he : e.isException = true) :
    taskSetExc s t target e = (setOutcome s target (.exc e)).1.setTask t (.finished none) := by
  rw [taskSetExc, he, setOutcome_ok hp, if_pos rfl, if_pos rfl]

theorem tick_ready_nil (s : State) (fuel i : Nat) (h : s.ready = []) : tick s fuel i = s := by
  simp [tick, h]
theorem newFutures_spec (k : Kind) : ∀ (m : Nat) (s : State),
    (newFutures k m s).next = s.next + m ∧
    (∀ f : Nat, (newFutures k m s).heap f = if s.next ≤ f ∧ f < s.next + m then { kind := k } else s.heap f) ∧
    (newFutures k m s).stack = s.stack ∧ (newFutures k m s).ready = s.ready ∧ (newFutures k m s).errs = s.errs ∧
    (newFutures k m s).sets = s.sets ∧ (newFutures k m s).fuelOut = s.fuelOut ∧
    (newFutures k m s).tasks = s.tasks ∧ (newFutures k m s).ntasks = s.ntasks ∧ (newFutures k m s).acts = s.acts := by
  intro m
  induction m with
  | zero => intro s; exact ⟨rfl, fun f => (if_neg fun h => Nat.lt_irrefl _ (Nat.lt_of_le_of_lt h.1 h.2)).symm, rfl, rfl, rfl, rfl, rfl, rfl, rfl, rfl⟩
  | succ m ih =>
    intro s
    obtain ⟨h1, h2, h3⟩ := ih (alloc s k).1
    refine ⟨h1.trans (Nat.add_right_comm ..), fun f => ?_, h3⟩
    rw [newFutures, h2]
    show (if s.next + 1 ≤ f ∧ f < s.next + 1 + m then _ else if f = s.next then _ else _) = _
    by_cases hf : f = s.next
    · rw [if_neg (fun h => by omega), if_pos hf, if_pos ⟨by omega, by omega⟩]
    · rw [if_neg hf]
      by_cases hr : s.next + 1 ≤ f ∧ f < s.next + 1 + m
      · rw [if_pos hr, if_pos ⟨by omega, by omega⟩]
      · rw [if_neg hr, if_neg (fun h => hr ⟨by omega, by omega⟩)]

/-- before an adapter is applied: futures `0..N-1` of one kind, some of them completed by the environment with their
designated outcomes `d`, and nothing else -/
structure Pre (kind : Kind) (N : Nat) (d : FId → St) (s : State) : Prop where
  next : s.next = N
  errs : s.errs = []
  fuel : s.fuelOut = false
  ready : s.ready = []
  stack : s.stack = []
  ntasks : s.ntasks = 0
  sets : ∀ f, N ≤ f → f ∉ s.sets
  kind : ∀ f, f < N → (s.heap f).kind = kind
  sts : ∀ f, f < N → s.st f = .pending ∨ s.st f = d f
  cbs : ∀ f, f < N → (s.heap f).cbs = []

theorem pre_init (kind : Kind) (N : Nat) (d : FId → St) : Pre kind N d (newFutures kind N {}) := by
  obtain ⟨h1, h2, h3, h4, h5, h6, h7, _, h9, _⟩ := newFutures_spec kind N {}
  refine ⟨by simpa using h1, by simpa using h5, by simpa using h7, by simpa using h4, by simpa using h3,
    by simpa using h9, ?_, ?_, ?_, ?_⟩
  · intro f _; rw [h6]; simp
  · intro f hf; rw [h2]; simp [hf]
  · intro i hi; left; simp only [State.st]; rw [h2]; split <;> rfl
  · intro f _; rw [h2]; split <;> rfl

theorem done_of_mono {s s' : State} (h : Mono s s') {i : Nat} (hi : i < s.next) (hd : s.st i ≠ .pending) :
    s'.st i ≠ .pending := by rw [h.2 i hi hd]; exact hd

theorem complete_done (s : State) (f : Nat) (o : St) (ho : o ≠ .pending) : (complete s f o).1.st f ≠ .pending := by
  rw [complete_eq _ _ ho, setOutcome_st]
  split
  · exact ho
  · assumption

theorem complete_next (s : State) (f : Nat) (o : St) : (complete s f o).1.next = s.next := by
  by_cases ho : o = .pending
  · rw [ho]; rfl
  · rw [complete_eq _ _ ho, setOutcome_next]

theorem envRun_complete_done (d : FId → St) (fuel : Nat) (i : Nat) (hd : d i ≠ .pending) :
    ∀ (evs : List Ev) (s : State), i < s.next → Ev.complete i ∈ evs → (envRun d fuel s evs).st i ≠ .pending := by
  intro evs
  induction evs with
  | nil => intro s _ h; simp at h
  | cons ev evs ih =>
    intro s hi hmem
    have hstep := mono_envStep d fuel s ev
    have hi' : i < (envStep d fuel s ev).next := Nat.lt_of_lt_of_le hi hstep.1
    rcases List.mem_cons.mp hmem with h | h
    · subst h
      have h1 : (complete s i (d i)).1.st i ≠ .pending := complete_done s i (d i) hd
      have h2 : (envStep d fuel s (.complete i)).st i ≠ .pending :=
        done_of_mono (mono_runStack fuel _) (by rw [complete_next]; exact hi) h1
      exact done_of_mono (mono_envRun d fuel evs _) hi' h2
    · exact ih _ hi' h

/-- a level the environment completes, before or after an adapter is applied (`s2`: the state the adapter leaves), is
complete at the end -/
theorem chain_complete_done {kind : Kind} {n : Nat} {o : Outcome} (fuel : Nat) (pre post : List Ev) {s2 : State}
    (hm : Mono (envRun (chainD n o) fuel (newFutures kind (n + 1) {}) pre) s2) {i : Nat} (hi : i ≤ n)
    (hmem : Ev.complete i ∈ pre ++ post) : (envRun (chainD n o) fuel s2 post).st i ≠ .pending := by
  have hd : chainD n o i ≠ .pending := chainD_ne_pending hi
  have h0 : i < (newFutures kind (n + 1) {}).next := by rw [(pre_init kind (n + 1) (chainD n o)).next]; exact Nat.lt_succ_of_le hi
  have h1 := Nat.lt_of_lt_of_le h0 (mono_envRun (chainD n o) fuel pre _).1
  rcases List.mem_append.mp hmem with h | h
  · exact done_of_mono (hm.trans (mono_envRun _ fuel post _)) h1 (envRun_complete_done _ fuel i hd pre _ h0 h)
  · exact envRun_complete_done _ fuel i hd post _ (Nat.lt_of_lt_of_le h1 hm.1) h

end Futures
