import PlumpyModel.Savable.Model
/-! Helper lemmas for C19: class families (ownership of `_auto_persist` sets) and the save/load round trip. -/
namespace Sav

/-- `Val` is nested through attribute lists: the case of an object gets the hypothesis for every attribute value -/
theorem Val.ind {P : Val → Prop}
    (plain : ∀ p, P (.plain p)) (method : ∀ o n, P (.method o n))
    (obj : ∀ c a, (∀ n v, (n, v) ∈ a → P v) → P (.obj c a))
    (futPending : P .futPending) (futResult : ∀ v, P v → P (.futResult v)) (futExc : ∀ e, P (.futExc e))
    (futCancelled : P .futCancelled) (raw : ∀ s, P (.raw s)) : ∀ v, P v
  | .plain p => plain p
  | .method o n => method o n
  | .obj c a => obj c a (fun _ v _hm =>
      Val.ind plain method obj futPending futResult futExc futCancelled raw v)
  | .futPending => futPending
  | .futResult v => futResult v (Val.ind plain method obj futPending futResult futExc futCancelled raw v)
  | .futExc e => futExc e
  | .futCancelled => futCancelled
  | .raw s => raw s
termination_by v => sizeOf v
decreasing_by
  all_goals simp_wf
  · have := List.sizeOf_lt_of_mem _hm; simp at this; omega

@[simp] theorem lookup_nil {α} (k : Name) : lookup k ([] : List (Name × α)) = none := rfl
theorem lookup_cons {α} (k k' : Name) (v : α) (r : List (Name × α)) :
    lookup k ((k', v) :: r) = if k' = k then some v else lookup k r := rfl

theorem lookup_mem {α} {k : Name} {v : α} {l : List (Name × α)} (h : lookup k l = some v) : (k, v) ∈ l := by
  induction l with
  | nil => simp at h
  | cons x r ih =>
    obtain ⟨k', v'⟩ := x
    rw [lookup_cons] at h
    by_cases hk : k' = k
    · simp [hk] at h; subst hk; subst h; simp
    · simp [hk] at h; exact List.mem_cons_of_mem _ (ih h)

theorem lookupOwn_set_lt (own : List (Option Nat)) (c p : Nat) (x : Option Nat) (h : p < c) :
    lookupOwn (own.set c x) p = lookupOwn own p := by
  induction p with
  | zero => simp only [lookupOwn]; rw [List.getElem?_set_ne (by omega)]
  | succ p ih =>
    simp only [lookupOwn]
    rw [List.getElem?_set_ne (by omega), ih (by omega)]

theorem lookupOwn_set_self (own : List (Option Nat)) (c r : Nat) (h : c < own.length) :
    lookupOwn (own.set c (some r)) c = some r := by
  cases c with
  | zero => simp [lookupOwn, List.getElem?_set_self h]
  | succ c => simp [lookupOwn, List.getElem?_set_self h]

/-- the set object that `cls._auto_persist` evaluates to is the own attribute of the class or of an ancestor -/
theorem lookupOwn_owner {own : List (Option Nat)} {c r : Nat} (h : lookupOwn own c = some r) :
    ∃ c', c' ≤ c ∧ own[c']? = some (some r) := by
  induction c with
  | zero => exact ⟨0, Nat.le_refl _, Option.join_eq_some_iff.1 h⟩
  | succ c ih =>
    simp only [lookupOwn] at h
    split at h
    · rename_i r' hr
      exact ⟨c + 1, Nat.le_refl _, Option.join_eq_some_iff.1 (hr.trans h)⟩
    · obtain ⟨c', h1, h2⟩ := ih h
      exact ⟨c', Nat.le_succ_of_le h1, h2⟩

theorem lookupOwn_inherit {own : List (Option Nat)} {c : Nat} (h : (own[c + 1]?).join = none) :
    lookupOwn own (c + 1) = lookupOwn own c := by
  simp only [lookupOwn, h]

/-- Ownership invariant: every own attribute points into the heap, and no set object is the own attribute of two
classes (every own attribute is created by allocating a fresh set). -/
structure Fam.WF (F : Fam) : Prop where
  bound : ∀ (c r : Nat), F.own[c]? = some (some r) → r < F.sets.length
  inj : ∀ (c c' r : Nat), F.own[c]? = some (some r) → F.own[c']? = some (some r) → c = c'

theorem Fam.WF.ref_bound {F : Fam} (h : F.WF) {c r : Nat} (hr : F.ref c = some r) : r < F.sets.length := by
  obtain ⟨c', _, h2⟩ := lookupOwn_owner hr
  exact h.bound c' r h2

theorem Fam.fresh_wf (n : Nat) : (Fam.fresh n).WF := by
  constructor
  · intro c r h
    simp only [Fam.fresh, List.getElem?_replicate] at h
    split at h <;> simp at h
  · intro c c' r h
    simp only [Fam.fresh, List.getElem?_replicate] at h
    split at h <;> simp at h

theorem Fam.WF.alloc {F : Fam} (h : F.WF) (c : Nat) (s : List Name) :
    Fam.WF { own := F.own.set c (some F.sets.length), sets := F.sets ++ [s] } := by
  -- an own attribute of the new family is the fresh set, held by `c`, or an old one, which points below `F.sets.length`
  have key : ∀ c' r, (F.own.set c (some F.sets.length))[c']? = some (some r) →
      (c' = c ∧ r = F.sets.length) ∨ F.own[c']? = some (some r) := by
    intro c' r h'
    rw [List.getElem?_set] at h'
    split at h'
    · rename_i e
      split at h'
      · cases h'; exact .inl ⟨e.symm, rfl⟩
      · cases h'
    · exact .inr h'
  constructor
  · intro c' r h'
    rw [List.length_append]
    rcases key c' r h' with ⟨_, rfl⟩ | h''
    · exact Nat.lt_succ_self _
    · exact Nat.lt_succ_of_lt (h.bound c' r h'')
  · intro c1 c2 r h1 h2
    rcases key c1 r h1 with ⟨rfl, rfl⟩ | h1' <;> rcases key c2 _ h2 with ⟨rfl, e⟩ | h2'
    · rfl
    · exact absurd (h.bound c2 _ h2') (Nat.lt_irrefl _)
    · exact absurd (h.bound c1 _ h1') (e ▸ Nat.lt_irrefl _)
    · exact h.inj c1 c2 _ h1' h2'

theorem Fam.WF.modify {F : Fam} (h : F.WF) (r : Nat) (f : List Name → List Name) :
    Fam.WF { F with sets := F.sets.modify r f } := by
  constructor
  · intro c r' h'
    simp only [List.length_modify]
    exact h.bound c r' h'
  · exact h.inj

theorem Fam.WF.classmethod {F : Fam} (h : F.WF) (c : Nat) (ms : List Name) : (F.classmethod c ms).WF := by
  unfold Fam.classmethod
  split
  · exact h.alloc c _
  · exact h.modify _ _

theorem Fam.WF.decorate {F : Fam} (h : F.WF) (c : Nat) (ms : List Name) : (F.decorate c ms).WF := by
  unfold Fam.decorate
  exact (h.alloc c _).classmethod c ms

theorem Fam.WF.apply {F : Fam} (h : F.WF) (d : Decl) : (F.apply d).WF := by
  unfold Fam.apply
  cases d.kind
  · exact h.decorate _ _
  · exact h.classmethod _ _

theorem Fam.classmethod_len (F : Fam) (c : Nat) (ms : List Name) : (F.classmethod c ms).own.length = F.own.length := by
  unfold Fam.classmethod; split <;> simp

theorem Fam.decorate_len (F : Fam) (c : Nat) (ms : List Name) : (F.decorate c ms).own.length = F.own.length := by
  unfold Fam.decorate; rw [Fam.classmethod_len]; simp

/-- **the classmethod, when a set is found along the MRO**: only that one set object changes -/
theorem Fam.classmethod_sets_of_ref {F : Fam} {c r : Nat} (ms : List Name) (hr : F.ref c = some r) :
    (F.classmethod c ms).own = F.own ∧ (F.classmethod c ms).sets = F.sets.modify r (insertAll · ms) := by
  unfold Fam.classmethod; simp [hr]

theorem Fam.classmethod_of_none {F : Fam} {c : Nat} (ms : List Name) (hr : F.ref c = none) :
    F.classmethod c ms = { own := F.own.set c (some F.sets.length), sets := F.sets ++ [insertAll [] ms] } := by
  unfold Fam.classmethod; simp [hr]

theorem Fam.eff_alloc_lt {F : Fam} (h : F.WF) (c p : Nat) (s : List Name) (hp : p < c) :
    Fam.eff { own := F.own.set c (some F.sets.length), sets := F.sets ++ [s] } p = F.eff p := by
  unfold Fam.eff Fam.ref
  simp only [lookupOwn_set_lt _ _ _ _ hp]
  cases hr : lookupOwn F.own p with
  | none => rfl
  | some r =>
    have : r < F.sets.length := h.ref_bound hr
    simp [List.getElem?_append_left this]

theorem lookupOwn_of_own {own : List (Option Nat)} {c r : Nat} (h : own[c]? = some (some r)) : lookupOwn own c = some r := by
  cases c with
  | zero => simp [lookupOwn, h]
  | succ c => simp [lookupOwn, h]

/-- the classmethod when `cls._auto_persist` evaluates to the set object `r`: a class whose `_auto_persist`
evaluates to `rp` sees the new members iff `rp` is that very object -/
theorem Fam.eff_classmethod_of_ref {F : Fam} {c r p rp : Nat} (ms : List Name) (hr : F.ref c = some r)
    (hp : F.ref p = some rp) :
    (F.classmethod c ms).eff p = if r = rp then (F.eff p).map (insertAll · ms) else F.eff p := by
  obtain ⟨h1, h2⟩ := Fam.classmethod_sets_of_ref ms hr
  have hp' : (F.classmethod c ms).ref p = some rp := by unfold Fam.ref at *; rw [h1]; exact hp
  unfold Fam.eff
  rw [hp', hp]
  simp only [h2, List.getElem?_modify]
  by_cases hrr : r = rp
  · simp [hrr]
  · simp only [hrr, if_false]
    cases F.sets[rp]? <;> simp

theorem Fam.eff_classmethod_ref_none {F : Fam} {c r p : Nat} (ms : List Name) (hr : F.ref c = some r)
    (hp : F.ref p = none) : (F.classmethod c ms).eff p = F.eff p := by
  obtain ⟨h1, _⟩ := Fam.classmethod_sets_of_ref ms hr
  have hp' : (F.classmethod c ms).ref p = none := by unfold Fam.ref at *; rw [h1]; exact hp
  unfold Fam.eff
  rw [hp', hp]

/-- **classmethod on a class that has its own set**: no proper ancestor is affected -/
theorem Fam.eff_classmethod_own_lt {F : Fam} (h : F.WF) {c r p : Nat} (ms : List Name)
    (hown : F.own[c]? = some (some r)) (hp : p < c) : (F.classmethod c ms).eff p = F.eff p := by
  have hr : F.ref c = some r := lookupOwn_of_own hown
  cases hrp : F.ref p with
  | none => exact Fam.eff_classmethod_ref_none ms hr hrp
  | some rp =>
    rw [Fam.eff_classmethod_of_ref ms hr hrp]
    obtain ⟨c', hle, hc'⟩ := lookupOwn_owner hrp
    have hne : r ≠ rp := by
      intro heq
      subst heq
      have := h.inj c c' r hown hc'
      omega
    simp [hne]

/-- **classmethod on a class for which `_auto_persist` is still `None`** (no ancestor declared anything): a fresh set -/
theorem Fam.eff_classmethod_none_lt {F : Fam} (h : F.WF) {c p : Nat} (ms : List Name)
    (hnone : F.ref c = none) (hp : p < c) : (F.classmethod c ms).eff p = F.eff p := by
  rw [Fam.classmethod_of_none ms hnone]
  exact Fam.eff_alloc_lt h c p _ hp

/-- the decorator in closed form: a fresh set object, owned by `c`, holding a copy of what `c` saw plus the new members -/
theorem Fam.decorate_eq {F : Fam} {c : Nat} (ms : List Name) (hc : c < F.own.length) :
    F.decorate c ms = { own := F.own.set c (some F.sets.length),
                        sets := F.sets ++ [insertAll ((F.eff c).getD []) ms] } := by
  have href : Fam.ref { own := F.own.set c (some F.sets.length), sets := F.sets ++ [(F.eff c).getD []] } c
      = some F.sets.length := lookupOwn_of_own (List.getElem?_set_self hc)
  unfold Fam.decorate Fam.classmethod
  simp only [href]
  congr 1
  exact List.ext_getElem? fun i => by
    rw [List.getElem?_modify]
    rcases Nat.lt_trichotomy i F.sets.length with h | h | h
    · simp [List.getElem?_append_left h, Nat.ne_of_gt h]
    · subst h; simp
    · simp [List.getElem?_append_right (Nat.le_of_lt h), Nat.ne_of_lt h, Nat.sub_ne_zero_of_lt h]

/-- **the decorator**: a fresh copy is made first, so no proper ancestor is affected -/
theorem Fam.eff_decorate_lt {F : Fam} (h : F.WF) {c p : Nat} (ms : List Name)
    (hc : c < F.own.length) (hp : p < c) : (F.decorate c ms).eff p = F.eff p := by
  rw [Fam.decorate_eq ms hc]; exact Fam.eff_alloc_lt h c p _ hp

/-- the decorator never mutates an existing set object (so classes that already hold a copy keep it) -/
theorem Fam.sets_decorate {F : Fam} {c : Nat} (ms : List Name) (hc : c < F.own.length) (r : Nat)
    (hr : r < F.sets.length) : (F.decorate c ms).sets[r]? = F.sets[r]? := by
  rw [Fam.decorate_eq ms hc]; exact List.getElem?_append_left hr

/-- keep the entries of `l` named by `ms`, in the order of `ms` -/
def select (ms : List Name) (l : List (Name × Val)) : List (Name × Val) :=
  match ms with
  | [] => []
  | m :: ms =>
    match lookup m l with
    | some v => (m, v) :: select ms l
    | none => select ms l

mutual
/-- What a round trip is expected to give back: the object restricted, hereditarily, to the declared members of its
class (undeclared attributes are not persisted); everything else unchanged. -/
def proj (W : World) : Val → Val
  | .obj c attrs =>
    match W.fam.eff c with
    | none => .obj c []
    | some ms => .obj c (select ms (projAttrs W attrs))
  | .futResult v => .futResult (proj W v)
  | .plain p => .plain p
  | .method o n => .method o n
  | .futPending => .futPending
  | .futExc e => .futExc e
  | .futCancelled => .futCancelled
  | .raw s => .raw s
def projAttrs (W : World) : List (Name × Val) → List (Name × Val)
  | [] => []
  | (n, v) :: r => (n, proj W v) :: projAttrs W r
end

mutual
/-- Well-formed input of the round-trip theorem, relative to the methods `meths` of the object holding the value:
every declared member is present (hereditarily); methods are bound to their holder and defined on its class; every
class involved is in the domain `dom` on which the loaders agree.  Undeclared attributes are unconstrained. -/
def wfVal (W : World) (dom : PyObj → Bool) (meths : List Name) : Val → Bool
  | .plain _ => true
  | .method own n => own && meths.contains n
  | .obj c attrs =>
    dom (.cls c) &&
    (match W.fam.eff c with
     | none => true
     | some ms => ms.all (fun m => lookup m (wfAttrs W dom (W.methods c) attrs) == some true))
  | .futPending => dom .future
  | .futExc _ => dom .future
  | .futCancelled => dom .future
  | .futResult v => dom .future && wfVal W dom [] v
  | .raw _ => false
def wfAttrs (W : World) (dom : PyObj → Bool) (meths : List Name) : List (Name × Val) → List (Name × Bool)
  | [] => []
  | (n, v) :: r => (n, wfVal W dom meths v) :: wfAttrs W dom meths r
end

def isSavable : Val → Bool
  | .obj _ _ | .futPending | .futResult _ | .futExc _ | .futCancelled => true
  | _ => false

/-- loader `A` names every object of `dom` by an identifier that loader `B` resolves to that same object -/
def RoundTrips (A B : Loader) (dom : PyObj → Bool) : Prop :=
  ∀ x, dom x = true → ∃ id, A.identify x = .ok id ∧ B.load id = some x

theorem regLoader_roundTrips (cls : Nat) (ident : PyObj → Ident) (reg : List PyObj)
    (h : ∀ x ∈ reg, reg.find? (fun y => ident y == ident x) = some x) :
    RoundTrips (regLoader cls ident reg) (regLoader cls ident reg) (fun x => reg.contains x) := by
  intro x hx
  exact ⟨ident x, by simp only [regLoader, hx, if_true], h x (List.contains_iff_mem.1 hx)⟩

/-- a list built entry by entry from an association list (`saveAttrs`, `projAttrs`, `wfAttrs`, `loadEntries`: the nested
recursion forces one such function per use) is looked up through the original -/
theorem lookup_of_cons {α β} (f : α → β) (g : List (Name × α) → List (Name × β)) (hnil : g [] = [])
    (hcons : ∀ n v r, g ((n, v) :: r) = (n, f v) :: g r) (m : Name) (l : List (Name × α)) :
    lookup m (g l) = (lookup m l).map f := by
  induction l with
  | nil => rw [hnil]; rfl
  | cons x r ih =>
    obtain ⟨n, v⟩ := x
    rw [hcons, lookup_cons, lookup_cons, ih]
    split <;> rfl

theorem lookup_saveAttrs (W : World) (ctx : Ctx) (m : Name) (attrs : List (Name × Val)) :
    lookup m (saveAttrs W ctx attrs) = (lookup m attrs).map (fun v => memberOut v (save W ctx v)) :=
  lookup_of_cons _ _ (by rw [saveAttrs]) (fun _ _ _ => by rw [saveAttrs]) m attrs

theorem lookup_projAttrs (W : World) (m : Name) (attrs : List (Name × Val)) :
    lookup m (projAttrs W attrs) = (lookup m attrs).map (proj W) :=
  lookup_of_cons _ _ (by rw [projAttrs]) (fun _ _ _ => by rw [projAttrs]) m attrs

theorem lookup_wfAttrs (W : World) (dom : PyObj → Bool) (meths : List Name) (m : Name) (attrs : List (Name × Val)) :
    lookup m (wfAttrs W dom meths attrs) = (lookup m attrs).map (wfVal W dom meths) :=
  lookup_of_cons _ _ (by rw [wfAttrs]) (fun _ _ _ => by rw [wfAttrs]) m attrs

theorem lookup_loadEntries (W : World) (L : Loader) (m : Name) (es : List (Name × SVal)) :
    lookup m (loadEntries W L es) = (lookup m es).map (loadWith W L) :=
  lookup_of_cons _ _ (by rw [loadEntries]) (fun _ _ _ => by rw [loadEntries]) m es

/-- **induction over well-formed values**: what `wfVal` demands, unpacked once.  `P meths v`: the property of `v` held as a
member by an object whose methods are `meths`. -/
theorem wfVal.ind {W : World} {dom : PyObj → Bool} {P : List Name → Val → Prop}
    (plain : ∀ meths p, P meths (.plain p))
    (method : ∀ meths n, n ∈ meths → P meths (.method true n))
    (obj : ∀ meths c attrs, dom (.cls c) = true →
      (∀ ms, W.fam.eff c = some ms → ∀ m ∈ ms, ∃ v, lookup m attrs = some v ∧ P (W.methods c) v) → P meths (.obj c attrs))
    (fut : ∀ meths v, dom .future = true → (v = .futPending ∨ v = .futCancelled ∨ ∃ e, v = .futExc e) → P meths v)
    (futResult : ∀ meths v, dom .future = true → P [] v → P meths (.futResult v)) :
    ∀ v meths, wfVal W dom meths v = true → P meths v := by
  intro v
  induction v using Val.ind with
  | plain p => exact fun meths _ => plain meths p
  | method o n =>
    intro meths h
    simp only [wfVal, Bool.and_eq_true, List.contains_iff_mem] at h
    exact h.1 ▸ method meths n h.2
  | obj c attrs ih =>
    intro meths h
    simp only [wfVal, Bool.and_eq_true] at h
    refine obj meths c attrs h.1 fun ms heff m hm => ?_
    have hall := h.2
    rw [heff] at hall
    have := List.all_eq_true.1 hall m hm
    rw [lookup_wfAttrs] at this
    cases hv : lookup m attrs with
    | none => simp [hv] at this
    | some v => exact ⟨v, rfl, ih m v (lookup_mem hv) _ (by simpa [hv] using this)⟩
  | futPending => exact fun meths h => fut meths _ (by simpa [wfVal] using h) (.inl rfl)
  | futResult v ih =>
    intro meths h
    simp only [wfVal, Bool.and_eq_true] at h
    exact futResult meths v h.1 (ih [] h.2)
  | futExc e => exact fun meths h => fut meths _ (by simpa [wfVal] using h) (.inr (.inr ⟨e, rfl⟩))
  | futCancelled => exact fun meths h => fut meths _ (by simpa [wfVal] using h) (.inr (.inl rfl))
  | raw s => intro meths h; simp [wfVal] at h

theorem saveMembers_ok (sa : List (Name × Saved)) (f : Name → Option Tag × SVal) :
    ∀ ms : List Name, (∀ m ∈ ms, lookup m sa = some (.ok (f m))) →
      saveMembers ms sa = .ok (ms.map fun m => (m, f m)) := by
  intro ms
  induction ms with
  | nil => intro _; rfl
  | cons m ms ih =>
    intro h
    have h1 := h m (by simp)
    have h2 := ih (fun m' hm' => h m' (by simp [hm']))
    simp [saveMembers, h1, h2]

theorem lookup_typesOf_map (f : Name → Option Tag × SVal) (m : Name) :
    ∀ ms : List Name, lookup m (typesOf (ms.map fun m => (m, f m))) = if m ∈ ms then (f m).1 else none := by
  intro ms
  induction ms with
  | nil => simp [typesOf]
  | cons a ms ih =>
    simp only [List.map_cons]
    cases hfa : f a with
    | mk t sv =>
      cases t with
      | none =>
        simp only [typesOf, ih]
        by_cases ham : a = m
        · subst ham; simp [hfa]
        · have : m ≠ a := fun h => ham h.symm
          simp [this]
      | some t =>
        simp only [typesOf, lookup_cons, ih]
        by_cases ham : a = m
        · subst ham; simp [hfa]
        · have : m ≠ a := fun h => ham h.symm
          simp [ham, this]

theorem lookup_entriesOf_map (f : Name → Option Tag × SVal) (m : Name) :
    ∀ ms : List Name, lookup m (entriesOf (ms.map fun m => (m, f m))) = if m ∈ ms then some (f m).2 else none := by
  intro ms
  induction ms with
  | nil => simp [entriesOf]
  | cons a ms ih =>
    simp only [List.map_cons, entriesOf, lookup_cons, ih]
    by_cases ham : a = m
    · subst ham; simp
    · have : m ≠ a := fun h => ham h.symm
      simp [ham, this]

theorem loadMembers_ok (methods : List Name) (types : List (Name × Tag)) (entries : List (Name × SVal))
    (loaded : List (Name × Except Err Val)) (g : Name → Val) :
    ∀ ms : List Name, (∀ m ∈ ms, getValue methods types entries loaded m = .ok (g m)) →
      loadMembers methods types entries loaded ms = .ok (ms.map fun m => (m, g m)) := by
  intro ms
  induction ms with
  | nil => intro _; rfl
  | cons m ms ih =>
    intro h
    have h1 := h m (by simp)
    have h2 := ih (fun m' hm' => h m' (by simp [hm']))
    simp [loadMembers, h1, h2]

theorem select_eq_map (l : List (Name × Val)) (g : Name → Val) :
    ∀ ms : List Name, (∀ m ∈ ms, lookup m l = some (g m)) → select ms l = ms.map fun m => (m, g m) := by
  intro ms
  induction ms with
  | nil => intro _; rfl
  | cons m ms ih =>
    intro h
    have h1 := h m (by simp)
    have h2 := ih (fun m' hm' => h m' (by simp [hm']))
    simp [select, h1, h2]

/-- the value `v`, held as a member by an object with methods `meths`, is written by `save_members` and read back by
`_get_value` as `proj v`, wherever it sits in the saved state -/
def MemberOK (W : World) (ctx : Ctx) (L : Loader) (meths : List Name) (v : Val) : Prop :=
  ∃ x, memberOut v (save W ctx v) = .ok x ∧
    ∀ (n : Name) (types : List (Name × Tag)) (entries : List (Name × SVal)) (loaded : List (Name × Except Err Val)),
      lookup n entries = some x.2 → lookup n types = x.1 → lookup n loaded = some (loadWith W L x.2) →
      getValue meths types entries loaded n = .ok (proj W v)

def SavOK (W : World) (ctx : Ctx) (rec : Option Ident) (L : Loader) (v : Val) : Prop :=
  ∃ s, save W ctx v = .ok s ∧ s.recorded = rec ∧ loadWith W L s = .ok (proj W v)

theorem memberOK_of_savOK {W : World} {ctx : Ctx} {rec : Option Ident} {L : Loader} {meths : List Name} {v : Val}
    (hs : isSavable v = true) (h : SavOK W ctx rec L v) : MemberOK W ctx L meths v := by
  obtain ⟨s, h1, _, h3⟩ := h
  refine ⟨(some .S, s), ?_, ?_⟩
  · cases v <;> simp [isSavable] at hs <;> simp [memberOut, h1, Except.map]
  · intro n types entries loaded he ht hl
    simp [getValue, he, ht, hl, h3]

theorem futureMembers_eq : futureMembers = ["_result", "_state"] := by decide +kernel

theorem saveFuture_eq {W : World} {ctx : Ctx} {rec : Option Ident} {TL : Loader} {cid : Ident}
    (hhead : saveHead W ctx = .ok (rec, TL)) (hid : TL.identify .future = .ok cid)
    (st : Plain) (xr : Option Tag × SVal) (extra : List (Name × SVal)) :
    saveFuture W ctx [("_state", .ok (none, .plain st)), ("_result", .ok xr)] extra
      = .ok (mkState rec cid [("_result", xr), ("_state", (none, .plain st))] extra) := by
  simp [saveFuture, hhead, hid, futureMembers_eq, saveMembers, lookup]

theorem loadWith_future {W : World} {L : Loader} {rec : Option Ident} {cid : Ident}
    (hl : L.load cid = some .future) (st : Plain) (xr : Option Tag × SVal) (extra : List (Name × SVal)) :
    loadWith W L (mkState rec cid [("_result", xr), ("_state", (none, .plain st))] extra)
      = recreateFuture ([("_result", xr.2), ("_state", .plain st)] ++ extra)
          (getValue [] (typesOf [("_result", xr), ("_state", (none, .plain st))])
            ([("_result", xr.2), ("_state", .plain st)] ++ extra)
            (loadEntries W L ([("_result", xr.2), ("_state", .plain st)] ++ extra)) "_result") := by
  simp [mkState, loadWith, hl, entriesOf]

theorem lookup_types_future (xr : Option Tag × SVal) (st : Plain) :
    lookup "_result" (typesOf [("_result", xr), ("_state", (none, .plain st))]) = xr.1 := by
  obtain ⟨t, sv⟩ := xr
  cases t <;> simp [typesOf, lookup]

theorem stCancelled_ne_pending : stCancelled ≠ stPending := by decide +kernel
theorem stCancelled_ne_finished : stCancelled ≠ stFinished := by decide +kernel
theorem stFinished_ne_pending : stFinished ≠ stPending := by decide +kernel

section core
variable {W : World} {ctx : Ctx} {rec : Option Ident} {TL L : Loader} {dom : PyObj → Bool}

theorem savOK_futSimple (hhead : saveHead W ctx = .ok (rec, TL)) (hrt : RoundTrips TL L dom)
    (hdom : dom .future = true) :
    SavOK W ctx rec L .futPending ∧ SavOK W ctx rec L .futCancelled ∧ ∀ e, SavOK W ctx rec L (.futExc e) := by
  obtain ⟨cid, hid, hl⟩ := hrt .future hdom
  refine ⟨?_, ?_, ?_⟩
  · refine ⟨mkState rec cid [("_result", (none, .plain pyNone)), ("_state", (none, .plain stPending))] [], ?_, rfl, ?_⟩
    · simp only [save]; exact saveFuture_eq hhead hid _ _ _
    · rw [loadWith_future hl]
      simp [recreateFuture, lookup, proj]
  · refine ⟨mkState rec cid [("_result", (none, .plain pyNone)), ("_state", (none, .plain stCancelled))] [], ?_, rfl, ?_⟩
    · simp only [save]; exact saveFuture_eq hhead hid _ _ _
    · rw [loadWith_future hl]
      simp [recreateFuture, lookup, proj, stCancelled_ne_pending, stCancelled_ne_finished]
  · intro e
    refine ⟨mkState rec cid [("_result", (none, .plain pyNone)), ("_state", (none, .plain stFinished))]
      [("exception", .exc e)], ?_, rfl, ?_⟩
    · simp only [save]; exact saveFuture_eq hhead hid _ _ _
    · rw [loadWith_future hl]
      simp [recreateFuture, lookup, proj, stFinished_ne_pending, getValue, typesOf, rawVal]

theorem savOK_futResult (hhead : saveHead W ctx = .ok (rec, TL)) (hrt : RoundTrips TL L dom)
    (hdom : dom .future = true) (v : Val) (hv : MemberOK W ctx L [] v) : SavOK W ctx rec L (.futResult v) := by
  obtain ⟨cid, hid, hl⟩ := hrt .future hdom
  obtain ⟨x, hx, hget⟩ := hv
  refine ⟨mkState rec cid [("_result", x), ("_state", (none, .plain stFinished))] [], ?_, rfl, ?_⟩
  · simp only [save, hx]; exact saveFuture_eq hhead hid _ _ _
  · rw [loadWith_future hl]
    have hg := hget "_result" (typesOf [("_result", x), ("_state", (none, .plain stFinished))])
      ([("_result", x.2), ("_state", .plain stFinished)] ++ [])
      (loadEntries W L ([("_result", x.2), ("_state", .plain stFinished)] ++ []))
      (by simp [lookup]) (lookup_types_future x _) (by simp [loadEntries, lookup])
    rw [hg]
    simp [recreateFuture, lookup, proj, stFinished_ne_pending]

theorem savOK_obj (hhead : saveHead W ctx = .ok (rec, TL)) (hrt : RoundTrips TL L dom) (c : Nat)
    (attrs : List (Name × Val)) (hdom : dom (.cls c) = true)
    (hmem : ∀ ms, W.fam.eff c = some ms → ∀ m ∈ ms, ∃ v, lookup m attrs = some v ∧ MemberOK W ctx L (W.methods c) v) :
    SavOK W ctx rec L (.obj c attrs) := by
  obtain ⟨cid, hid, hl⟩ := hrt (.cls c) hdom
  cases heff : W.fam.eff c with
  | none =>
    refine ⟨mkState rec cid [] [], ?_, rfl, ?_⟩
    · simp [save, hhead, hid, heff]
    · simp [mkState, loadWith, hl, heff, proj, typesOf, entriesOf]
  | some ms =>
    have hm := hmem ms heff
    -- what save_members writes for each member
    let f : Name → Option Tag × SVal := fun m =>
      match lookup m (saveAttrs W ctx attrs) with
      | some (.ok x) => x
      | _ => (none, .plain "")
    let g : Name → Val := fun m => ((lookup m attrs).map (proj W)).getD (.plain "")
    have hf : ∀ m ∈ ms, lookup m (saveAttrs W ctx attrs) = some (.ok (f m)) := by
      intro m hmm
      obtain ⟨v, hv, x, hx, _⟩ := hm m hmm
      have : lookup m (saveAttrs W ctx attrs) = some (.ok x) := by rw [lookup_saveAttrs, hv]; simp [hx]
      simp [f, this]
    have hsave := saveMembers_ok (saveAttrs W ctx attrs) f ms hf
    refine ⟨mkState rec cid (ms.map fun m => (m, f m)) [], ?_, rfl, ?_⟩
    · simp [save, hhead, hid, heff, hsave]
    · have hget : ∀ m ∈ ms, getValue (W.methods c) (typesOf (ms.map fun m => (m, f m)))
          (entriesOf (ms.map fun m => (m, f m)))
          (loadEntries W L (entriesOf (ms.map fun m => (m, f m)))) m = .ok (g m) := by
        intro m hmm
        obtain ⟨v, hv, x, hx, hgv⟩ := hm m hmm
        have hfx : f m = x := by
          have : lookup m (saveAttrs W ctx attrs) = some (.ok x) := by rw [lookup_saveAttrs, hv]; simp [hx]
          simp [f, this]
        have hgm : g m = proj W v := by simp [g, hv]
        rw [hgm]
        apply hgv
        · rw [lookup_entriesOf_map]; simp [hmm, hfx]
        · rw [lookup_typesOf_map]; simp [hmm, hfx]
        · rw [lookup_loadEntries, lookup_entriesOf_map]; simp [hmm, hfx]
      have hload := loadMembers_ok _ _ _ _ g ms hget
      have hsel : select ms (projAttrs W attrs) = ms.map fun m => (m, g m) := by
        apply select_eq_map
        intro m hmm
        obtain ⟨v, hv, _⟩ := hm m hmm
        rw [lookup_projAttrs, hv]; simp [g, hv]
      simp [mkState, loadWith, hl, heff, hload, proj, hsel]

/-- **core of C19** -/
theorem roundtrip_core (hhead : saveHead W ctx = .ok (rec, TL)) (hrt : RoundTrips TL L dom) :
    ∀ v : Val, ∀ meths, wfVal W dom meths v = true →
      MemberOK W ctx L meths v ∧ (isSavable v = true → SavOK W ctx rec L v) := by
  have sav : ∀ {meths v}, isSavable v = true → SavOK W ctx rec L v →
      MemberOK W ctx L meths v ∧ (isSavable v = true → SavOK W ctx rec L v) :=
    fun hs h => ⟨memberOK_of_savOK hs h, fun _ => h⟩
  refine wfVal.ind ?_ ?_ ?_ ?_ ?_
  · intro meths p
    refine ⟨⟨(none, .plain p), by simp [memberOut], ?_⟩, by simp [isSavable]⟩
    intro n types entries loaded he ht _
    simp [getValue, he, ht, rawVal, proj]
  · intro meths name hn
    refine ⟨⟨(some .m, .mname name), by simp [memberOut], ?_⟩, by simp [isSavable]⟩
    intro n types entries loaded he ht _
    simp [getValue, he, ht, hn, proj]
  · intro meths c attrs hdom ih
    exact sav rfl (savOK_obj hhead hrt c attrs hdom fun ms heff m hm =>
      (ih ms heff m hm).imp fun v hv => ⟨hv.1, hv.2.1⟩)
  · rintro meths v hdom (rfl | rfl | ⟨e, rfl⟩)
    · exact sav rfl (savOK_futSimple hhead hrt hdom).1
    · exact sav rfl (savOK_futSimple hhead hrt hdom).2.1
    · exact sav rfl ((savOK_futSimple hhead hrt hdom).2.2 e)
  · intro meths v hdom ih
    exact sav rfl (savOK_futResult hhead hrt hdom v ih.1)

end core

theorem lookup_select (l : List (Name × Val)) (m : Name) :
    ∀ ms : List Name, lookup m (select ms l) = if m ∈ ms then lookup m l else none := by
  intro ms
  induction ms with
  | nil => simp [select]
  | cons a ms ih =>
    simp only [select]
    by_cases ham : a = m
    · subst ham
      cases h : lookup a l with
      | none => simp [ih, h]
      | some v => simp [lookup_cons]
    · have hne : m ≠ a := fun h => ham h.symm
      cases h : lookup a l with
      | none => simp [ih, hne]
      | some v => simp [lookup_cons, ham, ih, hne]

end Sav
