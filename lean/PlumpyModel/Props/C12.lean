import PlumpyModel.Ports.ProofOut
/-!
# C12 — outputs are stored only if valid; success requires spec-conforming outputs

Model: `Ports.out` (`Process.out`), `Ports.getPort` (`PortNamespace.get_port(..., create_dynamically=True)`),
`Ports.store` (the storage loop of `out`), `Ports.onFinish` / `Ports.toFinished` (`Process.on_finish` and the
`StateEntryFailed` branch of `StateMachine.transition_to`), in `PlumpyModel/Ports/Out.lean`; validation is the C11 model.
Specification: `AcceptsOut`, `resolveRef`, `Storable`, `V.isDict`, `replay` (`PlumpyModel/Ports/SpecOut.lean`) and
`getPath`, `ConformsPort` (`Spec.lean`).

Values are atoms, plain dicts (`V.dict false _`) and immutable mappings (`V.dict true _`, an `AttributesFrozendict`).  An emitted
immutable mapping is a VALUE: a leaf for the recursion of `validate_dynamic_ports` (`DynOk`), no instance of `dict`, and no place to
store below — the storage loop of `out` enters plain dicts only (`Storable`, `C12_out_place_taken`, `C12_immutable_is_value`).

Quantification: every output spec (arbitrary port tree, every combination of types, validators, required flags,
dynamic namespaces), every validator oracle, every state reached so far (the spec as extended by earlier calls, any
outputs), every dotted path (including empty segments) and value.  Hypothesis: `wfPorts` (distinct port names per
namespace), which `out` preserves (`C12_out_keeps_wf`).
-/
namespace Ports

/-- **C12, first sentence.**  `out` stores the value exactly when the output spec (as it is at the time of the call)
accepts it for that port, provided the place is free (no emitted non-dict value on the way: neither an atom nor an immutable
mapping — a condition on the outputs, not on the spec). -/
theorem C12_out_stores_iff (vd : Nat → V → Bool) (st : OutSt) (hwf : wfPorts st.ports = true) (path : List String) (v : V) :
    (∃ d, (out vd st path v).2 = .ok d) ↔
      AcceptsOut vd st.top st.ports path v ∧ Storable st.outputs path.dropLast := by
  obtain ⟨_, _, hok, herr⟩ := out_master vd st hwf path v
  constructor
  · rintro ⟨d, hd⟩
    obtain ⟨b, qs, h1, h2, _, h4, _⟩ := hok d hd
    exact ⟨⟨b, qs, h1, h2⟩, (store_ok_iff _ _ _ _).1 ⟨_, h4⟩⟩
  · rintro ⟨⟨b, qs, h1, h2⟩, h3⟩
    cases hr : (out vd st path v).2 with
    | ok d => exact ⟨d, rfl⟩
    | error e =>
      rcases (herr e hr).2.2 b qs h1 with ⟨hn, _⟩ | ⟨_, hn, _⟩
      · exact absurd h2 hn
      · exact absurd h3 hn

/-- **C12, a stored value.**  On success the new outputs are the old ones with the value inserted at the path: it is
found there, and every path that is neither above nor below it reads as before; the listeners are told
`(path, value, dynamic)` once, `dynamic` saying that the last name is not a declared port. -/
theorem C12_out_stored (vd : Nat → V → Bool) (st : OutSt) (hwf : wfPorts st.ports = true) (path : List String)
    (hpath : path ≠ []) (v : V) (d : Bool) (h : (out vd st path v).2 = .ok d) :
    getPath (some (.dict false (out vd st path v).1.outputs)) path = some v ∧
    (∀ q, ¬ q <+: path → ¬ path <+: q →
      getPath (some (.dict false (out vd st path v).1.outputs)) q = getPath (some (.dict false st.outputs)) q) ∧
    (out vd st path v).1.emitted = (path, v, d) :: st.emitted ∧
    IsDynamicOut st.top st.ports path d := by
  obtain ⟨b, qs, h1, _, h3, h4, h5⟩ := (out_master vd st hwf path v).2.2.1 d h
  have hp : path.dropLast ++ [path.getLastD ""] = path := dropLast_append_getLastD path hpath
  refine ⟨?_, ?_, h5, ⟨b, qs, h1, h3⟩⟩
  · have := store_getPath_self _ _ _ _ _ false h4; rwa [hp] at this
  · intro q hq1 hq2
    have := store_getPath_other _ _ _ _ _ false q h4; rw [hp] at this; exact this hq1 hq2

/-- **C12, a rejected value.**  When `out` raises, the outputs are unchanged and no listener is told anything; if the
path resolves, the error is the `ValueError` of validation exactly when the spec rejects the value (otherwise the place
was taken: `TypeError` / `AttributeError` of the storage loop). -/
theorem C12_out_failed (vd : Nat → V → Bool) (st : OutSt) (hwf : wfPorts st.ports = true) (path : List String) (v : V)
    (e : Err) (h : (out vd st path v).2 = .error e) :
    (out vd st path v).1.outputs = st.outputs ∧ (out vd st path v).1.emitted = st.emitted ∧
    ((∃ b qs, resolveRef st.top st.ports path.dropLast = some (b, qs)) →
      ((¬ AcceptsOut vd st.top st.ports path v ∧ ∃ p, e = .validation p) ∨
       (AcceptsOut vd st.top st.ports path v ∧ ¬ Storable st.outputs path.dropLast ∧ (e = .typeError ∨ e = .attributeError)))) := by
  have hm := (out_master vd st hwf path v).2.2.2 e h
  refine ⟨hm.1, hm.2.1, ?_⟩
  rintro ⟨b, qs, hq⟩
  rcases hm.2.2 b qs hq with ⟨h1, h2⟩ | ⟨h1, h2, h3, _⟩
  · left
    refine ⟨?_, h2⟩
    rintro ⟨b', qs', hq', hl⟩
    rw [hq] at hq'; cases hq'; exact h1 hl
  · right; exact ⟨⟨b, qs, hq, h1⟩, h2, h3⟩

/-- **C12, the place is taken.**  When the spec accepts the value and `out` raises all the same, the reason is a value that is
not a plain dict (an atom, or an immutable mapping that was emitted — at the top of the outputs or inside an emitted plain
dict) found at a non-empty prefix `q` of the namespace part of the path; the error is `TypeError` when it sits exactly at
the namespace (`value_in_the_way[name] = v`) and `AttributeError` when segments remain below it (`setdefault` on it). -/
theorem C12_out_place_taken (vd : Nat → V → Bool) (st : OutSt) (hwf : wfPorts st.ports = true) (path : List String) (v : V)
    (e : Err) (h : (out vd st path v).2 = .error e) (hacc : AcceptsOut vd st.top st.ports path v) :
    ∃ q w rest, path.dropLast = q ++ rest ∧ q ≠ [] ∧
      getPath (some (.dict false st.outputs)) q = some w ∧ w.isDict = false ∧
      e = (if rest = [] then .typeError else .attributeError) := by
  obtain ⟨b, qs, hq, hl⟩ := hacc
  rcases ((out_master vd st hwf path v).2.2.2 e h).2.2 b qs hq with ⟨h1, _⟩ | ⟨_, _, _, hs⟩
  · exact absurd hl h1
  · exact store_error_exact _ _ _ _ _ hs

/-- **C12, an emitted immutable mapping is a value.**  Let an immutable mapping sit in the outputs at `q` (wherever: at the
top or inside an emitted plain dict).  Then (1) every `out` whose namespace part runs through `q` raises — nothing is ever
stored below it, whatever it contains; and (2) every `out` that succeeds and does not overwrite it (its path is not a
prefix of `q`) leaves it exactly as it was emitted. -/
theorem C12_immutable_is_value (vd : Nat → V → Bool) (st : OutSt) (hwf : wfPorts st.ports = true) (path : List String)
    (hpath : path ≠ []) (v : V) (q : List String) (items : Items)
    (hq : getPath (some (.dict false st.outputs)) q = some (.dict true items)) :
    (q <+: path.dropLast → ∃ e, (out vd st path v).2 = .error e) ∧
    (∀ d, (out vd st path v).2 = .ok d → ¬ path <+: q →
      getPath (some (.dict false (out vd st path v).1.outputs)) q = some (.dict true items)) := by
  obtain ⟨_, _, hok, _⟩ := out_master vd st hwf path v
  have blocked : q <+: path.dropLast → ∀ o, store st.outputs path.dropLast (path.getLastD "") v ≠ .ok o := by
    intro hp o ho
    obtain ⟨e, he⟩ := store_blocked (path.getLastD "") v path.dropLast st.outputs q _ hp hq rfl
    rw [ho] at he; cases he
  have hp : path.dropLast ++ [path.getLastD ""] = path := dropLast_append_getLastD path hpath
  constructor
  · intro hpre
    cases hr : (out vd st path v).2 with
    | error e => exact ⟨e, rfl⟩
    | ok d =>
      obtain ⟨_, _, _, _, _, h4, _⟩ := hok d hr
      exact absurd h4 (blocked hpre _)
  · intro d hd hnp
    obtain ⟨_, _, _, _, _, h4, _⟩ := hok d hd
    have hnq : ¬ q <+: path := by
      intro hqp
      rw [← hp, List.prefix_concat_iff] at hqp
      rcases hqp with heq | hpre
      · exact hnp (by rw [heq, hp]; exact List.prefix_refl _)
      · exact blocked hpre _ h4
    have := store_getPath_other _ _ _ _ _ false q h4
    rw [hp] at this
    rw [this hnq hnp, hq]

/-- `out` keeps the (extended) output spec well formed and never touches the attributes of `spec.outputs` -/
theorem C12_out_keeps_wf (vd : Nat → V → Bool) (st : OutSt) (hwf : wfPorts st.ports = true) (path : List String) (v : V) :
    wfPorts (out vd st path v).1.ports = true ∧ (out vd st path v).1.top = st.top :=
  ⟨(out_master vd st hwf path v).1, (out_master vd st hwf path v).2.1⟩

/-- **C12, second sentence.**  Entering FINISHED after a step that returned `result` (successfully or not): the process
ends FINISHED with that result, and it is successful exactly when the step result was successful and the collected
outputs conform to the output spec (as extended by the emissions); the future and the listeners get the outputs. -/
theorem C12_successful_iff (vd : Nat → V → Bool) (st : OutSt) (hwf : wfPorts st.ports = true) (result : Nat) (ok : Bool) :
    (toFinished vd st result ok).label = .finished ∧ (toFinished vd st result ok).result = result ∧
    ((toFinished vd st result ok).successful = true ↔
      ok = true ∧ ConformsPort vd (.ns st.top st.ports) (some (.dict false st.outputs))) ∧
    (toFinished vd st result ok).future = some st.outputs ∧ (toFinished vd st result ok).listener = some st.outputs := by
  rw [toFinished_eq]
  simp only [Bool.and_eq_true, Option.isNone_iff_eq_none, validatePort_none_iff vd (.ns _ _) hwf, and_self]

/-- **C12, "stored values are what the process future and listeners later report".**  For a process whose step makes
any sequence of `out` calls (catching their errors) and then returns: the notifications `on_output_emitted` are exactly
the calls that returned, in order, each with its `dynamic` flag; the outputs are exactly those notifications
re-inserted in order; and that mapping is the result of the process future and the argument of `on_process_finished`. -/
theorem C12_future_reports_outputs (vd : Nat → V → Bool) (top : NsA) (ports : PortList) (hwf : wfPorts ports = true)
    (ems : List (List String × V)) (result : Nat) (ok : Bool) :
    let run := outs vd { top, ports, outputs := [], emitted := [] } ems
    let fin := toFinished vd run.1 result ok
    run.1.emitted.reverse = accepted ems run.2 ∧
    run.1.outputs = replay [] run.1.emitted.reverse ∧
    fin.future = some run.1.outputs ∧ fin.listener = some run.1.outputs ∧
    fin.label = .finished ∧ fin.result = result := by
  intro run fin
  obtain ⟨hw, _, he, ho⟩ := outs_master vd ems { top, ports, outputs := [], emitted := [] } hwf
  obtain ⟨f1, f2, _, f4, f5⟩ := C12_successful_iff vd run.1 hw result ok
  exact ⟨by simpa using he, ho rfl, f4, f5, f1, f2⟩

/-! ## non-vacuity -/

def oTop : NsA := { required := true, validType := some 0, default := none, dynamic := true, populate := true, validator := none }
def oPorts : PortList :=
  [("x", .leaf { required := true, validType := some 0, default := none, callable := false, validator := none }),
   ("ns", .ns { required := false, validType := none, default := none, dynamic := false, populate := true, validator := none }
      [("a", .leaf { required := true, validType := some 0, default := none, callable := false, validator := none })])]
def oVd (n : Nat) (v : V) : Bool := v.mentions n
def oSt : OutSt := { top := oTop, ports := oPorts, outputs := [], emitted := [] }

theorem oPorts_wf : wfPorts oPorts = true := by decide +kernel
example : wfPorts oPorts = true := oPorts_wf
/-- a declared port, a nested declared port, a dynamic port two namespaces deep (created in the spec) -/
example : (out oVd oSt ["x"] (.atom 0 1)).2 = .ok false := by decide +kernel
example : (out oVd oSt ["ns", "a"] (.atom 0 1)).2 = .ok false := by decide +kernel
example : (out oVd oSt ["p", "q", "r"] (.atom 0 1)).2 = .ok true ∧
    (out oVd oSt ["p", "q", "r"] (.atom 0 1)).1.outputs = [("p", .dict false [("q", .dict false [("r", .atom 0 1)])])] ∧
    (match lookup "p" (out oVd oSt ["p", "q", "r"] (.atom 0 1)).1.ports with
     | some (.ns _ sub) => hasKey "q" sub | _ => false) = true := by decide +kernel
example : AcceptsOut oVd oTop oPorts ["p", "q", "r"] (.atom 0 1) ∧ Storable [] ["p", "q"] :=
  (C12_out_stores_iff oVd oSt oPorts_wf _ _).1 ⟨true, by decide +kernel⟩
/-- rejected: wrong type at depth in a dynamic namespace (and the namespace `p` is created all the same); wrong type
for a declared port; undeclared port in a non-dynamic namespace; through a leaf port; value below an emitted atom -/
example : (out oVd oSt ["p", "q"] (.atom 1 1)).2 = .error (.validation "p.q") ∧
    (out oVd oSt ["p", "q"] (.atom 1 1)).1.outputs = [] ∧
    hasKey "p" (out oVd oSt ["p", "q"] (.atom 1 1)).1.ports = true := by decide +kernel
example : (out oVd oSt ["x"] (.atom 1 1)).2 = .error (.validation "x") := by decide +kernel
example : (out oVd oSt ["ns", "zz"] (.atom 0 1)).2 = .error (.validation "ns") := by decide +kernel
example : (out oVd oSt ["x", "y", "z"] (.atom 0 1)).2 = .error .attributeError := by decide +kernel
example : (out oVd (out oVd oSt ["k"] (.atom 0 1)).1 ["k", "l"] (.atom 0 1)).2 = .error .typeError := by decide +kernel
def oTopU : NsA := { oTop with validType := none }
def oStU : OutSt := { top := oTopU, ports := oPorts, outputs := [], emitted := [] }
/-- the emitted immutable mapping `<a=1>` at `k`, and one inside an emitted plain dict at `m` (`m = {a = <b={}>}`) -/
def oStF : OutSt := (outs oVd oStU [(["k"], .dict true [("a", .atom 0 1)]),
  (["m"], .dict false [("a", .dict true [("b", .dict false [])])])]).1

/-- an untyped dynamic namespace accepts an immutable mapping, which is stored as it is (and reported as such) -/
example : (out oVd oStU ["k"] (.dict true [("a", .atom 0 1)])).2 = .ok true ∧
    (out oVd oStU ["k"] (.dict true [("a", .atom 0 1)])).1.outputs = [("k", .dict true [("a", .atom 0 1)])] ∧
    (out oVd oStU ["k"] (.dict true [("a", .atom 0 1)])).1.emitted = [(["k"], .dict true [("a", .atom 0 1)], true)] := by decide +kernel
/-- a typed one rejects it — it is a leaf that is not of the type, whatever its items (ints here) — also inside a plain dict,
while the same items in plain dicts are accepted -/
example : (out oVd oSt ["k"] (.dict true [("a", .atom 0 1)])).2 = .error (.validation "outputs.k") ∧
    (out oVd oSt ["k"] (.dict false [("b", .dict true [("a", .atom 0 1)])])).2 = .error (.validation "outputs.k.outputs.b") ∧
    (out oVd oSt ["k"] (.dict false [("b", .dict false [("a", .atom 0 1)])])).2 = .ok true := by decide +kernel
/-- nothing is stored below an immutable mapping: directly below it `TypeError`, deeper `AttributeError` — at an existing key as at
a new one, at the top of the outputs as inside an emitted plain dict (whose own plain levels can still be extended) — and the
outputs stay as they were -/
example : (out oVd oStF ["k", "a"] (.atom 0 2)).2 = .error .typeError ∧
    (out oVd oStF ["k", "z"] (.atom 0 2)).2 = .error .typeError ∧
    (out oVd oStF ["k", "a", "b"] (.atom 0 2)).2 = .error .attributeError ∧
    (out oVd oStF ["m", "a", "z"] (.atom 0 2)).2 = .error .typeError ∧
    (out oVd oStF ["m", "a", "b", "c"] (.atom 0 2)).2 = .error .attributeError ∧
    (out oVd oStF ["m", "a", "b", "c", "d"] (.atom 0 2)).2 = .error .attributeError ∧
    (out oVd oStF ["m", "a", "b", "c"] (.atom 0 2)).1.outputs = oStF.outputs ∧
    (out oVd oStF ["m", "z"] (.atom 0 2)).2 = .ok true := by decide +kernel
/-- the hypotheses of `C12_out_place_taken` and `C12_immutable_is_value` hold there: the spec accepts `k.z = 2`, the call
raises, and the value in the way is the immutable mapping at `k`; emitting at `k` again replaces it -/
example : AcceptsOut oVd oStF.top oStF.ports ["k", "z"] (.atom 0 2) :=
  ⟨oTopU, [], rfl, rfl, fun _ h => by cases h⟩
theorem oStF_facts : getPath (some (.dict false oStF.outputs)) ["k"] = some (.dict true [("a", .atom 0 1)]) ∧
    getPath (some (.dict false oStF.outputs)) ["m", "a"] = some (.dict true [("b", .dict false [])]) ∧
    wfPorts oStF.ports = true := by decide +kernel
example : getPath (some (.dict false oStF.outputs)) ["k"] = some (.dict true [("a", .atom 0 1)]) ∧
    getPath (some (.dict false oStF.outputs)) ["m", "a"] = some (.dict true [("b", .dict false [])]) ∧
    wfPorts oStF.ports = true := oStF_facts
/-- the two theorems applied to it -/
example : ∃ q w rest, ["k"] = q ++ rest ∧ q ≠ [] ∧ getPath (some (.dict false oStF.outputs)) q = some w ∧ w.isDict = false ∧
    Err.typeError = (if rest = [] then .typeError else .attributeError) :=
  C12_out_place_taken oVd oStF oStF_facts.2.2 ["k", "z"] (.atom 0 2) .typeError (by decide +kernel) ⟨oTopU, [], rfl, rfl, fun _ h => by cases h⟩
example : ∃ e, (out oVd oStF ["m", "a", "b", "c"] (.atom 0 2)).2 = .error e :=
  (C12_immutable_is_value oVd oStF oStF_facts.2.2 ["m", "a", "b", "c"] (by simp) (.atom 0 2) ["m", "a"] [("b", .dict false [])] oStF_facts.2.1).1 ⟨["b"], rfl⟩
example : getPath (some (.dict false (out oVd oStF ["m", "z"] (.atom 0 2)).1.outputs)) ["m", "a"] = some (.dict true [("b", .dict false [])]) :=
  (C12_immutable_is_value oVd oStF oStF_facts.2.2 ["m", "z"] (by simp) (.atom 0 2) ["m", "a"] [("b", .dict false [])] oStF_facts.2.1).2 true (by decide +kernel)
    (by rintro ⟨t, ht⟩; simp at ht)
example : (out oVd oStF ["k"] (.dict false [])).2 = .ok true ∧
    (out oVd (out oVd oStF ["k"] (.dict false [])).1 ["k", "z"] (.atom 0 2)).2 = .ok true := by decide +kernel
/-- at the end the immutable mapping is validated as the value it is: fine in the untyped namespace (with `x` emitted the
process is successful); but the failed `out('k.a.b', …)` has made `k` and `k.a` namespaces of the spec, and `<a=1>` is not a
value for the namespace `k` (its entry `a` is an int where a mapping is due) -/
example : (toFinished oVd (out oVd oStF ["x"] (.atom 0 1)).1 7 true).successful = true ∧
    (toFinished oVd (out oVd oStF ["x"] (.atom 0 1)).1 7 true).future = some (out oVd oStF ["x"] (.atom 0 1)).1.outputs ∧
    (toFinished oVd (outs oVd oStF [(["x"], .atom 0 1), (["k", "a", "b"], .atom 0 2)]).1 7 true).successful = false := by decide +kernel

/-- finishing: required `x` missing → FINISHED, result kept, unsuccessful; with `x` emitted → successful;
an unsuccessful step result stays unsuccessful -/
example : toFinished oVd oSt 7 true = { label := .finished, result := 7, successful := false, future := some [], listener := some [] } := by decide +kernel
example : (toFinished oVd (out oVd oSt ["x"] (.atom 0 1)).1 7 true).successful = true := by decide +kernel
example : (toFinished oVd (out oVd oSt ["x"] (.atom 0 1)).1 7 false).successful = false := by decide +kernel
/-- a failed call changes the spec, and with it the verdict at the end: `k = 5` was accepted as a dynamic int, the failed
`out('k.l', 'float')` turned `k` into a namespace of the spec, and the outputs no longer conform -/
example : (toFinished oVd (outs oVd oSt [(["x"], .atom 0 1), (["k"], .atom 0 5)]).1 7 true).successful = true ∧
    (toFinished oVd (outs oVd oSt [(["x"], .atom 0 1), (["k"], .atom 0 5), (["k", "l"], .atom 1 1)]).1 7 true).successful = false := by
  decide +kernel

end Ports
