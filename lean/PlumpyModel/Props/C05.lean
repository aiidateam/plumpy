import PlumpyModel.Status.Model
import PlumpyModel.PM.LProof5
import PlumpyModel.PM.LProof11
import PlumpyModel.PM.Proof15
import PlumpyModel.PM.Proof13
import PlumpyModel.PM.Proof18
/-!
# C05 — pause/play is transparent: nothing runs while paused

Model: `PMF`.  Every activation of a step function or continuation is logged in `Cfg.trace` together with the value of
`paused` at the moment it starts.

Transparency itself ("the executed steps, the context and the final result are those of the uninterrupted run") is proved
below as a simulation between the run with pause/play requests and the run of its *reference history* (the same history
without pause and play and without some of its ticks; in the fourth class some ticks are also moved later), for four nested
classes of histories of ticks, pause and play requests placed anywhere, and wake-up requests (`resume`, completion of an
awaited future, its done-callback, `call_soon`, a non-raising callback) placed
* at moments at which no pause is in effect (`C05_transparent_partial`);
* also while the process is held by a pause on a wait (`C05_transparent_partial2`);
* also between a pause request that interrupted a pending wait and the next tick (`C05_transparent_partial3`; fuel hypothesis
  with one iteration of slack);
* also — `resume`, `call_soon`, non-raising callbacks, the completion of futures the state just left did not await — while the
  process is held at a step boundary in CREATED or RUNNING (`C05_transparent_partial4`): the reference run is then ahead by the
  next step, and the reference history delivers those requests *before* the tick that ended the previous step, by deferring
  that tick.
Still excluded: during such a hold, the completion of a future that the state just left awaited and the run of a done-callback;
histories with kill / fail / cancel / failing callbacks.  The unrestricted statement `C05_transparent_full` is **false** as it stands
(`C05_transparent_full_false`: a program that awaits one future under two context keys — the real
`to_context` keeps one key per future); the statement to aim at is `C05_transparent_full_distinct`.  The interleavings outside
the proved classes are decided by the Python monitor `c05-transparent` only.
-/
namespace PMF

/-- `pause()` and `play()` never raise, in any configuration -/
theorem C05_pause_total (c : Cfg) (e : Exc) : (pause c).2 ≠ .raised e := by
  unfold pause
  iterate 4 (split; · nofun)
  split
  · dsimp only; split <;> nofun
  · nofun

theorem C05_play_total (c : Cfg) (e : Exc) : (play c).2 ≠ .raised e := by
  rw [play_ret]; nofun

/-- **no user code while paused**: for every user program and every history of ticks, scheduled callbacks and
pause / play / kill / resume / fail / call_soon / cancel / complete requests, no step function or continuation is ever
started while the process reports paused. -/
theorem C05_nothing_runs_while_paused (P : Prog) (nf : Nat) (evs : List Ev) :
    ∀ a ∈ (run P (init nf) evs).trace, a.paused = false :=
  C05_no_user_code_while_paused P nf evs

/-- `play()` always returns `True` and leaves the process un-paused -/
theorem C05_play_unpauses (c : Cfg) : (play c).1.paused = none ∧ (play c).2 = .bool true :=
  ⟨play_paused c, play_ret c⟩

/-- `play()` cancels a pause that has not yet taken effect: no pause request stays pending -/
theorem C05_play_cancels_pending_pause (c : Cfg) (hp : c.paused = none) :
    (play c).1.pausing = none ∧ ∀ i, c.pausing = some i → actionStatus (play c).1 i ≠ .pending := by
  refine play_elim (Q := fun d => d.pausing = none ∧ ∀ i, c.pausing = some i → actionStatus d i ≠ .pending) c
    (fun _ hq => ⟨hq, fun i hi => nomatch hq.symm.trans hi⟩) (fun i _ hi => ⟨rfl, fun j hj => ?_⟩)
    (fun _ h _ => nomatch h.symm.trans hp) fun _ h _ => nomatch h.symm.trans hp
  cases hi.symm.trans hj
  show actionStatus (cancelAction c i) i ≠ .pending
  rw [cancelAction_status]
  split
  · nofun
  · assumption

/-! ### transparency as a simulation

`unpaused P c evs` is the *reference history* of a history `evs` with pauses started in `c`: every `pause` and `play` is
dropped, and so is every `tick` that finds the stepping task suspended on a pause future (`evImage`).  `Sim P c d` relates a
configuration `c` of the run with pauses to a configuration `d` of the reference run; it is a disjunction of three phases:

* `InStep`: both runs are at the same point of the same step (same state object up to the index of the wait future, same
  trace, context, process future, logs, scheduled callbacks, stepping flag and program counter); a pause may have been
  requested but has not taken effect;
* `QW`: as before, but the pause request hit a pending wait: the run with pauses has interrupted its wait future and will
  re-arm the wait at its next tick;
* `Lag`: the run with pauses is suspended on a pause future, and the reference run is what the loop of
  `step_until_terminated` makes of that very configuration (it is ahead by the steps the other one still has to run). -/

/-- **transparency (partial): the run with pauses is simulated by the run of its reference history.**
For every program, every number of awaited futures and every history `evs` consisting of ticks, `pause` and `play` requests
at arbitrary positions, and `resume` / `complete` / awaitable-done / `call_soon` / non-raising-callback events at quiet
positions (`quiet`: the stepping task is
not suspended on a pause future, and the current wait was not interrupted by a pause request that the stepping task has
still to notice; a pause may be requested but not yet in effect) — `admissible`; no kill, fail, cancel, failing callback —, the
configuration reached by `evs` and the configuration reached by the reference history `unpaused … evs` (no pause, no play,
fewer ticks) are related by `Sim` — provided no tick of the reference run exhausts the fuel of the model's step loop
(`fuelOk`: the real code would not terminate there).

Missing with respect to `C05_transparent_full`: wake-up requests that arrive while the process is held by a pause (or
released by play but the stepping task not yet woken), or between a pause request that interrupted a pending wait and the
next tick; histories with kill / fail / cancel / a failing scheduled callback. -/
theorem C05_transparent_partial (P : Prog) (nf : Nat) (evs : List Ev)
    (hadm : admissible P (init nf) evs = true)
    (hfuel : fuelOk P (init nf) (unpaused P (init nf) evs) = true) :
    Sim P (run P (init nf) evs) (run P (init nf) (unpaused P (init nf) evs)) :=
  run_sim P evs _ _ (sim_init P nf) (invP_init nf) (inv_init nf) hadm hfuel

/-- **same steps, same context, same result (partial)**: under the hypotheses of `C05_transparent_partial`, if the run with
pauses has terminated then the run without any pause or play request has terminated in the *same state object* (result and
success flag, or exception, or killed), having executed the same sequence of step functions with the same arguments and
keyword arguments (none of them while paused, on either side), with the same context, the same process future, the same log
of entered states, the same cleanups and — apart from the paused/played notifications themselves — the same listener
notifications. -/
theorem C05_same_result_partial (P : Prog) (nf : Nat) (evs : List Ev)
    (hadm : admissible P (init nf) evs = true)
    (hfuel : fuelOk P (init nf) (unpaused P (init nf) evs) = true)
    (hterm : terminal (run P (init nf) evs).st.label = true) :
    (run P (init nf) (unpaused P (init nf) evs)).st = (run P (init nf) evs).st ∧
    (run P (init nf) (unpaused P (init nf) evs)).trace = (run P (init nf) evs).trace ∧
    (run P (init nf) (unpaused P (init nf) evs)).ctx = (run P (init nf) evs).ctx ∧
    (run P (init nf) (unpaused P (init nf) evs)).fut = (run P (init nf) evs).fut ∧
    (run P (init nf) (unpaused P (init nf) evs)).entered = (run P (init nf) evs).entered ∧
    (run P (init nf) (unpaused P (init nf) evs)).cleanups = (run P (init nf) evs).cleanups ∧
    (run P (init nf) (unpaused P (init nf) evs)).notif.filter notPP = (run P (init nf) evs).notif.filter notPP ∧
    (∀ a ∈ (run P (init nf) evs).trace, a.paused = false) := by
  exact same_result_of ((C05_transparent_partial P nf evs hadm hfuel).of_terminal hterm) (C05_nothing_runs_while_paused P nf evs)

/-- **at every quiet moment both runs are at the same point (partial)**: under the same hypotheses, whenever the stepping
task of the run with pauses is not suspended on a pause future and its current wait is not interrupted (in particular:
before the first pause takes effect, and after a play once the stepping task has been woken), the reference run is in the
same state (up to the index of the wait future), with the same trace, context, stepping flag, scheduled callbacks and
awaited futures. -/
theorem C05_same_point_when_quiet_partial (P : Prog) (nf : Nat) (evs : List Ev)
    (hadm : admissible P (init nf) evs = true)
    (hfuel : fuelOk P (init nf) (unpaused P (init nf) evs) = true)
    (hq : quiet (run P (init nf) evs) = true) :
    SSim (run P (init nf) evs).st (run P (init nf) (unpaused P (init nf) evs)).st ∧
    (run P (init nf) (unpaused P (init nf) evs)).trace = (run P (init nf) evs).trace ∧
    (run P (init nf) (unpaused P (init nf) evs)).ctx = (run P (init nf) evs).ctx ∧
    (run P (init nf) (unpaused P (init nf) evs)).stepping = (run P (init nf) evs).stepping ∧
    (run P (init nf) (unpaused P (init nf) evs)).ready = (run P (init nf) evs).ready ∧
    (run P (init nf) (unpaused P (init nf) evs)).efs = (run P (init nf) evs).efs := by
  obtain ⟨h1, h2⟩ := (C05_transparent_partial P nf evs hadm hfuel).at_quiet hq
  exact ⟨h1, congrArg ShRec.trace h2, congrArg ShRec.ctx h2, congrArg ShRec.stepping h2, congrArg ShRec.ready h2,
    congrArg ShRec.efs h2⟩

/-- **the run with pauses is never ahead and never out of order (partial)**: under the same hypotheses, at *every* moment of
the history the steps executed so far by the run with pauses (functions, arguments, keyword arguments, newest first) are the
older part of what the reference run has executed: pausing only delays steps, it neither adds, nor drops, nor reorders
any (and by `C05_same_result_partial` nothing is missing at termination). -/
theorem C05_never_ahead_partial (P : Prog) (nf : Nat) (evs : List Ev)
    (hadm : admissible P (init nf) evs = true)
    (hfuel : fuelOk P (init nf) (unpaused P (init nf) evs) = true) :
    ∃ later, (run P (init nf) (unpaused P (init nf) evs)).trace = later ++ (run P (init nf) evs).trace :=
  (C05_transparent_partial P nf evs hadm hfuel).never_ahead

/-- **the reference history is the history without its pause and play requests and without some of its ticks**: it is a
sublist of the erasure `erasePP evs`, it contains no pause and no play, and its events other than ticks are exactly those
of `erasePP evs`, in the same order. -/
theorem C05_reference_history_is_erasure (P : Prog) (c : Cfg) (evs : List Ev) :
    (unpaused P c evs).Sublist (erasePP evs) ∧
    (∀ e ∈ unpaused P c evs, e ≠ .pause ∧ e ≠ .play) ∧
    (unpaused P c evs).filter (fun e => !isTick e) = (erasePP evs).filter (fun e => !isTick e) :=
  (unpaused_erases P evs c).spec

/-! the unrestricted statement (refuted below for programs that await one future under two keys; open for the others):
wake-up requests may arrive at any moment at which the run with pauses accepts them, also while a pause is requested or in
effect -/

/-- a request of the uninterrupted run that is effective in the run with pauses: a `resume` arrives while WAITING on a wait
that has no outcome yet, an awaitable-done callback runs when it is scheduled -/
def evAllowedFull (c : Cfg) : Ev → Bool
  | .tick => true
  | .pause => true
  | .play => true
  | .resume _ =>
      match c.st with
      | .waiting _ wf wk _ =>
          match c.wfs[wf]? with
          | some .pending => true
          | some (.interrupted _) => wk.isNone
          | _ => false
      | _ => false
  | .complete _ _ => true
  | .tickCb (.adone f) => c.ready.contains (.adone f)
  | _ => false

def admissibleFull (P : Prog) : Cfg → List Ev → Bool
  | _, [] => true
  | c, e :: es => evAllowedFull c e && admissibleFull P (step P c e).1 es

/-- **transparency, full statement** (FALSE as it stands: `C05_transparent_full_false`; see `C05_transparent_full_distinct`.
`C05_transparent_partial` / `…_partial2` / `…_partial3` / `…_partial4` prove its instances for four nested classes of
histories, with the reference history computed by `unpaused` / `unpaused2` / `unpaused3` / `unpaused4`):
for every history of ticks, pause/play requests and effective wake-up requests there is a history without pause and play,
with the same requests other than ticks, that ends in the same terminal state with the same trace and context.  For wake-ups
that arrive while the run with pauses is held the reference history may have to deliver them later relative to its own
ticks, hence a permutation instead of an erasure. -/
def C05_transparent_full : Prop :=
  ∀ (P : Prog) (nf : Nat) (evs : List Ev), admissibleFull P (init nf) evs = true →
    ∃ evs' : List Ev, (∀ e ∈ evs', e ≠ .pause ∧ e ≠ .play) ∧
      (evs'.filter (fun e => !isTick e)).Perm ((erasePP evs).filter (fun e => !isTick e)) ∧
      (fuelOk P (init nf) evs' = true → terminal (run P (init nf) evs).st.label = true →
        (run P (init nf) evs').st = (run P (init nf) evs).st ∧
        (run P (init nf) evs').trace = (run P (init nf) evs).trace ∧
        (run P (init nf) evs').ctx = (run P (init nf) evs).ctx)

/-- **the full statement is false as it stands**: `dupP` awaits ONE external future under TWO context keys (5 and 6) in one
`ToContext` and then returns what the context holds under key 6.  In `dupHist` the wait is resumed, the future completes, and a
pause holds the stepping task at the step boundary after the wait; the future's done-callback runs during the hold — as the
callback of a state that was left it files the result under the LAST key registered (6), and the next step returns 3.  No
history without pause and play that issues the same three requests (any order, any ticks) ends with result 3: run on the
WAITING state the callback files the result under the FIRST key (5), run later it is too late for the step that reads the
context (`dup_no_reference`, an exhaustive exploration of 44 configurations).  The real `to_context` keeps one key per future
(a dict keyed by the future), so this is a property of the model outside the class of programs it is compared on, not of
plumpy: on the real library both runs file the result under `k6` (DESIGN.md, C05).  The statement to aim at is
`C05_transparent_full_distinct`. -/
theorem C05_transparent_full_false : ¬ C05_transparent_full := by
  intro h
  obtain ⟨evs', _, h2, h3⟩ := h dupP 1 dupHist (by decide +kernel)
  rw [dupHist_reqs] at h2
  obtain ⟨hf, hne⟩ := dup_no_reference evs' h2
  have := (h3 hf (by rw [dupHist_result]; decide)).1
  rw [dupHist_result] at this
  exact hne this

example : ¬ B10.AwDistinct dupP := by
  intro h
  have := h 0 [] [] []
  simp [dupP, B10.OutOk, B10.DistinctF] at this

/-- **transparency, full statement for programs that never await the same future twice in one `ToContext`** (`AwDistinct`,
the dict semantics of `Waiting._awaiting`).  Not proved: `C05_transparent_full_on_partial3` proves the instances in which the
wake-ups arrive anywhere except while the process is held at a step boundary in CREATED or RUNNING, with the identity
permutation and an erasure; `C05_transparent_full_on_partial4` adds, at those positions, `resume`, the completion of a future
that the state just left did not await (and `call_soon` / non-raising callbacks, which `admissibleFull` does not mention),
again with the identity permutation of the requests, ticks being moved.  Missing: at those positions, the completion of a
future the state just left awaited (its done-callback is scheduled in one run and dropped by `Waiting.exit` in the other: the
relation would have to tolerate a scheduled callback that never runs) and the run of a done-callback (it has to file the
result under the same key on a WAITING state and on a state that was left — where `AwDistinct` is needed).  An exhaustive
search (Lean interpreter, all `admissibleFull` histories of length ≤ 11 of a two-wait workchain with synchronous and
asynchronous steps, ≈ 170 000 terminated histories) found no counterexample, and none that needs a reordering of the requests:
in the model, moving ticks suffices (in ≈ 20 000 of them the erasure `unpaused` does not work and a wake-up has to come
*before* the tick that ended the previous step).  On the real library the loop is FIFO, so there the reference run may need
the requests themselves reordered (DESIGN.md, C05). -/
def C05_transparent_full_distinct : Prop :=
  ∀ (P : Prog) (nf : Nat) (evs : List Ev), B10.AwDistinct P → admissibleFull P (init nf) evs = true →
    ∃ evs' : List Ev, (∀ e ∈ evs', e ≠ .pause ∧ e ≠ .play) ∧
      (evs'.filter (fun e => !isTick e)).Perm ((erasePP evs).filter (fun e => !isTick e)) ∧
      (fuelOk P (init nf) evs' = true → terminal (run P (init nf) evs).st.label = true →
        (run P (init nf) evs').st = (run P (init nf) evs).st ∧
        (run P (init nf) evs').trace = (run P (init nf) evs).trace ∧
        (run P (init nf) evs').ctx = (run P (init nf) evs).ctx)

/-! ### second part: wake-ups that arrive while the process is held by a pause on a wait

`admissible2` admits a wake-up request also at a position at which the stepping task is
suspended on a pause future (the process is held by a pause, or released by play and not yet woken) *and the state is WAITING
on a wait without outcome* — and, once such a wake-up has arrived, every further one during the same hold (the flag `g` of
`admissible2` / `unpaused2`, computed by `nextG`, remembers that).  The reference history `unpaused2` is again an erasure:
it keeps the tick that wakes the stepping task from such a hold (both runs resume the wait at that tick).  The simulation
relation `Sim2` adds the phase `LagW` to `Sim`: the run with pauses is suspended on a pause future at a step boundary in
WAITING and the reference run is suspended on that wait — through the view `onWait` that is `InStep`. -/

/-- **transparency (second partial class): the run with pauses is simulated by the run of its reference history.**
As `C05_transparent_partial`, for the larger class `admissible2 P false`: ticks, `pause`, `play` anywhere; `resume` /
`complete` / awaitable-done / `call_soon` / non-raising callback ticks at quiet positions (`quiet`) **and** at positions
where the stepping task is suspended on a pause future with the process WAITING on a wait that has no outcome yet
(`heldPc c && pendingWait c`), and at every later position of the same hold (`wakeOk`).  Still excluded, by
`admissible2` (a decidable predicate on the history): wake-ups while the process is held at a step boundary in a state other
than WAITING (CREATED, RUNNING: the reference run is already ahead by the next step); wake-ups between a pause request that
interrupted a pending wait and the next tick (`waitInterrupted`); kill / fail / cancel / a failing callback. -/
theorem C05_transparent_partial2 (P : Prog) (nf : Nat) (evs : List Ev)
    (hadm : admissible2 P false (init nf) evs = true)
    (hfuel : fuelOk P (init nf) (unpaused2 P false (init nf) evs) = true) :
    ∃ g, Sim2 P g (run P (init nf) evs) (run P (init nf) (unpaused2 P false (init nf) evs)) :=
  run_sim2 P evs false _ _ (sim2_init P nf) (invP_init nf) (inv_init nf) hadm hfuel

/-- **same steps, same context, same result (second partial class)**: under the hypotheses of `C05_transparent_partial2`, if
the run with pauses has terminated then the reference run (no pause, no play) has terminated in the same state object, with
the same executed steps (functions, arguments, keyword arguments), context, process future, log of entered states, cleanups
and — apart from paused/played — listener notifications; and nothing ran while paused. -/
theorem C05_same_result_partial2 (P : Prog) (nf : Nat) (evs : List Ev)
    (hadm : admissible2 P false (init nf) evs = true)
    (hfuel : fuelOk P (init nf) (unpaused2 P false (init nf) evs) = true)
    (hterm : terminal (run P (init nf) evs).st.label = true) :
    (run P (init nf) (unpaused2 P false (init nf) evs)).st = (run P (init nf) evs).st ∧
    (run P (init nf) (unpaused2 P false (init nf) evs)).trace = (run P (init nf) evs).trace ∧
    (run P (init nf) (unpaused2 P false (init nf) evs)).ctx = (run P (init nf) evs).ctx ∧
    (run P (init nf) (unpaused2 P false (init nf) evs)).fut = (run P (init nf) evs).fut ∧
    (run P (init nf) (unpaused2 P false (init nf) evs)).entered = (run P (init nf) evs).entered ∧
    (run P (init nf) (unpaused2 P false (init nf) evs)).cleanups = (run P (init nf) evs).cleanups ∧
    (run P (init nf) (unpaused2 P false (init nf) evs)).notif.filter notPP = (run P (init nf) evs).notif.filter notPP ∧
    (∀ a ∈ (run P (init nf) evs).trace, a.paused = false) := by
  obtain ⟨g, hs⟩ := C05_transparent_partial2 P nf evs hadm hfuel
  exact same_result_of (hs.of_terminal hterm) (C05_nothing_runs_while_paused P nf evs)

/-- **never ahead, never out of order (second partial class)**: at every moment of such a history the steps executed so far
by the run with pauses are the older part of what the reference run has executed. -/
theorem C05_never_ahead_partial2 (P : Prog) (nf : Nat) (evs : List Ev)
    (hadm : admissible2 P false (init nf) evs = true)
    (hfuel : fuelOk P (init nf) (unpaused2 P false (init nf) evs) = true) :
    ∃ later, (run P (init nf) (unpaused2 P false (init nf) evs)).trace = later ++ (run P (init nf) evs).trace := by
  obtain ⟨g, hs⟩ := C05_transparent_partial2 P nf evs hadm hfuel
  exact hs.never_ahead

/-- **the reference history of the second class is again an erasure**: a sublist of `erasePP evs` without pause and play whose
events other than ticks are exactly those of `erasePP evs` in the same order — no wake-up has to be reordered, only ticks are
dropped (in particular the instance of `C05_transparent_full` for these histories holds with the identity permutation). -/
theorem C05_reference_history_is_erasure2 (P : Prog) (g : Bool) (c : Cfg) (evs : List Ev) :
    (unpaused2 P g c evs).Sublist (erasePP evs) ∧
    (∀ e ∈ unpaused2 P g c evs, e ≠ .pause ∧ e ≠ .play) ∧
    (unpaused2 P g c evs).filter (fun e => !isTick e) = (erasePP evs).filter (fun e => !isTick e) :=
  (unpaused2_erases P evs g c).spec

/-- **the second class contains the first**: every history admitted by `C05_transparent_partial` is admitted by
`C05_transparent_partial2`, with the same reference history. -/
theorem C05_partial2_extends_partial (P : Prog) (c : Cfg) (evs : List Ev) (h : admissible P c evs = true) :
    admissible2 P false c evs = true ∧ unpaused2 P false c evs = unpaused P c evs :=
  admissible_sub P evs c h

/-! ### third part: wake-ups between a pause request that interrupted a pending wait and the next tick

`admissible3` admits a wake-up request at *every* position at which the stepping task is
not suspended on a pause future — the quiet ones and those at which the current wait carries the interruption of a pause
request that the stepping task has still to notice (the wake-up is then parked on the state object and put on the re-armed
wait at the next tick) — and at the held positions of `admissible2`.  The reference history `unpaused3` drops, in addition,
the tick at which the stepping task re-arms an interrupted wait and is then held by the pause.  The relation `Sim3` replaces
the phase `QW` by `QW2` (through the view `unint` — interruption removed, parked wake-up on the future — it is `InStep`).
When `play` retracted the pause before that tick, the run with pauses resumes its wait one loop iteration later than the
reference run in the same tick: the fuel hypothesis is `fuelOkN … (fuel0 - 1)`, one iteration of slack. -/

/-- **transparency (third partial class): the run with pauses is simulated by the run of its reference history.**
For every program and every history of ticks, `pause`, `play` anywhere and `resume` / `complete` / awaitable-done /
`call_soon` / non-raising callback ticks at every position accepted by `admissible3 P false` (`wakeOk3`), i.e. at all
positions except those at which the stepping task is suspended on a pause future (held by a pause, or released and not yet
woken), no wake-up has been accepted during this hold (and the hold did not begin with the re-arming of an interrupted
wait), and the state is not WAITING on a wait without outcome — in reachable configurations: the process is held at a step
boundary in CREATED or RUNNING, where the reference run is already ahead by the next step.  No kill / fail / cancel / failing
callback.  The fuel hypothesis is the one of `C05_transparent_partial` with one loop iteration of slack. -/
theorem C05_transparent_partial3 (P : Prog) (nf : Nat) (evs : List Ev)
    (hadm : admissible3 P false (init nf) evs = true)
    (hfuel : fuelOkN P (fuel0 - 1) (init nf) (unpaused3 P false (init nf) evs) = true) :
    ∃ g, Sim3 P g (run P (init nf) evs) (run P (init nf) (unpaused3 P false (init nf) evs)) :=
  run_sim3 P evs false _ _ (sim3_init P nf) (invP_init nf) (inv_init nf) hadm hfuel

/-- **same steps, same context, same result (third partial class)**: under the hypotheses of `C05_transparent_partial3`, if
the run with pauses has terminated then the reference run (no pause, no play, the same other requests in the same order) has
terminated in the same state object, with the same executed steps, context, process future, log of entered states, cleanups
and — apart from paused/played — listener notifications; and nothing ran while paused. -/
theorem C05_same_result_partial3 (P : Prog) (nf : Nat) (evs : List Ev)
    (hadm : admissible3 P false (init nf) evs = true)
    (hfuel : fuelOkN P (fuel0 - 1) (init nf) (unpaused3 P false (init nf) evs) = true)
    (hterm : terminal (run P (init nf) evs).st.label = true) :
    (run P (init nf) (unpaused3 P false (init nf) evs)).st = (run P (init nf) evs).st ∧
    (run P (init nf) (unpaused3 P false (init nf) evs)).trace = (run P (init nf) evs).trace ∧
    (run P (init nf) (unpaused3 P false (init nf) evs)).ctx = (run P (init nf) evs).ctx ∧
    (run P (init nf) (unpaused3 P false (init nf) evs)).fut = (run P (init nf) evs).fut ∧
    (run P (init nf) (unpaused3 P false (init nf) evs)).entered = (run P (init nf) evs).entered ∧
    (run P (init nf) (unpaused3 P false (init nf) evs)).cleanups = (run P (init nf) evs).cleanups ∧
    (run P (init nf) (unpaused3 P false (init nf) evs)).notif.filter notPP = (run P (init nf) evs).notif.filter notPP ∧
    (∀ a ∈ (run P (init nf) evs).trace, a.paused = false) := by
  obtain ⟨g, hs⟩ := C05_transparent_partial3 P nf evs hadm hfuel
  exact same_result_of (hs.of_terminal hterm) (C05_nothing_runs_while_paused P nf evs)

/-- **never ahead, never out of order (third partial class)** -/
theorem C05_never_ahead_partial3 (P : Prog) (nf : Nat) (evs : List Ev)
    (hadm : admissible3 P false (init nf) evs = true)
    (hfuel : fuelOkN P (fuel0 - 1) (init nf) (unpaused3 P false (init nf) evs) = true) :
    ∃ later, (run P (init nf) (unpaused3 P false (init nf) evs)).trace = later ++ (run P (init nf) evs).trace := by
  obtain ⟨g, hs⟩ := C05_transparent_partial3 P nf evs hadm hfuel
  exact hs.never_ahead

/-- **the instance of the full statement for the third class**: for these histories the reference history required by
`C05_transparent_full` exists and is an erasure — no pause, no play, the other requests in their original order (the
permutation is the identity), a sublist of `erasePP evs`. -/
theorem C05_transparent_full_on_partial3 (P : Prog) (nf : Nat) (evs : List Ev)
    (hadm : admissible3 P false (init nf) evs = true) :
    ∃ evs' : List Ev, evs'.Sublist (erasePP evs) ∧ (∀ e ∈ evs', e ≠ .pause ∧ e ≠ .play) ∧
      evs'.filter (fun e => !isTick e) = (erasePP evs).filter (fun e => !isTick e) ∧
      (fuelOkN P (fuel0 - 1) (init nf) evs' = true → terminal (run P (init nf) evs).st.label = true →
        (run P (init nf) evs').st = (run P (init nf) evs).st ∧
        (run P (init nf) evs').trace = (run P (init nf) evs).trace ∧
        (run P (init nf) evs').ctx = (run P (init nf) evs).ctx) := by
  obtain ⟨s1, s2, s3⟩ := (unpaused3_erases P evs false (init nf)).spec
  refine ⟨unpaused3 P false (init nf) evs, s1, s2, s3, ?_⟩
  intro hf ht
  obtain ⟨h1, h2, h3, _⟩ := C05_same_result_partial3 P nf evs hadm hf ht
  exact ⟨h1, h2, h3⟩

/-- **the third class contains the second** (and hence the first) -/
theorem C05_partial3_extends_partial2 (P : Prog) (c : Cfg) (evs : List Ev) (h : admissible2 P false c evs = true) :
    admissible3 P false c evs = true :=
  admissible2_sub3 P evs false false c id h

/-- the fuel hypothesis with slack implies the plain one -/
theorem C05_fuel_slack (P : Prog) (c : Cfg) (evs : List Ev) (h : fuelOkN P (fuel0 - 1) c evs = true) : fuelOk P c evs = true :=
  fuelOkN_le P _ (Nat.sub_le _ _) evs c h

/-! ### fourth part: wake-ups while the process is held at a step boundary in CREATED or RUNNING

There the reference run is ahead by the next step, and a wake-up has to reach it *before* the tick that ended the previous
step.  `unpaused4` **defers that tick**: a tick of the run with pauses
whose first step ends with the pause taking effect at a step boundary in CREATED or RUNNING (`defers`) is not emitted when it
happens but when the held stepping task is woken, or after the last request; the wake-ups of the hold are emitted at once.
The reference history is no longer an erasure: it is a *permutation* of an erasure in which only ticks have moved (later) —
the requests other than ticks keep their order (`C05_reference_history4`).  While a tick is deferred the two runs are related by
`Pend`: the run with pauses corresponds to `firstStep d`, the reference configuration after the first step of the tick it
has not received yet; a wake-up keeps that because it commutes with that step (`C05_wakeup_commutes_with_first_step`). -/

/-- **transparency (fourth partial class): the run with pauses is simulated by the run of its reference history.**
For every program and every history of ticks, `pause`, `play` anywhere, the wake-ups of `C05_transparent_partial3` at the
positions admitted there, **and**, while the process is held at a step boundary in CREATED or RUNNING by a pause that took
effect after the first step of a tick (`defers`: the stepping task was not suspended on a pause future, its wait not
interrupted, and that step was a transition into RUNNING — the user code returned a continuation, or the wait had been resumed
with a value — or the task had not started yet), the requests `pendOk L`: `resume` (refused: the process is not WAITING),
`call_soon`, the run of a non-raising scheduled callback, and the completion of any external future that carried no
done-callback when that tick started (`L`: the futures the program was waiting on; in particular every future the program has
not awaited yet).  The reference history `unpaused4` delivers these requests *before* the tick after which the process was
held.  At the end of the history the two runs are related by `Sim3`, the relation of the third class.

Still excluded (by `admissible4`, a decidable predicate on the history): during such a hold, the completion of a future that
carried a done-callback when the deferred tick started and the run of a done-callback (`tickCb (adone f)`; on a program
that awaits one future under two keys this is where `C05_transparent_full_false` lives); wake-ups at a hold in CREATED or
RUNNING that did not begin with a `defers` tick (none is known to be reachable); kill / fail / cancel / a failing callback. -/
theorem C05_transparent_partial4 (P : Prog) (nf : Nat) (evs : List Ev)
    (hadm : admissible4 P false none (init nf) evs = true)
    (hfuel : fuelOkN P (fuel0 - 1) (init nf) (unpaused4 P false none (init nf) evs) = true) :
    ∃ g, Sim3 P g (run P (init nf) evs) (run P (init nf) (unpaused4 P false none (init nf) evs)) :=
  run_sim4 P evs false none _ _ (sim4_init P nf) (invP_init nf) (inv_init nf) hadm hfuel

/-- **same steps, same context, same result (fourth partial class)**: under the hypotheses of `C05_transparent_partial4`, if
the run with pauses has terminated then the reference run (no pause, no play, the same other requests in the same order,
ticks dropped or moved later) has terminated in the same state object, with the same executed steps (functions, arguments,
keyword arguments), context, process future, log of entered states, cleanups and — apart from paused/played — listener
notifications; and nothing ran while paused. -/
theorem C05_same_result_partial4 (P : Prog) (nf : Nat) (evs : List Ev)
    (hadm : admissible4 P false none (init nf) evs = true)
    (hfuel : fuelOkN P (fuel0 - 1) (init nf) (unpaused4 P false none (init nf) evs) = true)
    (hterm : terminal (run P (init nf) evs).st.label = true) :
    (run P (init nf) (unpaused4 P false none (init nf) evs)).st = (run P (init nf) evs).st ∧
    (run P (init nf) (unpaused4 P false none (init nf) evs)).trace = (run P (init nf) evs).trace ∧
    (run P (init nf) (unpaused4 P false none (init nf) evs)).ctx = (run P (init nf) evs).ctx ∧
    (run P (init nf) (unpaused4 P false none (init nf) evs)).fut = (run P (init nf) evs).fut ∧
    (run P (init nf) (unpaused4 P false none (init nf) evs)).entered = (run P (init nf) evs).entered ∧
    (run P (init nf) (unpaused4 P false none (init nf) evs)).cleanups = (run P (init nf) evs).cleanups ∧
    (run P (init nf) (unpaused4 P false none (init nf) evs)).notif.filter notPP = (run P (init nf) evs).notif.filter notPP ∧
    (∀ a ∈ (run P (init nf) evs).trace, a.paused = false) := by
  obtain ⟨g, hs⟩ := C05_transparent_partial4 P nf evs hadm hfuel
  exact same_result_of (hs.of_terminal hterm) (C05_nothing_runs_while_paused P nf evs)

/-- **never ahead, never out of order (fourth partial class)**: at the end of every such history (hence, the class being
closed under prefixes, at every moment of it — the reference history of a prefix ends with the deferred tick, if any) the
steps executed so far by the run with pauses are the older part of what the reference run has executed. -/
theorem C05_never_ahead_partial4 (P : Prog) (nf : Nat) (evs : List Ev)
    (hadm : admissible4 P false none (init nf) evs = true)
    (hfuel : fuelOkN P (fuel0 - 1) (init nf) (unpaused4 P false none (init nf) evs) = true) :
    ∃ later, (run P (init nf) (unpaused4 P false none (init nf) evs)).trace = later ++ (run P (init nf) evs).trace := by
  obtain ⟨g, hs⟩ := C05_transparent_partial4 P nf evs hadm hfuel
  exact hs.never_ahead

/-- **the reference history of the fourth class**: it contains no pause and no play; its requests other than ticks are those
of `erasePP evs` **in the same order** — in particular a permutation of them, the clause of `C05_transparent_full`: the
wake-ups of a hold reach the reference run before the tick that preceded them because the *tick* is moved, not they —; and up
to one tick delivered after the last request it is a sublist of `erasePP evs` (ticks are dropped, or emitted in the place of a
later tick). -/
theorem C05_reference_history4 (P : Prog) (g : Bool) (p : Option (List Nat)) (c : Cfg) (evs : List Ev) :
    (∀ e ∈ unpaused4 P g p c evs, e ≠ .pause ∧ e ≠ .play) ∧
    (unpaused4 P g p c evs).filter (fun e => !isTick e) = (erasePP evs).filter (fun e => !isTick e) ∧
    ((unpaused4 P g p c evs).filter (fun e => !isTick e)).Perm ((erasePP evs).filter (fun e => !isTick e)) ∧
    (unpaused4 P g p c evs).Sublist (erasePP evs ++ [.tick]) := by
  obtain ⟨t, ht, h⟩ := unpaused4_erases P evs g p c
  exact ⟨h.no_pp (by rcases ht with rfl | rfl <;> simp), unpaused4_nonticks P evs g p c, by rw [unpaused4_nonticks P evs g p c],
    h.sublist.trans ((List.Sublist.refl _).append (by rcases ht with rfl | rfl <;> simp))⟩

/-- **the instance of the full statement for the fourth class**: for these histories the reference history required by
`C05_transparent_full` / `C05_transparent_full_distinct` exists (fuel hypothesis with one iteration of slack). -/
theorem C05_transparent_full_on_partial4 (P : Prog) (nf : Nat) (evs : List Ev)
    (hadm : admissible4 P false none (init nf) evs = true) :
    ∃ evs' : List Ev, (∀ e ∈ evs', e ≠ .pause ∧ e ≠ .play) ∧
      (evs'.filter (fun e => !isTick e)).Perm ((erasePP evs).filter (fun e => !isTick e)) ∧
      (fuelOkN P (fuel0 - 1) (init nf) evs' = true → terminal (run P (init nf) evs).st.label = true →
        (run P (init nf) evs').st = (run P (init nf) evs).st ∧
        (run P (init nf) evs').trace = (run P (init nf) evs).trace ∧
        (run P (init nf) evs').ctx = (run P (init nf) evs).ctx) := by
  obtain ⟨r1, _, r3, _⟩ := C05_reference_history4 P false none (init nf) evs
  refine ⟨unpaused4 P false none (init nf) evs, r1, r3, ?_⟩
  intro hf ht
  obtain ⟨h1, h2, h3, _⟩ := C05_same_result_partial4 P nf evs hadm hf ht
  exact ⟨h1, h2, h3⟩

/-- **the fourth class contains the third** (and hence the second and the first) -/
theorem C05_partial4_extends_partial3 (P : Prog) (c : Cfg) (evs : List Ev) (h : admissible3 P false c evs = true) :
    admissible4 P false none c evs = true :=
  admissible3_sub4 P evs false none c h

/-- **a wake-up request commutes with the step after which the process is held** (the one-step fact behind the fourth class,
on any configuration `d` without pending interrupt action, live and not closed): if the first step of the next tick is a
transition into RUNNING — the user code suspended at its last `await` returns a continuation, or the wait of the stepping
task has a result — or the stepping task has not started (`okFirst`), and the request `e` is a `resume` (`ResumeNoop`: the
state is not WAITING or its wait has a result, so the request changes nothing), a `call_soon`, the run of a non-raising
scheduled callback, or the completion of a future that carries no done-callback (`pendOk L`, `L` ⊇ the futures carrying one),
then delivering `e` before that step or after it gives the same configuration.  It fails for the completion of a future the
state being left awaits: before the step the done-callback is scheduled, after it the callback was dropped by `Waiting.exit`. -/
theorem C05_wakeup_commutes_with_first_step (P : Prog) (L : List Nat) (d : Cfg) (e : Ev) (hok : okFirst d = true)
    (hi : d.interrupt = none) (hl : terminal d.st.label = false) (hc : d.closed = false) (hr : ResumeNoop d)
    (hL : ∀ f, f ∈ d.efCb → f ∈ L) (he : pendOk L e = true) :
    firstStep (step P d e).1 = (step P (firstStep d) e).1 := by
  obtain ⟨f1, f2, f3⟩ := firstStep_fields d hok hi hl hc
  rw [wake_upd P d L e he hL hr, firstStep_upd d _ _ hok hi hl hc,
    wake_upd P (firstStep d) L e he (fun f hf => hL f (f3 f hf)) (firstStep_resumeNoop d hok hi hl hc hr), f1, f2]

-- non-vacuity: a pause takes effect at the step boundary, the continuation only runs after play
section
private def two : Prog := fun fn _ _ _ => if fn = 0 then ⟨1, .ret (.cont 1 [] [])⟩ else ⟨0, .ret (.stop none true)⟩
example : (run two (init 0) [.tick, .pause, .tick, .tick, .tick]).trace.length = 1 := by decide +kernel
example : (run two (init 0) [.tick, .pause, .tick, .play, .tick]).trace.length = 2 := by decide +kernel
end


-- non-vacuity of the transparency theorems: an asynchronous step that waits, a continuation taking the resume value, an
-- asynchronous last step; pauses requested inside the asynchronous step, on the pending wait (retracted by play), after the
-- wake-up was delivered, twice in a row while held, and during the last step; 21 events against 7 in the reference history
section
private def wt : Prog := fun fn args _ _ =>
  match fn with
  | 0 => ⟨1, .ret (.wait 1)⟩
  | 1 => ⟨0, .ret (.cont 2 args [(1, 4)])⟩
  | _ => ⟨1, .ret (.stop args.head? true)⟩
private def wtHist : List Ev :=
  [.tick, .pause, .tick, .tick, .play, .tick, .pause, .play, .tick, .resume (some 7), .pause, .tick, .play, .pause, .tick,
   .play, .tick, .pause, .tick, .play, .tick]
example : admissible wt (init 0) wtHist = true := by decide +kernel
example : unpaused wt (init 0) wtHist = [.tick, .tick, .tick, .resume (some 7), .tick, .tick, .tick] := by decide +kernel
example : fuelOk wt (init 0) (unpaused wt (init 0) wtHist) = true := by decide +kernel
example : (run wt (init 0) wtHist).st = .finished (some 7) true := by decide +kernel
example : (run wt (init 0) wtHist).trace.length = 3 := by decide +kernel
example : ((run wt (init 0) wtHist).notif.filter (fun n => !notPP n)).length = 8 := by decide +kernel
example : (run wt (init 0) (unpaused wt (init 0) wtHist)).st = .finished (some 7) true := by decide +kernel
-- a workchain-style wait on an external future whose result lands in the context, with a pause held across the completion
private def wc : Prog := fun fn _ _ ctx =>
  match fn with
  | 0 => ⟨0, .ret (.waitOn 1 [(0, 5)])⟩
  | _ => ⟨0, .ret (.stop ((ctx.find? (·.1 = 5)).map (·.2)) true)⟩
private def wcHist : List Ev :=
  [.pause, .tick, .tick, .play, .tick, .complete 0 (.result 3), .tickCb (.adone 0), .pause, .tick, .tick, .play, .tick]
example : admissible wc (init 1) wcHist = true := by decide +kernel
example : fuelOk wc (init 1) (unpaused wc (init 1) wcHist) = true := by decide +kernel
example : (run wc (init 1) wcHist).st = .finished (some 3) true := by decide +kernel
example : (run wc (init 1) wcHist).ctx = [(5, 3)] := by decide +kernel
-- the awaited future completes while a pause is requested but not yet in effect (inside the asynchronous first step)
private def wc2 : Prog := fun fn _ _ ctx =>
  match fn with
  | 0 => ⟨1, .ret (.waitOn 1 [(0, 5)])⟩
  | _ => ⟨0, .ret (.stop ((ctx.find? (·.1 = 5)).map (·.2)) true)⟩
private def wc2Hist : List Ev :=
  [.tick, .pause, .complete 0 (.result 3), .tick, .play, .tick, .tickCb (.adone 0), .tick]
example : admissible wc2 (init 1) wc2Hist = true := by decide +kernel
example : unpaused wc2 (init 1) wc2Hist = [.tick, .complete 0 (.result 3), .tick, .tickCb (.adone 0), .tick] := by decide +kernel
example : fuelOk wc2 (init 1) (unpaused wc2 (init 1) wc2Hist) = true := by decide +kernel
example : (run wc2 (init 1) wc2Hist).st = .finished (some 3) true := by decide +kernel
-- second class: `resume` arrives while the process is held by a pause on its wait (rejected by `admissible`), the hold is
-- prolonged by a second pause, a tick of the held task, play; three steps executed, the resume value ends as the result
private def wtHist2 : List Ev :=
  [.tick, .pause, .tick, .resume (some 7), .tick, .pause, .play, .pause, .tick, .play, .tick, .tick]
example : admissible wt (init 0) wtHist2 = false := by decide +kernel
example : admissible2 wt false (init 0) wtHist2 = true := by decide +kernel
example : unpaused2 wt false (init 0) wtHist2 = [.tick, .tick, .resume (some 7), .tick, .tick] := by decide +kernel
example : fuelOk wt (init 0) (unpaused2 wt false (init 0) wtHist2) = true := by decide +kernel
example : (run wt (init 0) wtHist2).st = .finished (some 7) true := by decide +kernel
example : (run wt (init 0) wtHist2).trace.length = 3 := by decide +kernel
-- second class, workchain: both awaited futures complete, their done-callbacks and a `call_soon` callback run while the
-- process is held on the wait; the results land in the context, the step after the wait reads one of them
private def wc3 : Prog := fun fn _ _ ctx =>
  match fn with
  | 0 => ⟨1, .ret (.waitOn 1 [(0, 5), (1, 6)])⟩
  | _ => ⟨0, .ret (.stop ((ctx.find? (·.1 = 5)).map (·.2)) true)⟩
private def wc3Hist : List Ev :=
  [.tick, .pause, .tick, .complete 0 (.result 3), .tickCb (.adone 0), .callSoon false, .complete 1 (.result 4), .tick,
   .tickCb (.usercb false), .tickCb (.adone 1), .play, .tick]
example : admissible wc3 (init 2) wc3Hist = false := by decide +kernel
example : admissible2 wc3 false (init 2) wc3Hist = true := by decide +kernel
example : fuelOk wc3 (init 2) (unpaused2 wc3 false (init 2) wc3Hist) = true := by decide +kernel
example : (run wc3 (init 2) wc3Hist).st = .finished (some 3) true := by decide +kernel
example : (run wc3 (init 2) wc3Hist).ctx = [(6, 4), (5, 3)] := by decide +kernel
example : (run wc3 (init 2) wc3Hist).trace.length = 2 := by decide +kernel
-- third class: a pause request interrupts the pending wait, `resume` is parked on the interrupted wait (rejected by
-- `admissible2`); (a) the pause takes effect at the next tick, the process is held with the outcome already there, play, tick;
-- (b) play retracts the pause first, the next tick re-arms the wait and resumes it at once
private def qHistA : List Ev := [.tick, .tick, .pause, .resume (some 7), .tick, .tick, .play, .tick, .tick]
private def qHistB : List Ev := [.tick, .tick, .pause, .resume (some 7), .play, .tick, .tick]
example : admissible2 wt false (init 0) qHistA = false ∧ admissible2 wt false (init 0) qHistB = false := by decide +kernel
example : admissible3 wt false (init 0) qHistA = true ∧ admissible3 wt false (init 0) qHistB = true := by decide +kernel
example : unpaused3 wt false (init 0) qHistA = [.tick, .tick, .resume (some 7), .tick, .tick] := by decide +kernel
example : unpaused3 wt false (init 0) qHistB = [.tick, .tick, .resume (some 7), .tick, .tick] := by decide +kernel
example : fuelOkN wt (fuel0 - 1) (init 0) (unpaused3 wt false (init 0) qHistA) = true := by decide +kernel
example : fuelOkN wt (fuel0 - 1) (init 0) (unpaused3 wt false (init 0) qHistB) = true := by decide +kernel
example : (run wt (init 0) qHistA).st = .finished (some 7) true ∧ (run wt (init 0) qHistA).trace.length = 3 := by decide +kernel
example : (run wt (init 0) qHistB).st = .finished (some 7) true ∧ (run wt (init 0) qHistB).trace.length = 3 := by decide +kernel
-- third class, workchain: the pause request interrupts the wait on two futures; both complete and their done-callbacks run
-- before the stepping task notices (the second one parks the wake-up); held, a `call_soon` while held, play
private def wc4 : Prog := fun fn _ _ ctx =>
  match fn with
  | 0 => ⟨0, .ret (.waitOn 1 [(0, 5), (1, 6)])⟩
  | _ => ⟨0, .ret (.stop ((ctx.find? (·.1 = 5)).map (·.2)) true)⟩
private def wc4Hist : List Ev :=
  [.tick, .complete 0 (.result 3), .pause, .tickCb (.adone 0), .complete 1 (.result 4), .tickCb (.adone 1), .tick,
   .callSoon false, .play, .tick, .tickCb (.usercb false)]
example : admissible2 wc4 false (init 2) wc4Hist = false := by decide +kernel
example : admissible3 wc4 false (init 2) wc4Hist = true := by decide +kernel
example : fuelOkN wc4 (fuel0 - 1) (init 2) (unpaused3 wc4 false (init 2) wc4Hist) = true := by decide +kernel
example : (run wc4 (init 2) wc4Hist).st = .finished (some 3) true ∧ (run wc4 (init 2) wc4Hist).ctx = [(6, 4), (5, 3)] := by
  decide +kernel
-- fourth class: (a) the wait is resumed, a pause is requested, the next tick leaves the wait and the pause takes effect at
-- the boundary before step 1 (RUNNING): the reference run executes steps 1 and 2 in that tick.  During the hold: `call_soon`,
-- a refused `resume`, the completion of a future the program never awaits; play; the callback runs.  `admissible3` rejects
-- the history; the reference history delivers the three requests before the tick (which it emits in place of the waking tick)
private def crHist : List Ev :=
  [.tick, .tick, .resume (some 7), .pause, .tick, .callSoon false, .resume (some 9), .complete 0 (.result 3), .play, .tick,
   .tickCb (.usercb false), .tick]
example : admissible3 wt false (init 1) crHist = false := by decide +kernel
example : admissible4 wt false none (init 1) crHist = true := by decide +kernel
example : unpaused4 wt false none (init 1) crHist =
    [.tick, .tick, .resume (some 7), .callSoon false, .resume (some 9), .complete 0 (.result 3), .tick, .tickCb (.usercb false),
     .tick] := by decide +kernel
example : fuelOkN wt (fuel0 - 1) (init 1) (unpaused4 wt false none (init 1) crHist) = true := by decide +kernel
example : (run wt (init 1) crHist).st = .finished (some 7) true ∧ (run wt (init 1) crHist).trace.length = 3 := by decide +kernel
-- (b) workchain: the pause is requested inside the asynchronous step 0 and takes effect at the boundary before step 1; while
-- the process is held the future that step 1 is going to await completes (and a callback is scheduled); after play step 1
-- finds the future done, its done-callback files the result, step 2 returns it
private def wc5 : Prog := fun fn _ _ ctx =>
  match fn with
  | 0 => ⟨1, .ret (.cont 1 [] [])⟩
  | 1 => ⟨0, .ret (.waitOn 2 [(0, 5)])⟩
  | _ => ⟨0, .ret (.stop ((ctx.find? (·.1 = 5)).map (·.2)) true)⟩
private def wc5Hist : List Ev :=
  [.tick, .pause, .tick, .complete 0 (.result 3), .callSoon false, .play, .tick, .tickCb (.adone 0), .tickCb (.usercb false),
   .tick]
example : admissible3 wc5 false (init 1) wc5Hist = false := by decide +kernel
example : admissible4 wc5 false none (init 1) wc5Hist = true := by decide +kernel
example : unpaused4 wc5 false none (init 1) wc5Hist =
    [.tick, .complete 0 (.result 3), .callSoon false, .tick, .tickCb (.adone 0), .tickCb (.usercb false), .tick] := by
  decide +kernel
example : fuelOkN wc5 (fuel0 - 1) (init 1) (unpaused4 wc5 false none (init 1) wc5Hist) = true := by decide +kernel
example : (run wc5 (init 1) wc5Hist).st = .finished (some 3) true ∧ (run wc5 (init 1) wc5Hist).ctx = [(5, 3)] ∧
    (run wc5 (init 1) wc5Hist).trace.length = 3 := by decide +kernel
-- a history that ends while the tick is still deferred: the reference history delivers it last
example : unpaused4 wc5 false none (init 1) [.tick, .pause, .tick, .complete 0 (.result 3)] =
    [.tick, .complete 0 (.result 3), .tick] := by decide +kernel
-- the hypotheses of `C05_wakeup_commutes_with_first_step` are satisfiable: `wc5` suspended at the `await` of step 0
example : okFirst (run wc5 (init 1) [.tick]) = true ∧ (run wc5 (init 1) [.tick]).interrupt = none ∧
    terminal (run wc5 (init 1) [.tick]).st.label = false ∧ (run wc5 (init 1) [.tick]).closed = false ∧
    (run wc5 (init 1) [.tick]).efCb = [] ∧ pendOk [] (.complete 0 (.result 3)) = true := by decide +kernel
example : ResumeNoop (run wc5 (init 1) [.tick]) := Or.inl (by
  have : (run wc5 (init 1) [.tick]).st = .running 0 [] [] := by decide +kernel
  rw [this]; intro a b c d h; cases h)
end
/-!
## pause / play requested DURING a transition (listeners, state-event callbacks)

Model: `PMF.L` (see "Requests made DURING a transition" in `Props/C04.lean`).  `fireN n`: notifications with the oracle's requests nested
at most `n` deep; `endOfStepL`: the closing part of `Process.step()`; `NoInt c c'`: every interruption found on a wait future of `c'`
was already there in `c`.
-/
namespace L

/-- **no user code while paused, with listeners**: for every program, every plan of `pause()` / `play()` / `kill()` calls made by
listeners and state-event callbacks from inside notifications (in the middle of transitions, while a pending request is being
enacted, …) and every history of ticks and requests, no step function or continuation is ever started while the process reports
paused — in particular not the step that follows, in the same callback, a step during whose closing part a listener paused. -/
theorem C05_listener_nothing_runs_while_paused (P : Prog) (nf : Nat) (plan : Plan) (evs : List Ev) :
    ∀ a ∈ (runL P (initL nf plan) evs).c.trace, a.paused = false :=
  (runL_invP P (initL nf plan) evs (invP_init nf)).traceOk

/-- **a request made while a step is closing interrupts nothing** [F24, F26]: for every configuration, plan, nesting depth and
outcome of the step, the closing part of the step (in which listeners and state-event callbacks may `pause()`, `play()`, `kill()`
in any combination, also while an earlier request is being enacted) puts no interruption on any wait future — so the state the
step has entered is not interrupted later by a request that was already enacted (no second pause after the next `play()`). -/
theorem C05_listener_no_stale_interruption (n : Nat) (l : LCfg) (r : StepEnd) : NoInt l.c (endOfStepL (fireN n) l r).c :=
  endOfStepL_noInt (fireN_ni n) l r

/-- … in particular the wait future of the WAITING state that the step returns carries no interruption when the step has ended -/
theorem C05_listener_new_wait_not_interrupted (n : Nat) (l : LCfg) (fn k : Nat) :
    (finishUserL (fireN n) l (.ret (.wait fn))).c.wfs[l.c.wfs.length]? ≠ some (.interrupted k) :=
  finishUserL_wait_noInt (fireN_ni n) l fn k

/-- **`play()` really un-pauses, also from inside `on_process_paused`** [F26]: called while a step is in progress (e.g. by a
listener while the pause is being enacted at the end of the step), `play()` returns with the process not paused, whatever the
`on_process_played` listeners request in turn. -/
theorem C05_listener_play_unpauses (n : Nat) (l : LCfg) (hs : l.c.stepping = true) :
    (playL (fireN n) l).1.c.paused = none ∧ (playL (fireN n) l).2 = .bool true :=
  ⟨playL_unpauses (fireN_pn n) l hs, by unfold playL; split <;> rfl⟩

/-- … and a `pause()` or `kill()` made while a step is in progress never pauses at once -/
theorem C05_listener_requests_deferred (n : Nat) (h : Hook) (l : LCfg) (hs : l.c.stepping = true) (hp : l.c.paused = none) :
    (fireN n h l).c.paused = none := fireN_pn n h l hs hp

/-- **`play()` during the transition of a pending pause retracts the pause** [F23]: the pause action `i` performs the step's
transition; if a listener or state-event callback of that transition calls `play()` (which clears `_pausing` and cancels the
action: `C05_play_cancels_pending_pause`), the action does not pause after the transition: `paused`, the notifications and the
state are exactly what the transition left. -/
theorem C05_listener_play_retracts (F : Hook → LCfg → LCfg) (l : LCfg) (i : Nat) (s : SObj) (a : Action)
    (ha : l.c.actions[i]? = some a) (hp : a.status = .pending) (hk : a.kind = .pause)
    (hr : (transitionToL F l s).c.pausing = none) :
    (runActionL F l i (some s)).c.paused = (transitionToL F l s).c.paused ∧
    (runActionL F l i (some s)).c.notif = (transitionToL F l s).c.notif ∧
    (runActionL F l i (some s)).c.st = (transitionToL F l s).c.st := by
  unfold runActionL
  rw [ha]; simp only [hp, ne_eq, not_true_eq_false, if_false, hk, hr, Option.isNone_none, if_true]
  split
  · rw [upd_c]
    have o := setActionStatus_off (transitionToL F l s).c i .done
    exact ⟨o.paused, o.notif, o.st⟩
  · exact ⟨rfl, rfl, rfl⟩

-- non-vacuity (the witnesses of F23, F24, F26)
section
private def async2 : Prog := fun fn _ _ _ => if fn = 0 then ⟨2, .ret (.cont 1 [] [])⟩ else ⟨1, .ret (.stop (some 3) true)⟩
private def waiter : Prog := fun fn _ _ _ => if fn = 0 then ⟨0, .ret (.wait 1)⟩ else ⟨0, .ret (.stop (some 7) true)⟩
-- F23: a pause is pending; `on_process_running` of the step's transition plays: not paused, the action future is cancelled
example : (runL async2 (initL 0 [(.running, 2, .play)]) [.tick, .pause, .tick, .tick]).c.paused = none ∧
    (runL async2 (initL 0 [(.running, 2, .play)]) [.tick, .pause, .tick, .tick]).c.notif = [.running, .running] := by decide +kernel
-- F24: `on_process_waiting` pauses during the transition into WAITING: paused once, the wait future is still pending, and after
-- play + resume the process finishes
example : (runL waiter (initL 0 [(.waiting, 1, .pause)]) [.tick]).c.paused ≠ none ∧
    (runL waiter (initL 0 [(.waiting, 1, .pause)]) [.tick]).c.wfs = [.pending] := by decide +kernel
example : (runL waiter (initL 0 [(.waiting, 1, .pause)]) [.tick, .play, .resume (some 5), .tick]).c.st.label = .finished := by
  decide +kernel
-- F26: a pause is pending when the waiting step is interrupted; `on_process_paused` plays while it is enacted, `on_process_played`
-- pauses again: the re-armed wait future (index 1) is pending, the process is paused once more and finishes after play + resume
example : (runL waiter (initL 0 [(.paused, 1, .play), (.played, 1, .pause)]) [.tick, .pause, .tick]).c.wfs = [.interrupted 0, .pending] ∧
    (runL waiter (initL 0 [(.paused, 1, .play), (.played, 1, .pause)]) [.tick, .pause, .tick]).c.notif =
      [.paused, .played, .paused, .waiting, .running] := by decide +kernel
example : (runL waiter (initL 0 [(.paused, 1, .play), (.played, 1, .pause)]) [.tick, .pause, .tick, .play, .resume none, .tick]).c.st.label
    = .finished := by decide +kernel
end

end L

end PMF

/-! ### the status message (model `StatusM`: `set_status`, `on_paused`, `on_playing`) -/
namespace StatusM

/-- while paused (no further `on_paused` / `on_playing`) the saved status is kept, whatever `set_status` calls happen -/
theorem run_keeps_pre (s : St) (mid : List Op) (h : ∀ o ∈ mid, ∃ v, o = .setStatus v) : (run s mid).pre = s.pre := by
  induction mid generalizing s with
  | nil => rfl
  | cons o rest ih =>
    obtain ⟨v, rfl⟩ := h _ (List.mem_cons_self ..)
    have := ih (step s (.setStatus v)) (fun o ho => h o (List.mem_cons_of_mem _ ho))
    simpa [run, List.foldl, step] using this

/-- **the status message present before the pause is restored by play**: for every status `s.status` present when the pause
takes effect, every pause message (or none), and every sequence of `set_status` calls made while paused, the `on_playing`
that ends the pause leaves exactly `s.status`, and nothing saved. -/
theorem C05_status_restored (s : St) (msg : Option String) (mid : List Op) (h : ∀ o ∈ mid, ∃ v, o = .setStatus v) :
    run s ([.onPaused msg] ++ mid ++ [.onPlaying]) = { status := s.status, pre := none } := by
  have hpre : (step s (.onPaused msg)).pre = s.status := by cases msg <;> rfl
  have hk := run_keeps_pre (step s (.onPaused msg)) mid h
  have hsplit : run s ([.onPaused msg] ++ mid ++ [.onPlaying]) = step (run (step s (.onPaused msg)) mid) .onPlaying := by
    simp [run, List.foldl_append]
  rw [hsplit]
  show ({ status := (run (step s (.onPaused msg)) mid).pre, pre := none } : St) = _
  rw [hk, hpre]

/-- while paused the status shows the pause message when one was given, the previous status otherwise -/
theorem C05_status_while_paused (s : St) (msg : Option String) :
    (step s (.onPaused msg)).status = (match msg with | some m => some m | none => s.status) := by
  cases msg <;> rfl

/-- the statement over whole histories: in any history of hook calls, after every `on_playing` that follows an `on_paused`
(with only `set_status` calls in between) the status is the one that was present just before that `on_paused`. -/
theorem C05_status_restored_in_history (s0 : St) (before : List Op) (msg : Option String) (mid : List Op)
    (h : ∀ o ∈ mid, ∃ v, o = .setStatus v) :
    (run s0 (before ++ [.onPaused msg] ++ mid ++ [.onPlaying])).status = (run s0 before).status := by
  have h1 := C05_status_restored (run s0 before) msg mid h
  have hsplit : run s0 (before ++ [.onPaused msg] ++ mid ++ [.onPlaying])
      = run (run s0 before) ([.onPaused msg] ++ mid ++ [.onPlaying]) := by
    simp [run, List.foldl_append]
  rw [hsplit, h1]

-- non-vacuity and the cases a sampled test misses: no status before the pause (None) with a pause message
example : run {} [.onPaused (some "held"), .onPlaying] = {} := by decide
example : run {} [.setStatus (some "busy"), .onPaused none, .setStatus (some "x"), .onPlaying] = { status := some "busy" } := by decide
example : (run {} [.setStatus (some "busy"), .onPaused (some "held")]).status = some "held" := by decide

end StatusM
