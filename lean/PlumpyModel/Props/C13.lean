import PlumpyModel.PM.Proof4
/-!
# C13 — a step's return value alone decides what happens next, with exact arguments

Model: `PMF`.  A step function's outcome is `Outcome.ret cmd | Outcome.raise e`; `finishUser` is what `Process.step`
does with it (`Running.execute` → `_action_command` → end of step).  The theorems are stated for a step that ends
undisturbed: the process is live, not closed, no interrupt action is installed (`interrupt = none`; what happens with a
pending kill or pause is C04/C05), and its future is still unresolved (`FutLive`, an invariant of live processes proved
in C02).  Persistence of the arguments across save/load is C07/C08 (`args`/`kwargs` are in the generated member sets).
-/
namespace PMF

def FutLive (c : Cfg) : Prop := c.fut = .pending ∨ c.fut = .cancelled

/-- what `stepBodyK` logs when it activates the user function of a RUNNING state: exactly `fn(*args, **kwargs)` -/
theorem C13_activation_exact (P : Prog) (k : Cfg → Cfg) (c : Cfg) (fn : Nat) (args : List Val) (kw : List (Nat × Val))
    (hst : c.st = .running fn args kw) (haw : (P fn args kw c.ctx).awaits ≠ 0) :
    (stepBodyK P k c).trace = { fn := fn, args := args, kw := kw, paused := c.paused.isSome } :: c.trace := by
  rw [stepBodyK_running P k c fn args kw hst, if_neg haw]

theorem endOfStep_undisturbed (c : Cfg) (s : SObj) (hl : terminal c.st.label = false) (hi : c.interrupt = none)
    (hne : ∀ e, s ≠ .excepted e) :
    (endOfStep c (.next (some s))).st = (transitionTo c s).st := by
  rw [endOfStep_plain c _ hl (fun e h => hne e (Option.some.inj h)) (.of_none hi)]; exact (finally_off _).st

/-- **Continue(f, \*a, \*\*k)** makes `f(*a, **k)` the next step: the next state is RUNNING with exactly that function and
those positional and keyword arguments, which is what the next activation is called with (`C13_activation_exact`). -/
theorem C13_continue_exact (c : Cfg) (fn : Nat) (args : List Val) (kw : List (Nat × Val))
    (hl : c.st.label = .running ∨ c.st.label = .waiting ∨ c.st.label = .created)
    (hcl : c.closed = false) (hi : c.interrupt = none) :
    (finishUser c (.ret (.cont fn args kw))).st = .running fn args kw := by
  have hlive : terminal c.st.label = false := by rcases hl with h | h | h <;> rw [h] <;> decide
  have hal : Label.running ∈ allowed c.st.label := by rcases hl with h | h | h <;> rw [h] <;> decide
  unfold finishUser cmdToState
  simp only
  rw [endOfStep_undisturbed c _ hlive hi (by intro e h; cases h)]
  exact transitionTo_installs c _ hal fun _ => ⟨_, enteringHooks_live _ _ rfl⟩

/-- **Wait(f) then resume(v)**: when the wait completes with `v` the next state is RUNNING `f(v)`; when it was resumed
without a value, `f()`. -/
theorem C13_wait_resume_exact (c : Cfg) (fn wf : Nat) (v : Option Val)
    (hl : c.st.label = .waiting) (hcl : c.closed = false) (hi : c.interrupt = none) :
    (wake c fn wf (.result v)).st = .running fn (match v with | some x => [x] | none => []) [] := by
  have hlive : terminal c.st.label = false := by rw [hl]; decide
  have hal : Label.running ∈ allowed c.st.label := by rw [hl]; decide
  unfold wake
  simp only
  rw [endOfStep_undisturbed c _ hlive hi (by intro e h; cases h)]
  exact transitionTo_installs c _ hal fun _ => ⟨_, enteringHooks_live _ _ rfl⟩

/-- **a plain value / Stop / UnsuccessfulResult** finishes the process with exactly that result and success flag -/
theorem C13_stop_exact (c : Cfg) (v : Option Val) (ok : Bool)
    (hl : c.st.label = .running ∨ c.st.label = .waiting)
    (hcl : c.closed = false) (hi : c.interrupt = none) (hf : FutLive c) :
    (finishUser c (.ret (.stop v ok))).st = .finished v ok := by
  have hlive : terminal c.st.label = false := by rcases hl with h | h <;> rw [h] <;> decide
  have hal : Label.finished ∈ allowed c.st.label := by rcases hl with h | h <;> rw [h] <;> decide
  unfold finishUser cmdToState
  simp only
  rw [endOfStep_undisturbed c _ hlive hi (by intro e h; cases h)]
  -- the entering hook of FINISHED succeeds while the future is unresolved
  exact transitionTo_installs c _ hal fun _ => enteringHooks_unresolved _ _ (by rw [(exitState_off c).fut]; exact hf)

/-- **Kill(msg)** ends the process KILLED (EXCEPTED only if entering KILLED fails) -/
theorem C13_kill_command (c : Cfg) (hl : terminal c.st.label = false) (hi : c.interrupt = none) :
    (finishUser c (.ret .kill)).st.label = .killed ∨ (finishUser c (.ret .kill)).st.label = .excepted := by
  unfold finishUser cmdToState
  simp only
  rw [endOfStep_undisturbed c _ hl hi (by intro e h; cases h)]
  exact transitionTo_label c .killed

/-- **a step that raises** ends the process EXCEPTED, whatever was requested in the meantime (repair K) -/
theorem C13_raise_excepts (c : Cfg) (e : Exc) (hl : terminal c.st.label = false) :
    (finishUser c (.raise e)).st.label = .excepted := by
  exact endOfStep_excepts c e hl

-- non-vacuity: the hypotheses hold in a reachable configuration, and a whole run shows the exact arguments
section
private def chain : Prog := fun fn _ _ _ =>
  if fn = 0 then ⟨1, .ret (.cont 1 [4, 5] [(1, 6), (0, 7)])⟩ else if fn = 1 then ⟨0, .ret (.wait 2)⟩ else ⟨0, .ret (.stop (some 9) false)⟩
example : (run chain (init 0) [.tick]).st.label = .running ∧ (run chain (init 0) [.tick]).closed = false ∧
    (run chain (init 0) [.tick]).interrupt = none ∧ (run chain (init 0) [.tick]).fut = .pending := by decide +kernel
example : ((run chain (init 0) [.tick, .tick]).trace.map fun a => (a.fn, a.args, a.kw)) =
    [(1, [4, 5], [(1, 6), (0, 7)]), (0, [], [])] := by decide +kernel
example : (run chain (init 0) [.tick, .tick, .resume (some 3), .tick]).st = .finished (some 9) false ∧
    ((run chain (init 0) [.tick, .tick, .resume (some 3), .tick]).trace.head?.map fun a => (a.fn, a.args)) = some (2, [3]) := by
  decide +kernel
end

end PMF
