import PlumpyModel.PM.LProof8
import PlumpyModel.Persist.Proof7
/-!
# C04 — a kill request is never lost and no live process is unkillable

Model: `PMF`.  `Committed k c` = the process is KILLED, or EXCEPTED, or the kill action `k` is still the pending
interrupt action of the step in flight (`Pending k c`: live, stepping, `killing = interrupt = some k`, action `k`
pending and of kind kill).  `endOfStep` is the tail of `Process.step` (the `except` clauses, running the interrupt
action or the transition, the `finally`).
-/
namespace PMF

/-- `kill()` never raises, in any configuration -/
theorem C04_kill_total (c : Cfg) (e : Exc) : (kill c).2 ≠ .raised e := by
  unfold kill
  by_cases hk : c.st.label = .killed
  · rw [if_pos hk]; exact nofun
  · rw [if_neg hk]
    by_cases ht : terminal c.st.label = true
    · rw [if_pos ht]; exact nofun
    · rw [if_neg ht]
      cases c.killing with
      | some i => exact nofun
      | none =>
        dsimp only
        by_cases hs : c.stepping = true
        · rw [if_pos hs]
          cases (requestInterrupt c .kill).interrupt <;> exact nofun
        · rw [if_neg hs]; exact nofun

/-- `kill()` on a live process that is not inside a step (between steps, while paused, not yet started) and has no
kill pending takes effect at once: the process is KILLED (or EXCEPTED if entering KILLED fails), and the call
returns `True`. -/
theorem C04_kill_when_idle (c : Cfg) (hl : terminal c.st.label = false) (hk : c.killing = none)
    (hs : c.stepping = false) :
    (kill c).2 = .bool true ∧ ((kill c).1.st.label = .killed ∨ (kill c).1.st.label = .excepted) := by
  rw [kill_between_steps c hl hk hs]
  exact ⟨rfl, transitionTo_label c .killed⟩

/-- **a kill is never lost**: take any program and any history `evs₁`; if `kill()` then hands back an action future
`k` (the process was live, inside a step, no kill pending), then after EVERY further history `evs₂` — pauses, plays,
resumes, more kills, `fail`, call_soon callbacks, future cancellation, awaitable completions, ticks in any order — the
process is KILLED or EXCEPTED, or the kill is still the pending interrupt action of the step in flight. -/
theorem C04_kill_committed (P : Prog) (nf : Nat) (evs₁ evs₂ : List Ev) (k : Nat) :
    let c₁ := run P (init nf) evs₁
    terminal c₁.st.label = false → c₁.killing = none → (kill c₁).2 = .action k →
    Committed k (run P (kill c₁).1 evs₂) :=
  C04_kill_never_lost P nf evs₁ evs₂ k

/-- **… and takes effect when the current step yields**: with the kill pending, whatever the step produced (a next
state, a pause interruption, an exception), the end of the step leaves the process KILLED or EXCEPTED. -/
theorem C04_end_of_step_kills (k : Nat) (c : Cfg) (r : StepEnd) (h : Pending k c) :
    (endOfStep c r).st.label = .killed ∨ (endOfStep c r).st.label = .excepted :=
  endOfStep_pending k c r h

/-- a pause request cannot displace a pending kill (repair D): it is refused and changes nothing relevant -/
theorem C04_pause_keeps_kill (k : Nat) (c : Cfg) (h : Pending k c) : Pending k (pause c).1 :=
  -- with a kill pending `pause()` refuses, or hands out the action of a pause that is already pending
  pause_elim c h (fun _ _ hd => hd.off (hand_off ..)) (fun _ _ _ hk => nomatch h.2.1.symm.trans hk)
    fun _ _ _ _ hk => nomatch h.2.1.symm.trans hk

/-- a further kill() while one is pending hands back the same action -/
theorem C04_second_kill_same_action (k : Nat) (c : Cfg) (h : Pending k c) : (kill c).2 = .action k := by
  obtain ⟨hl, hkill, _⟩ := h
  unfold kill
  simp only [ne_killed_of_live hl, if_false, hl, Bool.false_eq_true, hkill]


/-- **no stale kill**: in every reachable configuration, if a kill is recorded as pending (`_killing` set) then the
process is KILLED / EXCEPTED or that very action is still the pending interrupt action of the step in flight. -/
theorem C04_no_stale_killing (P : Prog) (nf : Nat) (evs : List Ev) (i : Nat)
    (hk : (run P (init nf) evs).killing = some i) : Committed i (run P (init nf) evs) :=
  (run_killingOk P (init nf) evs (killingOk_init nf) (pausingOk_init nf)).1 i hk

/-- **from every reachable live configuration a further kill() still terminates the process**: outside a step it
kills at once; inside a step it hands back an action that is the pending kill of the step in flight — which by
`C04_kill_committed`-style stability (`step_committed`) survives every further event and by `C04_end_of_step_kills`
kills when the step yields. -/
theorem C04_always_killable (P : Prog) (nf : Nat) (evs : List Ev)
    (hl : terminal (run P (init nf) evs).st.label = false) :
    let c := run P (init nf) evs
    (c.stepping = false → (kill c).2 = .bool true ∧ ((kill c).1.st.label = .killed ∨ (kill c).1.st.label = .excepted)) ∧
    (c.stepping = true → ∃ k, (kill c).2 = .action k ∧ Pending k (kill c).1) :=
  always_killable_of _ (run_killingOk P (init nf) evs (killingOk_init nf) (pausingOk_init nf)).1 hl

-- non-vacuity: a kill during an asynchronous step is pending, survives a pause and a play, and kills at the end of the step
section
private def async1 : Prog := fun _ _ _ _ => ⟨1, .ret (.stop (some 3) true)⟩
example : (kill (run async1 (init 0) [.tick])).2 = .action 0 := by decide +kernel
example : (run async1 (init 0) [.tick, .kill, .pause, .play, .tick]).st.label = .killed := by decide +kernel
end

/-!
## Requests made DURING a transition (listeners, state-event callbacks)

Model: `PMF.L` (lean/PlumpyModel/PM/Listener.lean): the configuration carries an oracle `plan : List (Hook × Nat × Req)`; at the
`n`-th `on_process_running / waiting / paused / played` notification and at the `n`-th exiting / entering phase of a transition the
callback issues `pause()`, `play()` or `kill()`, executed with the semantics the real calls have at that point (`_stepping`,
`_executing`, `_transitioning`).  `fireN n` is the notification function with requests nested at most `n` deep (the model uses
`n = plan.length`, which is never exceeded; the theorems hold for every `n`).  `endOfStepL` is the closing part of `Process.step()`
(the `except` clauses, running the interrupt action or the nominal transition, the `while` loop that enacts what was requested
meanwhile, the `finally`); `dispatchL` is the same without `except` / `finally`.
`KE c`: the process is KILLED or EXCEPTED.  `Owed l`: the oracle has issued a `kill()` at a moment when the process was live and no
transition into a terminal state was in progress (`LCfg.issued` logs every request of the oracle with that flag).
-/
namespace L

/-- **a kill that is pending when the step starts closing is enacted, whatever the listeners do** [F22]: with the kill action `k`
pending in the interrupt slot (requested by anybody while the step was in flight), for every plan, every nesting depth and every
outcome of the step, the closing part leaves the process KILLED — or EXCEPTED (the step failed, or entering KILLED failed). -/
theorem C04_listener_pending_kill_enacted (n k : Nat) (l : LCfg) (r : StepEnd) (h : Pending k l.c) :
    KE (endOfStepL (fireN n) l r).c := endOfStepL_pending k l r h

/-- **no stale kill, with listeners**: for every program, every plan of requests issued from inside notifications and every history
of events, in the configuration reached: a recorded kill (`_killing`) is the pending interrupt action of the step in flight unless
the process has terminated, the pause alias points to a pause action, and no transition is in progress.  (`KJ`, the invariant that
is carried through every model function — every transition, every request of the oracle in every context, the closing part of
every step, every event.) -/
theorem C04_listener_no_stale_killing (P : Prog) (nf : Nat) (plan : Plan) (evs : List Ev) :
    let l := runL P (initL nf plan) evs
    (∀ k, l.c.killing = some k → terminal l.c.st.label = true ∨ Pending k l.c) ∧ PausingOk l.c ∧ l.trans = none :=
  let h := runL_kj P (initL nf plan) evs (kj_init nf plan) rfl
  ⟨h.1.kok, h.1.pok, h.2⟩

/-- **a kill issued by a listener is never lost** [F22, F25]: for every program, plan and history, if the oracle has issued a
`kill()` at a moment when the process was live and no transition into a terminal state was in progress — from
`on_process_running/waiting/paused/played` or from the exiting / entering phase of a transition, inside or outside a step, also while
another request was being enacted — then in the configuration reached the process is KILLED or EXCEPTED, or the kill is the pending
interrupt action of the step in flight (and then `C04_listener_pending_kill_enacted`: that step ends KILLED / EXCEPTED). -/
theorem C04_listener_kill_committed (P : Prog) (nf : Nat) (plan : Plan) (evs : List Ev) :
    Owed (runL P (initL nf plan) evs) →
    KE (runL P (initL nf plan) evs).c ∨ ∃ k, Pending k (runL P (initL nf plan) evs).c :=
  runL_owed P nf plan evs

/-- … hence, whenever no step is in progress, every such kill has taken effect -/
theorem C04_listener_kill_effective_between_steps (P : Prog) (nf : Nat) (plan : Plan) (evs : List Ev)
    (hs : (runL P (initL nf plan) evs).c.stepping = false) :
    Owed (runL P (initL nf plan) evs) → KE (runL P (initL nf plan) evs).c := by
  intro ho
  rcases runL_owed P nf plan evs ho with h | ⟨k, hp⟩
  · exact h
  · have := hp.2.2.2.2.1; rw [hs] at this; cases this

/-- **a kill issued while a step is closing has been enacted when the step ends** [F22, F25]: from any configuration that
satisfies the invariant (every reachable one does: `runL_kj`) with no transition in progress, for every nesting depth and outcome of
the step: if the oracle issues a `kill()` on the live process during the closing part (from a notification, or from the exiting /
entering phase of a transition into a non-terminal state, possibly while a pause is being enacted), or had issued one before, then
when the closing part returns the process is KILLED (EXCEPTED if entering KILLED or the step failed).  In particular the `finally`
of `step()` does not cancel it. -/
theorem C04_listener_kill_enacted (n : Nat) (l : LCfg) (r : StepEnd) (p : KJ l) (htr : l.trans = none) :
    Owed (endOfStepL (fireN n) l r) → KE (endOfStepL (fireN n) l r).c :=
  endOfStepL_owed (fireN_good n) l r p htr

/-- **nothing requested during the closing part is left behind** [F25]: when the `while` loop of the closing part returns, the
interrupt-action slot is empty, or its action is done (it ran, or was retracted / superseded), or the process has terminated — for
every configuration, plan and nesting depth.  So the `finally` of `step()` never cancels a request that a listener made on a process
that is still live. -/
theorem C04_listener_nothing_left_pending (n : Nat) (l : LCfg) (next : Option SObj) :
    Quiet (dispatchL (fireN n) l next) := dispatchL_quiet (fireN_adv n) l next

-- non-vacuity.  F25: `on_process_running` pauses, `on_process_paused` (while that pause is being enacted) kills: KILLED, with both
-- action futures resolved; the kill is owed; the configuration in which that step closes satisfies the invariant.
section
private def planF25 : Plan := [(.running, 1, .pause), (.paused, 1, .kill)]
private def closing : LCfg := { c := { init 0 with stepping := true }, plan := planF25 }
example : (runL sync2 (initL 0 planF25) [.tick]).c.st.label = .killed := by decide +kernel
example : Owed (runL sync2 (initL 0 planF25) [.tick]) := ⟨.paused, by decide +kernel⟩
example : (runL sync2 (initL 0 planF25) [.tick]).c.handed.map (actionStatus (runL sync2 (initL 0 planF25) [.tick]).c) = [.done, .cancelled] := by
  decide +kernel
example : KJ closing ∧ closing.trans = none :=
  ⟨KJ.mk (fun k hk => by cases hk) (fun i hi => by cases hi) (fun ho => by obtain ⟨_, hm⟩ := ho; cases hm)
    (fun ho => by obtain ⟨_, hm⟩ := ho; cases hm), rfl⟩
example : Owed (endOfStepL (fireN 2) closing (.next (some (.running 0 [] [])))) := ⟨.paused, by decide +kernel⟩
example : (endOfStepL (fireN 2) closing (.next (some (.running 0 [] [])))).c.st.label = .killed := by decide +kernel
-- F22: a pause is pending when the step closes, `on_process_waiting` kills during the transition that the pause action performs
private def waiter : Prog := fun fn _ _ _ => if fn = 0 then ⟨1, .ret (.wait 1)⟩ else ⟨0, .ret (.stop (some 7) true)⟩
example : (runL waiter (initL 0 [(.waiting, 1, .kill)]) [.tick, .pause, .tick]).c.st.label = .killed := by decide +kernel
-- a kill from `on_process_played` outside a step (the process waits for the pause to end) is owed and made at once
example : Owed (runL waiter (initL 0 [(.played, 1, .kill)]) [.pause, .tick, .play]) ∧
    (runL waiter (initL 0 [(.played, 1, .kill)]) [.pause, .tick, .play]).c.st.label = .killed := ⟨⟨.played, by decide +kernel⟩, by decide +kernel⟩
-- a kill from the exiting phase of the transition into FINISHED is not owed (the transition cannot be abandoned): FINISHED
example : (runL sync2 (initL 0 [(.exiting, 3, .kill)]) [.tick]).c.st.label = .finished ∧
    (runL sync2 (initL 0 [(.exiting, 3, .kill)]) [.tick]).issued = [(.exiting, .kill, false)] := by decide +kernel
end

end L

/-!
## A process loaded from a checkpoint

"Every reachable live configuration" includes one that was LOADED: `saveCfg c` is what a bundle keeps of a configuration
(`lean/PlumpyModel/Persist/Plain.lean`), `restoreCfg b` the fresh instance `load_instance_state` + `init()` build from it in a new
event loop, `restoreCfgN m b` the same in an environment that holds `m` pending external futures (`Persist/Reload.lean`;
`restoreCfgN 0 = restoreCfg` by `rfl`).  The theorems below hold for EVERY bundle `b` — in particular for
`b = saveCfg (run P (init nf) evs)` taken at a step `boundary`, where `harness/props/c04.py` checkpoints (`checkpointAt`) — and for
every history `evs` of events applied to the restored instance (callbacks in any order, pause, play, kill, resume, fail, call_soon,
future cancellation, awaitable completions).  A restored configuration records no request (`_killing`, `_pausing`, the action table
are not in a bundle), so it is a base case of the invariants `KillingOk` / `PausingOk` like `init nf`, and `init()` installs the
`try_killing` callback on the loaded future exactly when it is still pending (`FutHook`).
-/

/-- **a kill of a restored process is never lost**: load any bundle, apply any history `evs₁`; if `kill()` then hands back an
action future `k` (the restored process is live, inside a step, no kill pending), then after EVERY further history `evs₂` the
process is KILLED or EXCEPTED, or the kill is still the pending interrupt action of the step in flight — exactly
`C04_kill_committed`, with the restored configuration in the place of the freshly created one. -/
theorem C04_restored_kill_committed (P : Prog) (m : Nat) (b : Saved) (evs₁ evs₂ : List Ev) (k : Nat) :
    let r := run P (restoreCfgN m b) evs₁
    terminal r.st.label = false → r.killing = none → (kill r).2 = .action k →
    Committed k (run P (kill r).1 evs₂) :=
  fun hl hnk hr => kill_never_lost_from P (restoreCfgN m b) (pausingOk_restored m b) evs₁ evs₂ k hl hnk hr

/-- **no stale kill after a restore**: in every configuration reached from a restored one, a recorded `_killing` is the pending
interrupt action of the step in flight, or the process is KILLED / EXCEPTED (`C04_no_stale_killing` for restored processes). -/
theorem C04_restored_no_stale_killing (P : Prog) (m : Nat) (b : Saved) (evs : List Ev) (i : Nat)
    (hk : (run P (restoreCfgN m b) evs).killing = some i) : Committed i (run P (restoreCfgN m b) evs) :=
  (run_killingOk P (restoreCfgN m b) evs (killingOk_restored m b) (pausingOk_restored m b)).1 i hk

/-- **from every live configuration reached by a restored process a further kill() still terminates it**: outside a step it
kills at once (`True`; EXCEPTED only if entering KILLED fails); inside a step it hands back an action that is the pending kill of
that step — which survives every further event (`C04_restored_kill_committed`) and kills when the step yields
(`C04_end_of_step_kills`).  `C04_always_killable` for restored processes. -/
theorem C04_restored_always_killable (P : Prog) (m : Nat) (b : Saved) (evs : List Ev)
    (hl : terminal (run P (restoreCfgN m b) evs).st.label = false) :
    let r := run P (restoreCfgN m b) evs
    (r.stepping = false → (kill r).2 = .bool true ∧ ((kill r).1.st.label = .killed ∨ (kill r).1.st.label = .excepted)) ∧
    (r.stepping = true → ∃ k, (kill r).2 = .action k ∧ Pending k (kill r).1) :=
  always_killable_of _ (run_killingOk P (restoreCfgN m b) evs (killingOk_restored m b) (pausingOk_restored m b)).1 hl

/-- the same in the words of the property: take any reachable configuration `c` at a step boundary (where the harness
checkpoints), save it, load it (`restoreCfg (saveCfg c)`), let anything happen to the loaded process; if it is still live, `kill()`
terminates it as it would a process that was never checkpointed.  (The hypothesis `boundary c` only says where checkpoints are
taken; the conclusion holds for any bundle: `C04_restored_always_killable`.) -/
theorem C04_checkpointed_process_killable (P : Prog) (nf : Nat) (evs evs' : List Ev) :
    let c := run P (init nf) evs
    let r := run P (restoreCfg (saveCfg c)) evs'
    boundary c = true → terminal r.st.label = false →
    (r.stepping = false → (kill r).2 = .bool true ∧ ((kill r).1.st.label = .killed ∨ (kill r).1.st.label = .excepted)) ∧
    (r.stepping = true → ∃ k, (kill r).2 = .action k ∧ Pending k (kill r).1) :=
  fun _ hl => C04_restored_always_killable P 0 (saveCfg (run P (init nf) evs)) evs' hl

/-- **the kill hook is installed on a restored process**: in every configuration reached from a restored one, a process future
that is still pending carries the `try_killing` callback, and that callback is not already scheduled.  (`init()` adds it when the
loaded future is not done; nothing but `future().cancel()` touches a pending future.  The seeded change "the hook is attached in
`__init__` only" makes exactly this false.) -/
theorem C04_restored_future_has_kill_hook (P : Prog) (m : Nat) (b : Saved) (evs : List Ev) :
    let r := run P (restoreCfgN m b) evs
    r.fut = .pending → r.futHasKillCb = true ∧ Cb.trykill ∉ r.ready :=
  run_futHook P (restoreCfgN m b) evs (futHook_restored m b)

/-- the same for a process that was never checkpointed -/
theorem C04_future_has_kill_hook (P : Prog) (nf : Nat) (evs : List Ev) :
    let c := run P (init nf) evs
    c.fut = .pending → c.futHasKillCb = true ∧ Cb.trykill ∉ c.ready :=
  run_futHook P (init nf) evs (futHook_init nf)

/-- **cancelling the future of a restored process has the same effect as kill()**: in every configuration `r` reached from a
restored one whose future is still pending, `future().cancel()` succeeds and schedules `try_killing`; when that callback runs next,
the configuration is the one `kill()` would have produced on `r` — every field: state object, action table, `_killing`, interrupt
slot, heaps, logs, scheduled callbacks — except the process-future object itself (cancelled; replaced and resolved with
`KilledError` when the process terminates, repair H) and the list of action futures handed to callers (`try_killing` keeps the
one it gets to itself). -/
theorem C04_restored_cancel_is_kill (P : Prog) (m : Nat) (b : Saved) (evs : List Ev) :
    let r := run P (restoreCfgN m b) evs
    r.fut = .pending →
    (cancelFut r).2 = .bool true ∧ Cb.trykill ∈ (cancelFut r).1.ready ∧
    SameButFut (tickCb (cancelFut r).1 .trykill) (kill r).1 :=
  fun hf => cancel_then_trykill _ hf (run_futHook P (restoreCfgN m b) evs (futHook_restored m b))

/-- the same for a process that was never checkpointed (`cancel_future_equals_kill` of the design) -/
theorem C04_cancel_is_kill (P : Prog) (nf : Nat) (evs : List Ev) :
    let c := run P (init nf) evs
    c.fut = .pending →
    (cancelFut c).2 = .bool true ∧ Cb.trykill ∈ (cancelFut c).1.ready ∧
    SameButFut (tickCb (cancelFut c).1 .trykill) (kill c).1 :=
  fun hf => cancel_then_trykill _ hf (run_futHook P (init nf) evs (futHook_init nf))

/-- **… whenever the callback gets to run**: cancel the pending future of a live restored process, then let ANY history `evs₂`
happen before the `try_killing` callback runs (the callbacks that were ready before it, further requests): the callback is still
scheduled, and if the process is still live when it runs, it does what `kill()` does there — outside a step the process is KILLED
(EXCEPTED if entering KILLED fails), inside a step the kill is the pending interrupt action, which then survives every further
history `evs₃` (and kills when the step yields, `C04_end_of_step_kills`). -/
theorem C04_restored_cancel_kills (P : Prog) (m : Nat) (b : Saved) (evs evs₂ : List Ev) :
    let r := run P (restoreCfgN m b) evs
    let r₂ := run P (cancelFut r).1 evs₂
    r.fut = .pending → Ev.tickCb .trykill ∉ evs₂ →
    Cb.trykill ∈ r₂.ready ∧
    (terminal r₂.st.label = false →
      (r₂.stepping = false → (tickCb r₂ .trykill).st.label = .killed ∨ (tickCb r₂ .trykill).st.label = .excepted) ∧
      (r₂.stepping = true → ∃ k, Pending k (tickCb r₂ .trykill) ∧ ∀ evs₃, Committed k (run P (tickCb r₂ .trykill) evs₃))) := by
  intro r r₂ hf hno
  have hh := run_futHook P (restoreCfgN m b) evs (futHook_restored m b)
  have hsched := (cancel_then_trykill r hf hh).2.1
  have hr₂ : r₂ = run P (restoreCfgN m b) (evs ++ .cancelFut :: evs₂) :=
    (run_append P (restoreCfgN m b) evs (.cancelFut :: evs₂)).symm
  have hinv := run_killingOk P (restoreCfgN m b) (evs ++ .cancelFut :: evs₂) (killingOk_restored m b) (pausingOk_restored m b)
  rw [← hr₂] at hinv
  have hmem : Cb.trykill ∈ r₂.ready := run_keeps_trykill P (cancelFut r).1 evs₂ hno hsched
  refine ⟨hmem, fun hl => ?_⟩
  have hk := trykill_kills r₂ hinv.1 hl hmem
  refine ⟨hk.1, fun hs => ?_⟩
  obtain ⟨k, hp⟩ := hk.2 hs
  exact ⟨k, hp, pending_committed_run P k _ hp (pausingOk_calls.tickCb r₂ .trykill hinv.2)⟩

-- non-vacuity: a process checkpointed when it enters WAITING (inside the callback of its stepping task, as the harness does),
-- loaded in a fresh loop, is killed while it waits — by kill() and by cancelling its future; a process checkpointed while it
-- is paused between two steps (a reachable boundary) is loaded paused and killed at once
section
private def waiter2 : Prog := fun fn _ _ _ => if fn = 0 then ⟨1, .ret (.wait 1)⟩ else ⟨0, .ret (.stop (some 7) true)⟩
private def bWaiting : Saved := { st := .waiting 1, paused := false, fut := .pending, ctx := [] }
example : checkpointAt waiter2 (run waiter2 (init 0) [.tick]) 3 = some bWaiting := by decide +kernel
-- the restored process waits inside a step: kill() hands back an action, the wake-up of the step enacts it
example : terminal (run waiter2 (restoreCfgN 0 bWaiting) [.tick]).st.label = false ∧
    (run waiter2 (restoreCfgN 0 bWaiting) [.tick]).killing = none ∧
    (kill (run waiter2 (restoreCfgN 0 bWaiting) [.tick])).2 = .action 0 := by decide +kernel
example : (run waiter2 (restoreCfgN 0 bWaiting) [.tick, .kill, .tick]).st.label = .killed := by decide +kernel
-- before its stepping task has run it is killed at once
example : (kill (restoreCfgN 0 bWaiting)).2 = .bool true ∧ (kill (restoreCfgN 0 bWaiting)).1.st.label = .killed := by decide +kernel
-- cancelling the future: hook installed, `try_killing` scheduled, the process ends KILLED with the future replaced
example : (run waiter2 (restoreCfgN 0 bWaiting) [.tick]).fut = .pending ∧
    (run waiter2 (restoreCfgN 0 bWaiting) [.tick]).futHasKillCb = true := by decide +kernel
example : (run waiter2 (restoreCfgN 0 bWaiting) [.tick, .cancelFut]).ready = [.trykill] := by decide +kernel
example : (run waiter2 (restoreCfgN 0 bWaiting) [.tick, .cancelFut, .tickCb .trykill, .tick]).st.label = .killed ∧
    (run waiter2 (restoreCfgN 0 bWaiting) [.tick, .cancelFut, .tickCb .trykill, .tick]).fut = .exc .killedErr := by decide +kernel
-- a callback that was ready before `try_killing` runs first (`C04_restored_cancel_kills` with `evs₂ = [callSoon, usercb]`)
example : Ev.tickCb .trykill ∉ [Ev.callSoon false, .tickCb (.usercb false)] := by decide
example : (run waiter2 (restoreCfgN 0 bWaiting) [.tick, .cancelFut, .callSoon false, .tickCb (.usercb false), .tickCb .trykill, .tick]).st.label = .killed := by
  decide +kernel
-- a reachable boundary in the sense of `run`: paused during an asynchronous step, the pause enacted when the step yields
private def async2 : Prog := fun fn _ _ _ => if fn = 0 then ⟨1, .ret (.cont 1 [] [])⟩ else ⟨1, .ret (.stop (some 3) true)⟩
example : boundary (run async2 (init 0) [.tick, .pause, .tick]) = true ∧
    saveCfg (run async2 (init 0) [.tick, .pause, .tick]) = { st := .running 1 [] [], paused := true, fut := .pending, ctx := [] } := by
  decide +kernel
example : terminal (run async2 (restoreCfg (saveCfg (run async2 (init 0) [.tick, .pause, .tick]))) [.tick]).st.label = false ∧
    (kill (run async2 (restoreCfg (saveCfg (run async2 (init 0) [.tick, .pause, .tick]))) [.tick])).1.st.label = .killed := by
  decide +kernel
-- a work chain restored while RUNNING finds the environment's fresh futures and is killed while it waits for them
private def chain1 : Prog := fun fn _ _ _ => if fn = 0 then ⟨0, .ret (.waitOn 1 [(0, 0)])⟩ else ⟨0, .ret (.stop none true)⟩
example : (run chain1 (restoreCfgN 1 { st := .running 0 [] [], paused := false, fut := .pending, ctx := [] }) [.tick]).st.label = .waiting ∧
    (run chain1 (restoreCfgN 1 { st := .running 0 [] [], paused := false, fut := .pending, ctx := [] }) [.tick, .cancelFut, .tickCb .trykill, .tick]).st.label = .killed := by
  decide +kernel
end

end PMF
