import PlumpyModel.PM.LProof11
import PlumpyModel.PM.LProof2
import PlumpyModel.PM.LProof15
/-!
# C01 — state changes follow the lifecycle graph; terminal states are final

Model: `PMF` (lean/PlumpyModel/PM/Model.lean).  `Label` and `allowed` are generated from the source
(`ProcessState`, the `ALLOWED` sets of the registered state classes), so the first theorem is re-checked against what
the code says on every run.  The lifecycle hooks of the model do not raise (the property's hypothesis).
-/
namespace PMF

/-- the documented lifecycle graph, typed from the text of the property -/
def documentedGraph : Label → List Label
  | .created => [.running, .killed, .excepted]
  | .running => [.running, .waiting, .finished, .killed, .excepted]
  | .waiting => [.running, .waiting, .finished, .killed, .excepted]
  | .finished => []
  | .excepted => []
  | .killed => []

/-- the `ALLOWED` sets declared in the source are exactly the documented graph -/
theorem C01_graph_is_documented : ∀ a b : Label, b ∈ allowed a ↔ b ∈ documentedGraph a := by
  -- state by state the same members; the source lists EXCEPTED before KILLED
  have h : ∀ a, (allowed a).Perm (documentedGraph a)
    | .created => .cons _ (.swap ..)
    | .running | .waiting => .cons _ (.cons _ (.cons _ (.swap ..)))
    | .finished | .excepted | .killed => .refl _
  exact fun a b => (h a).mem_iff

/-- the terminal states (no outgoing edge) are exactly FINISHED, EXCEPTED, KILLED, and agree with `is_terminal()` -/
theorem C01_terminal_iff : ∀ l : Label, (terminal l = true ↔ l = .finished ∨ l = .excepted ∨ l = .killed) ∧
    terminal l = isTerminalDecl l := by
  intro l; cases l <;> decide

/-- a process starts in CREATED -/
theorem C01_starts_created (nf : Nat) : (init nf).st.label = .created ∧ (init nf).entered = [.created] ∧
    initialLabel = .created := by
  simp [init, SObj.label, initialLabel]

/-- newest-first log: every step is an edge of the documented graph -/
def edgesDoc : List Label → Bool
  | b :: a :: rest => decide (b ∈ documentedGraph a) && edgesDoc (a :: rest)
  | _ => true

theorem edgesDoc_of_edgesOk : ∀ l : List Label, edgesOk l = true → edgesDoc l = true
  | [] => fun _ => rfl
  | [_] => fun _ => rfl
  | b :: a :: rest => by
      intro h
      simp only [edgesOk, Bool.and_eq_true, decide_eq_true_eq] at h
      simp only [edgesDoc, Bool.and_eq_true, decide_eq_true_eq]
      exact ⟨(C01_graph_is_documented a b).1 h.1, edgesDoc_of_edgesOk (a :: rest) h.2⟩

/-- **C01, first half**: for every user program, every number of awaited futures and every history of ticks (of the
stepping task and of any scheduled callback, in any order) and control requests (pause, play, kill, resume, fail,
call_soon, future cancellation, awaitable completion), the log of entered states is a path of the documented lifecycle
graph that ends at the current state. -/
theorem C01_edges_documented (P : Prog) (nf : Nat) (evs : List Ev) :
    edgesDoc (run P (init nf) evs).entered = true ∧
    (run P (init nf) evs).entered.head? = some (run P (init nf) evs).st.label :=
  ⟨edgesDoc_of_edgesOk _ (C01_edges_legal P nf evs).1, (C01_edges_legal P nf evs).2⟩

/-- **C01, second half — terminal states are final**: from ANY configuration whose state is FINISHED, EXCEPTED or
KILLED, no history of events whatsoever changes the state object (label, result, exception) or the entered log. -/
theorem C01_terminal_states_final (P : Prog) (c : Cfg) (evs : List Ev) (ht : terminal c.st.label = true) :
    (run P c evs).st = c.st ∧ (run P c evs).entered = c.entered :=
  C01_terminal_final P c evs ht

/-- … in particular for every reachable terminal configuration: once a run has terminated, every extension of the
history leaves state and log as they were. -/
theorem C01_reachable_terminal_final (P : Prog) (nf : Nat) (evs₁ evs₂ : List Ev)
    (ht : terminal (run P (init nf) evs₁).st.label = true) :
    (run P (init nf) (evs₁ ++ evs₂)).st = (run P (init nf) evs₁).st ∧
    (run P (init nf) (evs₁ ++ evs₂)).entered = (run P (init nf) evs₁).entered := by
  rw [run_append]
  exact C01_terminal_final P _ evs₂ ht

-- non-vacuity: concrete histories reach each terminal state; a late `fail` and a late failing callback change nothing
example : (run sync2 (init 0) [.tick]).st.label = .finished := by decide +kernel
example : (run sync2 (init 0) [.kill]).st.label = .killed := by decide +kernel
example : (run sync2 (init 0) [.fail (.user 1)]).st.label = .excepted := by decide +kernel
example : (run sync2 (init 0) [.tick, .fail (.user 1), .callSoon true, .tickCb (.usercb true)]).st = .finished (some 3) true := by
  decide +kernel

/-!
## with control requests issued DURING transitions (listeners, state-event callbacks)

Model: `PMF.L` (lean/PlumpyModel/PM/Listener.lean; see the section on listeners in `Props/C04.lean`): `runL P (initL nf plan) evs`
is the run of the same events in which, in addition, the oracle `plan` makes listeners and state-event callbacks call `pause()`,
`play()`, `kill()` from inside notifications, i.e. in the middle of transitions and of the enactment of pending requests.
-/
namespace L

/-- **C01, first half, with listeners**: for every program, every plan of requests issued from inside notifications and every
history of events, the log of entered states is a path of the documented lifecycle graph that ends at the current state. -/
theorem C01_listener_edges_documented (P : Prog) (nf : Nat) (plan : Plan) (evs : List Ev) :
    edgesDoc (runL P (initL nf plan) evs).c.entered = true ∧
    (runL P (initL nf plan) evs).c.entered.head? = some (runL P (initL nf plan) evs).c.st.label :=
  let h := runL_inv P (initL nf plan) evs (inv_init nf)
  ⟨edgesDoc_of_edgesOk _ h.chain, h.head⟩

/-- **C01, second half, with listeners — terminal states stay final under requests issued by listeners**: from ANY configuration
(any plan, counters, flags) whose state is FINISHED, EXCEPTED or KILLED, no history of events — including every `pause()`, `play()`,
`kill()` that listeners issue from `on_process_played` etc. — changes the state object or the entered log. -/
theorem C01_listener_terminal_states_final (P : Prog) (l : LCfg) (evs : List Ev) (ht : terminal l.c.st.label = true) :
    (runL P l evs).c.st = l.c.st ∧ (runL P l evs).c.entered = l.c.entered :=
  StepLeaves.runL (I := fun l' => Fix l.c l'.c)
    (StepLeaves.of_base_fireN (fix_closed ht) (G := fun _ => True) (fun _ => trivial)
      fun _ _ _ _ _ hl h => by rw [h.terminal ht] at hl; cases hl)
    P l evs (Fix.rfl' _)

/-- a transition into a terminal state that is in progress cannot be abandoned by a request made from inside it: it ends in that
state, or in EXCEPTED if entering it fails -/
theorem C01_listener_terminal_transition_completes (F : Hook → LCfg → LCfg) (l : LCfg) (s : SObj) (ht : terminal s.label = true) :
    (transitionToL F l s).c.st = s ∨ (transitionToL F l s).c.st.label = .excepted :=
  transitionToL_terminal l s ht

/-- **with the empty plan the model with listeners is the model** (the statement; proved below as
`C01_listener_conservative_proved`): the `…L` twins repeat the functions of `PM/Model.lean` with the oracle consulted at the
notification points, so with no plan entry every history leaves exactly the configuration it leaves in `PMF.run`. -/
def C01_listener_conservative : Prop :=
  ∀ (P : Prog) (nf : Nat) (evs : List Ev), (runL P (initL nf []) evs).c = run P (init nf) evs

/-- **conservativity of the model with listeners**: for every program, every number of awaited futures and every history of events,
the run of the model with listeners under the EMPTY plan (no listener or state-event callback issues a request) carries exactly
the configuration the original model `PMF.run` reaches — every field of `Cfg`: state object, action table, futures, logs, program
counter of the stepping task.  The other fields of the `L` configuration are the oracle's bookkeeping (counters, the two flags).
So every theorem proved about `runL` for all plans specialises to the original model, and the two models cannot drift apart
silently.  (`PM/LProof14.lean`, `PM/LProof15.lean`; the model-vs-model "twin" stream of the harness checks the same thing on the
compiled drivers.) -/
theorem C01_listener_conservative_proved : C01_listener_conservative :=
  fun P nf evs => runL_conservative P nf evs

/-- … and every event (tick, control call, callback) returns the same value to its caller in both models, after every history. -/
theorem C01_listener_conservative_returns (P : Prog) (nf : Nat) (evs : List Ev) (ev : Ev) :
    (stepL P (runL P (initL nf []) evs) ev).2 = (step P (run P (init nf) evs) ev).2 :=
  (stepL_twin P (runL_twin P evs (twin_init nf)) ev).2

/-- **the invariant of the original model that conservativity rests on**: in every reachable configuration of `PM/Model.lean`, an
interrupt action that is still pending and is a pause action is the one recorded in `_pausing`.  The real
`CancellableAction.run` → `_do_pause(next_state)` returns early when `_pausing` was cleared during its own transition ("retracted
while transitioning") and stores its result only if the action is still pending; the original `runAction` has neither test.
Without listeners nothing runs during that transition, `play()` retracts a pending pause by CANCELLING it (a cancelled action is
not run), and `_pausing` is cleared only there and when the pause is enacted — so both tests are unobservable, which is this
invariant.  It is false for arbitrary configurations (`example` below): there the two models differ. -/
theorem C01_pending_pause_is_recorded (P : Prog) (nf : Nat) (evs : List Ev) (i : Nat)
    (hi : (run P (init nf) evs).interrupt = some i) (hp : actionStatus (run P (init nf) evs) i = .pending)
    (hk : actionKind (run P (init nf) evs) i = some .pause) : (run P (init nf) evs).pausing = some i :=
  run_pi P (init nf) evs (pi_init nf) i hi hp hk

/-- … and the second fact conservativity needs, on the side of the model with listeners (any plan): between two events a step in
progress is executing its state (`_stepping → _executing`), so `pause()` / `kill()` from the environment interrupt the state
exactly when the original model (which looks at `_stepping`) does. -/
theorem C01_listener_stepping_is_executing (P : Prog) (l : LCfg) (h : l.c.stepping = true → l.executing = true) :
    (tickStepperL (fireN l.plan.length) P l).c.stepping = true → (tickStepperL (fireN l.plan.length) P l).executing = true :=
  tickStepperL_ex P l h

-- non-vacuity: a kill from `on_process_running` ends KILLED through legal edges; a late play on a process that was killed while
-- paused notifies `on_process_played`, whose listener kills and pauses: nothing changes
example : (runL sync2 (initL 0 [(.running, 1, .kill)]) [.tick]).c.entered = [.killed, .running, .created] := by decide +kernel
example : (runL sync2 (initL 0 [(.played, 1, .kill), (.played, 2, .pause)]) [.pause, .kill, .play, .play, .tick]).c.st = .killed := by
  decide +kernel

-- non-vacuity of conservativity: a history in which a pause requested during a step is retracted by `play()`, requested again and
-- enacted with the next state (the branch of `runAction` / `runActionL` that differs); both models agree, and the invariant's
-- hypotheses hold non-trivially in the middle of it
section
private def async1 : Prog := fun fn _ _ _ => if fn = 0 then ⟨1, .ret (.cont 1 [] [])⟩ else ⟨0, .ret (.stop (some 3) true)⟩
example : let l := (runL async1 (initL 0 []) [.tick, .pause, .play, .pause, .tick]).c
    let c := run async1 (init 0) [.tick, .pause, .play, .pause, .tick]
    l.st = c.st ∧ l.paused = c.paused ∧ l.notif = c.notif ∧ l.pc = c.pc ∧ l.interrupt = c.interrupt ∧
    c.st.label = .running ∧ c.paused = some 0 ∧ c.notif = [.paused, .running, .running] := by decide +kernel
example : let c := run async1 (init 0) [.tick, .pause, .play, .pause]
    c.interrupt = some 1 ∧ actionStatus c 1 = .pending ∧ actionKind c 1 = some .pause ∧ c.pausing = some 1 ∧
    actionStatus c 0 = .cancelled := by decide +kernel
-- with a non-empty plan the runs do differ (the empty plan is a real hypothesis): a kill from `on_process_running`
example : (runL async1 (initL 0 [(.running, 1, .kill)]) [.tick]).c.st ≠ (run async1 (init 0) [.tick]).st := by decide +kernel
-- outside the reachable configurations the invariant fails and the models differ: a pending pause action in the slot that is
-- not recorded in `_pausing` pauses the process in `runAction`, while `runActionL` (like `_do_pause`) takes it for retracted
private def odd : Cfg := { st := .running 1 [] [], stepping := true, actions := [⟨.pause, 0, .pending⟩], interrupt := some 0 }
example : odd.interrupt = some 0 ∧ actionStatus odd 0 = .pending ∧ actionKind odd 0 = some .pause ∧ odd.pausing = none := by
  decide +kernel
example : (runActionL (fireN 0) { c := odd } 0 (some (.running 1 [] []))).c.paused = none ∧
    (runAction odd 0 (some (.running 1 [] []))).paused = some 0 := by decide +kernel
end

end L

end PMF
