import PlumpyModel.Fault.Model
import PlumpyModel.Fault.Proof6
import PlumpyModel.Fault.Proof17
import PlumpyModel.Fault.Proof12
/-!
# C03 — a failure in user code ends the process EXCEPTED, never half-transitioned

Model: `Fault.transitionTo` (lean/PlumpyModel/Fault/Model.lean): one transition of the state machine in which every
lifecycle hook is a user override `[raise]; super(); [raise]`, with at most one injected fault.  The configuration
before the transition is that of a live process as C02's invariant describes it (`liveCfg`: future pending, not closed,
callbacks installed, no cleanup run, nothing notified).  All statements are over the complete (finite) space of
from-labels × targets × fault points × before/after variants, decided by the kernel.

The second half of the file is about WHOLE RUNS: the process-control model with listeners (`PM/Listener.lean`) with the same user
overrides put into every lifecycle hook (`Fault/Process.lean`, namespace `PMF.FP`: program, schedule of requests, requests that
listeners issue from inside transitions, one injected fault), plus the faults that are not lifecycle hooks: a raising step function
or `out()` call and a failing `call_soon` callback (statements about `PMF.L` itself), listeners and cleanups (the loops that swallow
their exceptions), construction.  Every case the harness runs is decided by these models (`pmodel faultrun` / `pmodel fault`).
-/
namespace Fault
open PMF

/-- the outcome the property demands: no exception escapes, the process is EXCEPTED with exactly the injected fault,
its future raises it, it is closed, callbacks are cleared and the cleanups ran exactly once -/
def good (r : Res) : Bool :=
  r.2.isNone && r.1.label == .excepted && r.1.excIsFault && r.1.fut == .exc true && r.1.closed && !r.1.hooks &&
  r.1.cleanups == 1 && r.1.term.getLast? == some .excepted

def liveLabel (l : Label) : Bool := l == .created || l == .running || l == .waiting

/-- the two fault points that lie after the process has been closed (finding F18) -/
def afterClose (p : FaultPt) : Bool := p.after && (p.phase == .terminated || p.phase == .close)

/-- `C03_hook_fault_excepted` at one point of its case space: a hypothesis fails or the outcome is `good` -/
def hookFaultCase (l tl : Label) (tf : Bool) (ph : Phase) (af : Bool) : Bool :=
  !(liveLabel l && decide (tl ∈ allowed l) && tl != .excepted && reached l ⟨tl, tf⟩ ⟨ph, af⟩ && !afterClose ⟨ph, af⟩) ||
  good (transitionTo (some ⟨ph, af⟩) (liveCfg l) ⟨tl, tf⟩)

/-- the whole space (6 × 6 × 2 × 5 × 2 points), evaluated once -/
theorem hookFaultSpace :
    (Label.all.all fun l => Label.all.all fun tl => [false, true].all fun tf =>
      [Phase.exiting, .entering, .entered, .terminated, .close].all fun ph => [false, true].all fun af =>
        hookFaultCase l tl tf ph af) = true := by decide +kernel

/-- **a fault in any state entry / exit / termination hook**, before or after the base implementation ran, at any
transition of a live process to any allowed target, ends the process EXCEPTED with exactly that exception — except at the
two points after `close()` (`C03_witness_fault_after_close`). -/
theorem C03_hook_fault_excepted (l : Label) (t : Target) (p : FaultPt)
    (hl : liveLabel l = true) (hal : t.label ∈ allowed l) (hne : t.label ≠ .excepted)
    (hr : reached l t p = true) (hs : afterClose p = false) :
    good (transitionTo (some p) (liveCfg l) t) = true := by
  obtain ⟨tl, tf⟩ := t
  obtain ⟨ph, af⟩ := p
  have h := hookFaultSpace
  simp only [List.all_eq_true] at h
  have h := h l (by cases l <;> decide) tl (by cases tl <;> decide) tf (by cases tf <;> decide) ph (by cases ph <;> decide)
    af (by cases af <;> decide)
  rcases Bool.or_eq_true _ _ |>.mp h with h | h
  · simp [hl, hal, hne, hr, hs] at h
  · exact h

/-- **a failing step function, continuation or call_soon callback** (the exception reaches `fail()` / the end of the
step, which transitions to EXCEPTED with it): same outcome, from every live state -/
theorem C03_user_exception_excepted (l : Label) (hl : liveLabel l = true) :
    good (transitionTo none (liveCfg l) { label := .excepted, isFault := true }) = true := by
  cases l <;> first | rfl | (exfalso; revert hl; decide)

/-- `C03_no_fault_no_exception` at one point of its case space -/
def noFaultCase (l tl : Label) (tf : Bool) : Bool :=
  !(liveLabel l && decide (tl ∈ allowed l)) ||
  decide ((transitionTo none (liveCfg l) ⟨tl, tf⟩).2 = none ∧ (transitionTo none (liveCfg l) ⟨tl, tf⟩).1.label = tl)

theorem noFaultSpace :
    (Label.all.all fun l => Label.all.all fun tl => [false, true].all fun tf => noFaultCase l tl tf) = true := by decide +kernel

/-- without a fault a transition to an allowed target just happens (sanity of the model) -/
theorem C03_no_fault_no_exception (l : Label) (t : Target) (hl : liveLabel l = true) (hal : t.label ∈ allowed l) :
    (transitionTo none (liveCfg l) t).2 = none ∧ (transitionTo none (liveCfg l) t).1.label = t.label := by
  obtain ⟨tl, tf⟩ := t
  have h := noFaultSpace
  simp only [List.all_eq_true] at h
  have h := h l (by cases l <;> decide) tl (by cases tl <;> decide) tf (by cases tf <;> decide)
  rcases Bool.or_eq_true _ _ |>.mp h with h | h
  · simp [hl, hal] at h
  · exact of_decide_eq_true h

/-- **finding F18 (witness)**: an `on_terminated` (or `on_close`) override raising AFTER `super()` — i.e. after the
process was closed and its callbacks cleared — leaves the process EXCEPTED while its future still reports the
outcome of the state it had entered.  This is the negation of `good` at exactly those two points. -/
theorem C03_witness_fault_after_close :
    good (transitionTo (some ⟨.terminated, true⟩) (liveCfg .running) { label := .finished }) = false ∧
    (transitionTo (some ⟨.terminated, true⟩) (liveCfg .running) { label := .finished }).1.label = .excepted ∧
    (transitionTo (some ⟨.terminated, true⟩) (liveCfg .running) { label := .finished }).1.fut = .result ∧
    good (transitionTo (some ⟨.close, true⟩) (liveCfg .running) { label := .killed }) = false := by decide

/-- **pause / play hooks**: a fault is handed to the requester, the process keeps its state, stays open, and no
pause request is left pending (so it remains controllable: C04 / C05 apply to the configuration) -/
theorem C03_pause_hook_fault_reported (c : PP) (h : PHook) (af : Bool) (hh : h ≠ .playing) :
    (doPause (some (h, af)) c).2 = some true ∧ (doPause (some (h, af)) c).1.base = c.base ∧
    (doPause (some (h, af)) c).1.pausing = false := by
  cases h <;> cases af <;> first | exact absurd rfl hh | simp [doPause]

theorem C03_play_hook_fault_reported (c : PP) (af : Bool) :
    (doPlay (some (.playing, af)) c).2 = some true ∧ (doPlay (some (.playing, af)) c).1.base = c.base := by
  cases af <;> simp [doPlay]

-- non-vacuity: the hypotheses of the main theorem are satisfiable, e.g. `on_finish` raising after `super()`
example : liveLabel .running = true ∧ Label.finished ∈ allowed .running ∧
    reached .running { label := .finished } ⟨.entering, true⟩ = true ∧ afterClose ⟨.entering, true⟩ = false := by decide

theorem callAll_fold {σ : Type} (cbs : List (Callback σ)) (s : σ) (n k : Nat) :
    cbs.foldl (fun acc cb => (cb.eff acc.1, acc.2.1 + 1, if cb.raises then acc.2.2 + 1 else acc.2.2)) (s, n, k) =
      (cbs.foldl (fun t cb => cb.eff t) s, n + cbs.length, k + (cbs.filter (·.raises)).length) := by
  induction cbs generalizing s n k with
  | nil => simp
  | cons cb rest ih =>
    simp only [List.foldl, List.length_cons]
    rw [ih]
    cases h : cb.raises <;> simp [List.filter, h] <;> omega

/-- **listeners and cleanups** (`EventHelper.fire_event`, the cleanup loop of `on_close`): whichever callbacks raise, EVERY callback
runs exactly once and in order, the state they leave is the one they leave when none of them raises, nothing propagates (the function
returns a state, not an exception), and exactly the raising ones are logged. -/
theorem C03_swallowed_exceptions_change_nothing {σ : Type} (cbs : List (Callback σ)) (s : σ) :
    (callAll cbs s).1 = (callAll (quiet cbs) s).1 ∧ (callAll cbs s).2.1 = cbs.length ∧
    (callAll cbs s).2.2 = (cbs.filter (·.raises)).length ∧ (callAll cbs s).1 = cbs.foldl (fun t cb => cb.eff t) s := by
  unfold callAll quiet
  rw [callAll_fold, callAll_fold]
  refine ⟨?_, by simp, by simp, rfl⟩
  show _ = List.foldl (fun t cb => cb.eff t) s (List.map (fun cb => { cb with raises := false }) cbs)
  rw [List.foldl_map]

-- three cleanups, the first one raising: all three ran, one exception was logged
example : callAll [⟨(· + 1), true⟩, ⟨(· + 10), false⟩, ⟨(· + 100), false⟩] (0 : Nat) = (111, 3, 1) := by decide

/-- **construction**: a fault in `on_create`, before or after `super().on_create()`, propagates to the caller of the constructor and
no process object is returned; without a fault the constructor returns a CREATED process. -/
theorem C03_construction_fault_propagates (af : Bool) :
    construct (some af) = (none, some true) ∧ (construct none).2 = none ∧ ((construct none).1.map (·.label)) = some .created := by
  cases af <;> decide

/-- **output hooks**: an `out()` call whose `on_output_emitting` / `on_output_emitted` override raises (before or after `super()`)
raises that exception into the step function that made the call — so the step function raises, which is
`PMF.L.C03_raising_step_excepted` below —; the value is stored iff `on_output_emitting` had returned, the listeners were told iff the
base `on_output_emitted` ran. -/
theorem C03_output_hook_fault (h : OHook) (af : Bool) :
    (outCall (some (h, af))).2 = some true ∧
    ((outCall (some (h, af))).1.stored = (h == .emitted)) ∧
    ((outCall (some (h, af))).1.notified = (h == .emitted && af)) ∧
    outCall none = ({ stored := true, notified := true }, none) := by
  cases h <;> cases af <;> decide

end Fault

/-! ## Whole runs: faults that are not lifecycle hooks (statements about the model with listeners itself) -/
namespace PMF
namespace L

/-- **a step function (or an `out()` call in it) that raises ends the process EXCEPTED with exactly that exception**: for every
program, plan of listener requests and history, if in the configuration reached the process is live and the stepping task is inside
a step function whose next move is to raise `e`, then the wake-up of the stepping task leaves the process EXCEPTED with `e`, its
future raising `e`, closed, the cleanups run once, listeners told once — whatever pause or kill request was pending (it is dropped)
— and `step_until_terminated()` has returned normally. -/
theorem C03_raising_step_excepted (P : Prog) (nf : Nat) (plan : Plan) (evs : List Ev) (e : Exc)
    (hl : terminal (runL P (initL nf plan) evs).c.st.label = false)
    (hpc : (runL P (initL nf plan) evs).c.pc = .inUser ⟨0, .raise e⟩) :
    let l' := (stepL P (runL P (initL nf plan) evs) .tick).1
    l'.c.st = .excepted e ∧ l'.c.fut = .exc e ∧ l'.c.closed = true ∧ l'.c.cleanups = 1 ∧ termCount l'.c.notif = 1 ∧
    l'.c.pc = .done := by
  intro l'
  have hi : Inv2 (runL P (initL nf plan) evs).c := runL_inv2 P _ evs (inv2_init nf)
  obtain ⟨h1, h2, h3⟩ := tick_raise (fireN_g3 _) (fireN_qq _) P _ e hi hl hpc
  obtain ⟨o1, o2, o3, o4⟩ := excepted_outcome h2 h1
  exact ⟨h1, o1, o2, o3, o4, h3⟩

/-- **… a step function that raises without awaiting anything** (configuration level: any configuration in which C02's invariant
holds — every reachable one, `C02_listener_outcome_agrees` —, the state RUNNING a function whose body raises at once): `Process.step`
ends the same way within the callback that activated the function. -/
theorem C03_raising_sync_step_excepted (P : Prog) (n m : Nat) (l : LCfg) (e : Exc) (fn : Nat) (args : List Val)
    (kw : List (Nat × Val)) (hi : Inv2 l.c) (hst : l.c.st = .running fn args kw) (hb : P fn args kw l.c.ctx = ⟨0, .raise e⟩)
    (hnc : ∀ e', l.c.pc ≠ .crashed e') :
    let l' := stepBodyL (fireN m) P (n + 1) l
    l'.c.st = .excepted e ∧ l'.c.fut = .exc e ∧ l'.c.closed = true ∧ l'.c.cleanups = 1 ∧ l'.c.pc = .done := by
  intro l'
  obtain ⟨h1, h2, h3⟩ := stepBodyL_raise (fireN_g3 m) (fireN_qq m) P n l e fn args kw hi hst hb hnc
  obtain ⟨o1, o2, o3, _⟩ := excepted_outcome h2 h1
  exact ⟨h1, o1, o2, o3, h3⟩

/-- **a failing `call_soon` callback fails a live process** (`callback_excepted` → `fail()`): for every program, plan and history, if
the process is live when the raising callback runs, it ends EXCEPTED with the callback's exception, future raising it, closed. -/
theorem C03_failing_callback_excepted (P : Prog) (nf : Nat) (plan : Plan) (evs : List Ev)
    (hl : terminal (runL P (initL nf plan) evs).c.st.label = false)
    (hr : (runL P (initL nf plan) evs).c.ready.contains (.usercb true) = true) :
    let l' := (stepL P (runL P (initL nf plan) evs) (.tickCb (.usercb true))).1
    l'.c.st = .excepted (.user 8) ∧ l'.c.fut = .exc (.user 8) ∧ l'.c.closed = true ∧ l'.c.cleanups = 1 := by
  intro l'
  have hi : Inv2 (runL P (initL nf plan) evs).c := runL_inv2 P _ evs (inv2_init nf)
  obtain ⟨h1, h2⟩ := callback_raise (fireN_g3 _) _ hi hl hr
  obtain ⟨o1, o2, o3, _⟩ := excepted_outcome h2 h1
  exact ⟨h1, o1, o2, o3⟩

/-- **… and changes nothing on a terminated one**: state, future, closedness are those before the callback ran. -/
theorem C03_late_failing_callback_changes_nothing (P : Prog) (l : LCfg) (ht : terminal l.c.st.label = true) :
    let l' := (stepL P l (.tickCb (.usercb true))).1
    l'.c.st = l.c.st ∧ l'.c.fut = l.c.fut ∧ l'.c.closed = l.c.closed ∧ l'.c.cleanups = l.c.cleanups ∧ l'.c.notif = l.c.notif := by
  intro l'
  have : l' = (if l.c.ready.contains (.usercb true) then l.upd fun c => { c with ready := c.ready.erase (.usercb true) } else l) :=
    callback_raise_terminated l ht
  rw [this]
  split <;> exact ⟨rfl, rfl, rfl, rfl, rfl⟩

end L
end PMF

/-! ## Whole runs with a fault in a lifecycle hook (`Fault/Process.lean`)

`runX P (initX nf plan (some a)) evs`: program `P`, `nf` awaited futures, the plan of requests that listeners issue from inside
notifications, the fault `a` (hook, number of calls that pass first, before / after `super()`), history `evs` of event-loop
callbacks and requests.  `fired` says that the fault has fired. -/
namespace PMF
namespace FP
open L

/-- the outcome the property demands of a run whose fault is `faultExc` -/
def GoodRun (x : FCfg) : Prop :=
  x.l.c.st = .excepted faultExc ∧ x.l.c.fut = .exc faultExc ∧ x.l.c.closed = true ∧ x.l.c.cleanups = 1 ∧ x.l.trans = none

/-- the run ended in an error of the state machine itself (a "cannot transition" / "future already resolved" / failed assertion
of `call_with_super_check`), not in the fault -/
def InternalError (x : FCfg) : Prop := ∃ e, Internal e ∧ x.l.c.st = .excepted e

/-- **a fault in a lifecycle hook of a transition ends the process EXCEPTED with exactly that exception — no hypothesis on the
run** (`C03_hook_fault_ends_excepted` for all twelve transition hooks without `hni`): for every program, plan, history and every
fault point except the two after `close()` (F18), once the fault has fired: EXCEPTED with the fault, future raising it, closed,
cleanups run once, no transition in progress. -/
theorem C03_hook_fault_ends_excepted_unconditional (P : Prog) (nf : Nat) (plan : Plan) (a : Arm) (evs : List Ev)
    (hm : mainHK a.hk = true) (hac : afterClose a = false)
    (hf : (runX P (initX nf plan (some a)) evs).fired = true) :
    GoodRun (runX P (initX nf plan (some a)) evs) :=
  have h := (runX_KI hac P nf plan evs).good
  ⟨(h.2.2 hm hf).1, (h.2.2 hm hf).2.1, (h.2.2 hm hf).2.2.1, (h.2.2 hm hf).2.2.2, h.2.1⟩

/-- **a fault in a lifecycle hook of a transition ends the process EXCEPTED with exactly that exception**: for every program,
every plan of listener requests, every history of events (wake-ups of the stepping task and of callbacks in any order, pause, play,
kill, resume, fail, …) and every fault point — any of `on_exit_running/waiting`, `on_run/wait/finish/kill`,
`on_running/waiting/finished/killed`, `on_terminated`, `on_close`, any occurrence, raising before or after `super()` — EXCEPT the two
points after `close()` (`afterClose`, finding F18): once the fault has fired, in every later configuration the process is EXCEPTED
with the fault, its future raises the fault, it is closed, the cleanups ran exactly once and no transition is left in progress.
(Hypothesis `hni`, needed for `on_terminated` / `on_close` only: the run did not end in an error of the state machine itself — a
"cannot transition" or a failed assertion whose own failing transition is then hit by the fault, a second failure, which
`transition_to` re-raises.  For the other ten hooks there is no hypothesis beyond the fault having fired.  The hypothesis is always
true: `C03_fault_never_meets_state_machine_error`; the statement without it is `C03_hook_fault_ends_excepted_unconditional`.) -/
theorem C03_hook_fault_ends_excepted (P : Prog) (nf : Nat) (plan : Plan) (a : Arm) (evs : List Ev)
    (hm : mainHK a.hk = true) (hac : afterClose a = false)
    (hf : (runX P (initX nf plan (some a)) evs).fired = true)
    (hni : (a.hk = .onTerminated ∨ a.hk = .onClose) → ¬ InternalError (runX P (initX nf plan (some a)) evs)) :
    GoodRun (runX P (initX nf plan (some a)) evs)  :=
  C03_hook_fault_ends_excepted_unconditional P nf plan a evs hm hac hf

/-- **no fault at any point ever breaks the agreement of the outcome reports — no hypothesis on the run**
(`C03_fault_never_breaks_agreement` without `hni`): for every program, plan, history and every fault point other than the two after
`close()`, in every configuration of the run: a live process has an unresolved future, is not closed and ran no cleanup; a terminated
one is closed, ran its cleanups once and its future holds the outcome of its state object; no transition is left in progress. -/
theorem C03_fault_never_breaks_agreement_unconditional (P : Prog) (nf : Nat) (plan : Plan) (a : Arm) (evs : List Ev)
    (hac : afterClose a = false) :
    Inv2w (runX P (initX nf plan (some a)) evs).l.c ∧ (runX P (initX nf plan (some a)) evs).l.trans = none := by
  rw [runX_armed]
  have h := (runF_KI hac P _ evs (initX_KI a nf plan)).k2
  exact ⟨h.g.1, h.tr⟩

/-- **no fault at any point ever breaks the agreement of the outcome reports** (the lifecycle part of C02's invariant): for every
program, plan, history and EVERY fault point other than the two after `close()` — the pause / play hooks included —, in every
configuration of the run: a live process has an unresolved future, is not closed and has run no cleanup; a terminated one is closed,
ran its cleanups once and its future holds the outcome of its state object.  A pause / play hook fault in particular never
terminates or half-terminates anything. -/
theorem C03_fault_never_breaks_agreement (P : Prog) (nf : Nat) (plan : Plan) (a : Arm) (evs : List Ev)
    (hac : afterClose a = false)
    (hni : (a.hk = .onTerminated ∨ a.hk = .onClose) → ¬ InternalError (runX P (initX nf plan (some a)) evs)) :
    Inv2w (runX P (initX nf plan (some a)) evs).l.c ∧ (runX P (initX nf plan (some a)) evs).l.trans = none  :=
  C03_fault_never_breaks_agreement_unconditional P nf plan a evs hac

/-- **pause / play hook faults, whole runs**: for every program, plan and history and every fault in `on_pausing`, `on_paused`,
`on_playing` (any occurrence, before or after `super()`), unconditionally: the agreement above holds in every configuration of the
run — the fault is handed to the requester (theorems below) and never terminates, closes or half-transitions anything. -/
theorem C03_pause_play_fault_never_disturbs (P : Prog) (nf : Nat) (plan : Plan) (a : Arm) (evs : List Ev)
    (hm : mainHK a.hk = false) :
    Inv2w (runX P (initX nf plan (some a)) evs).l.c ∧ (runX P (initX nf plan (some a)) evs).l.trans = none :=
  have hac : afterClose a = false := by unfold afterClose; cases h : a.hk <;> simp [h, mainHK] at hm ⊢
  ⟨(runX_KI hac P nf plan evs).good.1, (runX_KI hac P nf plan evs).good.2.1⟩

/-- The clause "the stepping task returns normally" for hook faults in full: after a transition-hook fault has fired — ANY of the
twelve transition hooks, any occurrence, before or after `super()` except the two points after `close()` (F18) —, in a run that did
not end in an error of the state machine itself, finitely many wake-ups end `step_until_terminated()` normally.  Before the repairs
e94edb5 / a130f23 it was false (F28, F30).  Now it is PROVED: `C03_stepper_returns_after_hook_fault_proved` below.  (The ten hooks
other than `on_terminated` / `on_close` need no hypothesis on the final configuration: `C03_stepper_returns_after_hook_fault_partial`.
`on_terminated` / `on_close` raising before `super()` also run in the failing path of `transition_to`, where a second failure
propagates — alternative `Bad` of the invariant `K`; `Bad` is absorbing, `C03_terminated_with_fault_stays`, so the hypothesis on the
final configuration excludes it in every earlier one, and in every configuration that is not `Bad` the linking invariant holds,
`Fault/Proof8`, `Proof10 … Proof12`.  `Bad` is in fact unreachable, `Fault/Proof16`, `Proof17`: the statement without the hypothesis on the final
configuration is `C03_stepper_returns_after_hook_fault_unconditional`.) -/
def C03_stepper_returns_after_hook_fault : Prop :=
  ∀ (P : Prog) (nf : Nat) (plan : Plan) (a : Arm) (evs : List Ev), mainHK a.hk = true → afterClose a = false →
    (runX P (initX nf plan (some a)) evs).fired = true → ¬ InternalError (runX P (initX nf plan (some a)) evs) →
    ∃ n, (runF P (runX P (initX nf plan (some a)) evs) (List.replicate n .tick)).l.c.pc = .done

/-- **the stepping task returns normally after a hook fault — every transition hook, no hypothesis on the run**
(`C03_stepper_returns_after_hook_fault` with its hypothesis `¬ InternalError` discharged): for every program, plan, history and every
fault in any of the twelve transition hooks, any occurrence, before or after `super()` except the two points after `close()`: once the
fault has fired, finitely many wake-ups of the stepping task end `step_until_terminated()` normally. -/
theorem C03_stepper_returns_after_hook_fault_unconditional (P : Prog) (nf : Nat) (plan : Plan) (a : Arm) (evs : List Ev)
    (hm : mainHK a.hk = true) (hac : afterClose a = false)
    (hf : (runX P (initX nf plan (some a)) evs).fired = true) :
    ∃ n, (runF P (runX P (initX nf plan (some a)) evs) (List.replicate n .tick)).l.c.pc = .done := by
  have hg := C03_hook_fault_ends_excepted_unconditional P nf plan a evs hm hac hf
  rw [runX_armed] at hg ⊢
  exact stepperF_returns_run2 hac P nf plan evs (by rw [hg.1]; rfl) (runF_not_bad hac P nf plan evs)

/-- **the stepping task returns normally after a hook fault** — for every program, plan, history and every fault in
`on_exit_running/waiting`, `on_run/wait/finish/kill`, `on_running/waiting/finished/killed` (any occurrence, before or after
`super()`): once the fault has fired, finitely many wake-ups of the stepping task end `step_until_terminated()` normally (its program
counter is `done`), wherever the task was suspended when the fault fired — inside a step function, on the wait of a WAITING state
(which the failed transition still completes, repair a130f23), on the pause future (released by `on_terminated`) — and whatever was
pending or requested.  (`_partial`: no hypothesis on the final configuration, but `on_terminated` / `on_close` are not covered; the
full statement, all twelve hooks, is `C03_stepper_returns_after_hook_fault_proved`.) -/
theorem C03_stepper_returns_after_hook_fault_partial (P : Prog) (nf : Nat) (plan : Plan) (a : Arm) (evs : List Ev)
    (hm : mainHK a.hk = true) (hnb : NoTC a)
    (hf : (runX P (initX nf plan (some a)) evs).fired = true) :
    ∃ n, (runF P (runX P (initX nf plan (some a)) evs) (List.replicate n .tick)).l.c.pc = .done :=
  C03_stepper_returns_after_hook_fault_unconditional P nf plan a evs hm hnb.afterClose hf

/-- **the exception never escapes into the stepping task, and the task is never left blocked — every hook, no hypothesis on the run**
(`C03_hook_fault_never_reaches_the_stepping_task_any_hook` without `hni`): the linking invariant `Inv10` of C02 holds in every
configuration of every run with a fault at any point except the two after `close()`. -/
theorem C03_hook_fault_never_reaches_the_stepping_task_unconditional (P : Prog) (nf : Nat) (plan : Plan) (a : Arm)
    (evs : List Ev) (hac : afterClose a = false) :
    Inv10 (runX P (initX nf plan (some a)) evs).l.c := by
  rw [runX_armed]
  exact (runF_jf2 hac P nf plan evs (runF_not_bad hac P nf plan evs)).old

/-- **the exception never escapes into the stepping task, and the task is never left blocked**: for every hook but
`on_terminated` / `on_close`, in EVERY configuration of the run (fired or not): the stepping task has not crashed; if it is suspended
on a waiting future, the current state owns that future or the future is completed; if it is suspended on a pause future, that is
the current one or a released one, and on a terminated process it is released (the linking invariant `Inv10` of C02, for runs with
a fault). -/
theorem C03_hook_fault_never_reaches_the_stepping_task (P : Prog) (nf : Nat) (plan : Plan) (a : Arm) (evs : List Ev)
    (hac : afterClose a = false) (hnb : NoTC a) :
    Inv10 (runX P (initX nf plan (some a)) evs).l.c :=
  C03_hook_fault_never_reaches_the_stepping_task_unconditional P nf plan a evs hac

/-- **terminal states are final and a fault that has fired has fired** (runs of the model with a fault, from ANY configuration):
once the process has terminated, every later configuration of the run has the same state object, and `fired` is never reset.  So
"the fault fired and the process is EXCEPTED with an error of the state machine itself" (`Bad`) is absorbing: if it holds in some
configuration of a run it holds in the final one. -/
theorem C03_terminated_with_fault_stays (P : Prog) (x : FCfg) (evs : List Ev) (ht : terminal x.l.c.st.label = true) :
    (runF P x evs).l.c.st = x.l.c.st ∧ (x.fired = true → (runF P x evs).fired = true) ∧
    (InternalError x → InternalError (runF P x evs)) := by
  obtain ⟨h1, h2⟩ := runF_tm P x evs ht
  exact ⟨h1, h2, fun ⟨e, he, hs⟩ => ⟨e, he, by rw [h1]; exact hs⟩⟩

/-- **the stepping task returns normally after a hook fault — every transition hook** (`on_terminated` / `on_close` included; the
statement `C03_stepper_returns_after_hook_fault` in full): for every program, plan, history and every fault point except the two after
`close()`: once the fault has fired, if the run did not end in an error of the state machine itself, finitely many wake-ups of the
stepping task end `step_until_terminated()` normally — wherever the task was suspended when the fault fired (inside a step function,
on the wait of a WAITING state, on the pause future, which the `on_terminated` of the failing path releases when the first
`on_terminated` raised before doing so). -/
theorem C03_stepper_returns_after_hook_fault_proved : C03_stepper_returns_after_hook_fault :=
  fun P nf plan a evs hm hac hf _ => C03_stepper_returns_after_hook_fault_unconditional P nf plan a evs hm hac hf

/-- **the exception never escapes into the stepping task, and the task is never left blocked — every hook**: for every fault point
except the two after `close()` (the pause / play hooks included), in every configuration of a run that did not end in an error of
the state machine itself (hypothesis needed for `on_terminated` / `on_close` only): the linking invariant `Inv10` of C02 holds — the
stepping task has not crashed; suspended on a waiting future, the current state owns it or it is completed; suspended on a pause
future, that is the current one or a released one, and on a terminated process it is released. -/
theorem C03_hook_fault_never_reaches_the_stepping_task_any_hook (P : Prog) (nf : Nat) (plan : Plan) (a : Arm) (evs : List Ev)
    (hac : afterClose a = false)
    (hni : (a.hk = .onTerminated ∨ a.hk = .onClose) → ¬ InternalError (runX P (initX nf plan (some a)) evs)) :
    Inv10 (runX P (initX nf plan (some a)) evs).l.c :=
  C03_hook_fault_never_reaches_the_stepping_task_unconditional P nf plan a evs hac

/-- **`step_until_terminated()` returns, configuration level, every hook**: from ANY terminated configuration of the model with a
fault in which the stepping task has not crashed and is not blocked on an unreleased future, finitely many wake-ups end it normally
(on a terminated process a wake-up consults no hook and no listener: `tickStepperF_terminal_c`). -/
theorem C03_stepper_returns_configuration (P : Prog) (x : FCfg) (ht : terminal x.l.c.st.label = true)
    (hcr : ∀ e, x.l.c.pc ≠ .crashed e)
    (hpz : ∀ pf pf', x.l.c.pc = .awaitPaused pf → x.l.c.paused = some pf' → x.l.c.pfs[pf']? = some true)
    (hap : ∀ pf, x.l.c.pc = .awaitPaused pf → x.l.c.pfs[pf]? = some true)
    (haw : ∀ wf, x.l.c.pc = .awaitWaiting wf → ∃ w, x.l.c.wfs[wf]? = some w ∧ w ≠ .pending) :
    ∃ n, (runF P x (List.replicate n .tick)).l.c.pc = .done := by
  obtain ⟨n, hn⟩ := stepper_returns_gen P x.l.c ht hcr hpz hap haw
  exact ⟨n, by rw [ticksF_terminal_c P n x ht]; exact hn⟩

/-- **one transition with the armed fault, every scenario** (configuration level): from ANY configuration in which the invariant
holds and the process is live — whatever is pending or requested, inside or outside a step —, for any target state and any
notification function with the two properties proved of the model's own (`fireNF_nk`): the invariant holds afterwards (so: if the
fault fired in this transition, the process is EXCEPTED with it, closed, future raising it), and NOTHING propagates to the caller of
`transition_to` (`kill()`, `fail()`, the closing part of the step, the pending pause / kill action), except after an error of the
state machine itself. -/
theorem C03_transition_with_fault (a0 : Arm) (N : Hook → FCfg → FCfg) (hN : NK a0 N) (hac : afterClose a0 = false)
    (x : FCfg) (s : SObj) (hk : K a0 x) (hl : terminal x.l.c.st.label = false) :
    K a0 (transitionToF N x s).1 ∧ ((transitionToF N x s).2 = none ∨ Bad a0 (transitionToF N x s).1) :=
  transitionToF_K' hN x s hk hac hl

/-- **the step level**: the closing part of `Process.step` — for every way the step ended (`r`: a next state, among them the EXCEPTED
state of a raising step function; an interruption; an exception), every pending pause / kill action or none, every request a
listener makes meanwhile — keeps the invariant, fault or no fault; and so does every event (`k_step`, `runF_K`). -/
theorem C03_step_with_fault (a0 : Arm) (n : Nat) (hac : afterClose a0 = false) (x : FCfg) (r : StepEnd) (hk : K a0 x) :
    K a0 (endOfStepF (fireNF n) x r) :=
  (k_step (fireNF_nk hac n) hac).endOfStepF x r (fun _ _ _ => trivial) hk

/-- **pause hooks**: a fault in `on_pausing` (before or after `super()`) or in `on_paused` before `super()` is raised by
`_do_pause` to whoever asked (the caller of `pause()`, or the action future, `C03_pause_action_fault_reported`); the process keeps
its state object, future, closedness — only `_pausing` is cleared —, is not paused, and the fault is spent. -/
theorem C03_pausing_hook_fault_reported (N : Hook → FCfg → FCfg) (x : FCfg) (a : Arm)
    (ha : x.arm = some a) (hl : a.left = 0) (hh : a.hk = .onPausing ∨ (a.hk = .onPaused ∧ a.after = false)) :
    (doPauseF N x).2 = some faultExc ∧ (doPauseF N x).1.l = x.l.upd (fun c => { c with pausing := none }) ∧
    (doPauseF N x).1.fired = true ∧ (doPauseF N x).1.arm = none := by
  obtain ⟨hk, left, af⟩ := a
  simp only at hl hh
  subst hl
  unfold doPauseF hookF
  rcases hh with h | ⟨h, h'⟩
  · subst h; cases af <;> simp [ha, armStep, supF, ok, bind, FCfg.updC]
  · subst h; subst h'; simp [ha, armStep, supF, ok, bind, FCfg.updC]

/-- … `on_paused` raising AFTER `super()`: the process IS paused (the base implementation ran, the listeners were notified), the
exception is raised to the requester all the same, `_pausing` is cleared. -/
theorem C03_paused_hook_fault_after_super (N : Hook → FCfg → FCfg) (x : FCfg) (ha : x.arm = some ⟨.onPaused, 0, true⟩) :
    ∃ x' : FCfg, x'.l = x.l ∧ x'.arm = none ∧ x'.fired = x.fired ∧ x'.rep = x.rep ∧
      (doPauseF N x).2 = some faultExc ∧
      (doPauseF N x).1.l = (N .paused (x'.updC doPauseHooks)).l.upd (fun c => { c with pausing := none }) ∧
      (doPauseF N x).1.fired = true ∧ (doPauseF N x).1.arm = none := by
  refine ⟨{ x with called := x.called + 1 - 1 + 1, arm := none }, rfl, rfl, rfl, rfl, ?_⟩
  unfold doPauseF hookF
  simp [ha, armStep, supF, ok, bind, FCfg.updC, pausedBaseF]

/-- **… as a pending action of the step**: the exception becomes the exception of the action future the requester holds, nothing
propagates into the step (the stepping task goes on), `_pausing` is cleared. -/
theorem C03_pause_action_fault_reported (N : Hook → FCfg → FCfg) (x : FCfg) (i : Nat) (act : Action) (af : Bool)
    (hai : x.l.c.actions[i]? = some act) (hk : act.kind = .pause) (hs : act.status = .pending)
    (ha : x.arm = some ⟨.onPausing, 0, af⟩) :
    (runActionF N x i none).2 = none ∧
    actionStatus (runActionF N x i none).1.l.c i = .failed faultExc ∧ (runActionF N x i none).1.l.c.pausing = none ∧
    (runActionF N x i none).1.l.c.st = x.l.c.st := by
  -- `_do_pause` raises the fault; the action, still pending, stores it
  have h : (runActionF N x i none).2 = none ∧ (runActionF N x i none).1.l =
      (x.l.upd (fun c => { c with pausing := none })).upd (fun c => setActionStatus c i (.failed faultExc)) := by
    obtain ⟨d1, d2, _⟩ := C03_pausing_hook_fault_reported N x ⟨.onPausing, 0, af⟩ ha rfl (Or.inl rfl)
    unfold runActionF
    rw [hai]
    simp only [hs, ne_eq, not_true_eq_false, if_false, hk]
    generalize doPauseF N x = r at d1 d2
    obtain ⟨y, ye⟩ := r
    simp only at d1 d2
    subst d1
    have hst : actionStatus y.l.c i = .pending := by
      rw [d2]; unfold actionStatus; rw [upd_c]
      show (match x.l.c.actions[i]? with | some a => a.status | none => AStatus.cancelled) = _
      rw [hai]; exact hs
    simp only [hst, if_true]
    exact ⟨rfl, by show (y.updC _).l = _; rw [updC_l, d2]⟩
  obtain ⟨h1, h2⟩ := h
  refine ⟨h1, ?_, ?_, ?_⟩
  · rw [h2]
    simp only [upd_c, actionStatus, setActionStatus_get?, if_true, hai, Option.map_some]
  · rw [h2]; simp only [upd_c]; unfold setActionStatus; split <;> rfl
  · rw [h2]; simp only [upd_c]; exact (setActionStatus_off ..).st

/-- **play hook**: `on_playing` raising before `super()` is raised by `play()`; the process is still paused, nothing changed; raising
after `super()` the process plays (listeners notified) and `play()` raises. -/
theorem C03_playing_hook_fault_reported (N : Hook → FCfg → FCfg) (x : FCfg) (hp : x.l.c.paused.isSome = true) :
    (x.arm = some ⟨.onPlaying, 0, false⟩ →
      (playF N x).2 = .raised faultExc ∧ (playF N x).1.l = x.l ∧ (playF N x).1.fired = true ∧ (playF N x).1.arm = none) ∧
    (x.arm = some ⟨.onPlaying, 0, true⟩ →
      ∃ x' : FCfg, x'.l = x.l ∧ x'.arm = none ∧ x'.fired = x.fired ∧ x'.rep = x.rep ∧
        (playF N x).2 = .raised faultExc ∧ (playF N x).1.l = (N .played (x'.updC (fun c => (play c).1))).l ∧
        (playF N x).1.fired = true ∧ (playF N x).1.arm = none) := by
  obtain ⟨pf, hpp⟩ := Option.isSome_iff_exists.mp hp
  refine ⟨fun ha => ?_, fun ha => ⟨{ x with called := x.called + 1, arm := none }, rfl, rfl, rfl, rfl, ?_⟩⟩
  · unfold playF hookF
    simp [hpp, ha, armStep, retOf]
  · unfold playF hookF
    simp [hpp, ha, armStep, supF, ok, retOf, playingBaseF]

/-! ### the state machine itself never fails: the hypothesis `¬ InternalError` above is always true

The theorems above that cover `on_terminated` / `on_close` assume that the run "did not end in an error of the state machine itself"
(`InternalError`: the state is EXCEPTED with a "cannot transition", a "future already resolved" or a failed assertion) — the only way
the fault can be hit inside the FAILING path of `transition_to`, where a second failure propagates (alternative `Bad` of the invariant
`K`).  `Fault/Proof16`, `Proof17`: that never happens.  The three sources of such errors are excluded one by one:
* `assert self._called == call_count` in `call_with_super_check`: every hook call, every transition and every notification leaves
  `_called` as it found it, whether it returns or raises (`C03_called_balanced`; repair 6c8055d is what makes this true);
* "future already resolved" in `on_finish / on_kill`: the future of a live process is pending or cancelled (`Inv2w`), and a
  cancelled one is replaced;
* "cannot transition": every state the model asks for is allowed from the current one — KILLED, EXCEPTED and RUNNING from every live
  state; what a step function returned, from RUNNING (the stepping task is inside a step function only while the state is not
  CREATED, and no state is ever CREATED again: invariant `IUP`);
and an assertion failing at the top of a nested `transition_to` (a request from inside a transition) returns without changing the
state.  So a transition of the model raises nothing at all (`C03_transition_raises_nothing`), `Bad` is unreachable
(`C03_fault_never_meets_state_machine_error`) and the statements above hold without the hypothesis (`…_unconditional`).

What is NOT true is `¬ InternalError` for every history: the model lets USER code raise the state machine's own exception types —
`fail(AssertionError())`, a step function raising `InvalidStateError`, an awaitable failing with one — and then the process is, correctly,
EXCEPTED with that exception (`C03_user_code_can_raise_the_state_machines_exceptions`).  The full statement for histories and programs
that do not do that is `C03_no_internal_error` (a `def`, not proved); the part proved is `C03_no_internal_error_partial`. -/

/-- **a transition of a live process to an allowed target raises nothing** (configuration level): from ANY configuration in which the
invariant `K` holds and the process is live, for any target that is allowed from the current state, whatever the armed fault (any of
the fifteen hooks, any occurrence, before or after `super()`, except the two points after `close()`) does in it and whatever the
listeners request meanwhile: nothing propagates to the caller of `transition_to` — no "cannot transition", no `InvalidStateError`
from the future, no failed `_called` assertion, and the fault itself is handled —, and the invariant holds afterwards WITHOUT the
alternative `Bad` (`K2`).  This is `C03_transition_with_fault` with its escape clause removed. -/
theorem C03_transition_raises_nothing (a0 : Arm) (n : Nat) (hac : afterClose a0 = false) (x : FCfg) (s : SObj) (hk : K a0 x)
    (hl : terminal x.l.c.st.label = false) (hal : s.label ∈ allowed x.l.c.st.label) :
    (transitionToF (fireNF n) x s).2 = none ∧ K2 a0 (transitionToF (fireNF n) x s).1 :=
  ⟨(transitionToF_G (fireNF_nk hac n) (fireNF_cf n) x s hk hac hl hal).2,
   (transitionToF_G (fireNF_nk hac n) (fireNF_cf n) x s hk hac hl hal).1⟩

/-- **every hook entered through `call_with_super_check` leaves `_called` as it found it** (function level, no hypothesis at all): a
whole `transition_to` — all its hooks, the failing path included, whether the fault fires in it or not, whether it returns or raises —
and every notification of the listeners (with the requests they issue, nested transitions included) return with the call counter
they were entered with; and none of them ever makes the state CREATED.  Hence the final `assert self._called == call_count` never
fails. -/
theorem C03_called_balanced (n : Nat) (x : FCfg) (s : SObj) (h : Hook) :
    (transitionToF (fireNF n) x s).1.called = x.called ∧ (fireNF n h x).called = x.called ∧
    ((transitionToF (fireNF n) x s).1.l.c.st.label = .created → x.l.c.st.label = .created) :=
  ⟨(transitionToF_cf (fireNF_cf n) x s).called, (fireNF_cf n h x).called, (transitionToF_cf (fireNF_cf n) x s).ncr⟩

/-- **the fault never meets an error of the state machine itself** — for every program, plan, history and every fault point except
the two after `close()`: NO configuration of the run is `Bad` (the fault fired in `on_terminated` / `on_close` and the process is
EXCEPTED with an error of the state machine itself).  So the hypothesis `hni` of `C03_hook_fault_ends_excepted`,
`C03_stepper_returns_after_hook_fault_proved`, … excludes nothing that can happen. -/
theorem C03_fault_never_meets_state_machine_error (P : Prog) (nf : Nat) (plan : Plan) (a : Arm) (evs : List Ev)
    (hac : afterClose a = false) :
    ¬ ((a.hk = .onTerminated ∨ a.hk = .onClose) ∧ (runX P (initX nf plan (some a)) evs).fired = true ∧
        InternalError (runX P (initX nf plan (some a)) evs)) := by
  rw [runX_armed]
  intro ⟨h1, h2, e, he, hs⟩
  exact runF_not_bad hac P nf plan evs ⟨h1, h2, e, he, hs⟩

/-- user code that does not raise the state machine's own exception types: the step functions … -/
def CleanProg (P : Prog) : Prop := ∀ fn args kw ctx e, (P fn args kw ctx).out = .raise e → ¬ Internal e

/-- … and the events of the history (`fail(e)`, an awaitable completing with exception `e`) -/
def CleanEv : Ev → Prop
  | .fail e => ¬ Internal e
  | .complete _ (.exc e) => ¬ Internal e
  | _ => True

/-- The statement "no run ends in an error of the state machine itself" in full: for every program and history in which USER code
raises none of the state machine's own exception types, every plan and every armed fault (or none): the process is never EXCEPTED with
a "cannot transition", an `InvalidStateError` or a failed assertion.  NOT PROVED (no counterexample either: exhaustive search over
all histories of length ≤ 4 over ten events × sixty fault points, and of length ≤ 6 over six events × thirty fault points, × eight
plans of the harness's process finds none).  Proved: `C03_no_internal_error_partial` (below) and, for the way such an error could arise inside the model —
a transition raising it — `C03_transition_raises_nothing`.  Missing for the full statement: that before the fault fires (and in
runs without a fault, which are runs of `runL`, another function) every exception that becomes the state object comes from user
code — an invariant on the data that carries user exceptions (failed waiting futures, awaitables, parked wake-ups, the suspended
step function) through all twins, and the same chain for `PM/Listener.lean`; and the two fault points after `close()`, where the
invariant `K` does not hold (F18). -/
def C03_no_internal_error : Prop :=
  ∀ (P : Prog) (nf : Nat) (plan : Plan) (a : Option Arm) (evs : List Ev), CleanProg P → (∀ ev ∈ evs, CleanEv ev) →
    ¬ InternalError (runX P (initX nf plan a) evs)

/-- **no run in which a transition-hook fault has fired ends in an error of the state machine itself** (the part of
`C03_no_internal_error` that is proved; it needs no hypothesis on the program or the history — even if user code raises the state
machine's exception types): for every program, plan, history and every fault in any of the twelve transition hooks except the two
points after `close()`, once the fault has fired the process is EXCEPTED with the fault, not with an error of the state machine.
Missing: the configurations before the fault fires, pause / play hook faults, runs without a fault, the two points after `close()`
(see `C03_no_internal_error`). -/
theorem C03_no_internal_error_partial (P : Prog) (nf : Nat) (plan : Plan) (a : Arm) (evs : List Ev)
    (hm : mainHK a.hk = true) (hac : afterClose a = false)
    (hf : (runX P (initX nf plan (some a)) evs).fired = true) :
    ¬ InternalError (runX P (initX nf plan (some a)) evs) := by
  intro ⟨e, he, hs⟩
  rw [(C03_hook_fault_ends_excepted_unconditional P nf plan a evs hm hac hf).1] at hs
  cases hs
  exact faultExc_not_internal he

/-! ### witnesses and non-vacuity (concrete runs of the model, decided by the kernel; each is also a case of the harness) -/

/-- the process of the harness: `run` (one await) continues with `s2(1, k=2)`, `s2` waits, `s3` (one await) returns 5 -/
def procC03 : Prog := fun fn _ _ _ =>
  if fn = 0 then ⟨1, .ret (.cont 1 [1] [(0, 2)])⟩ else if fn = 1 then ⟨0, .ret (.wait 2)⟩ else ⟨1, .ret (.stop (some 5) true)⟩

-- non-vacuity of `C03_hook_fault_ends_excepted`: `on_finish` raising after `super()` (the future already holds the result), the fault
-- fires in the closing transition of the last step; the run satisfies every hypothesis, and the stepping task has returned
example :
    let x := runX procC03 (initX 0 [] (some ⟨.onFinish, 0, true⟩)) [.tick, .tick, .resume (some 7), .tick, .tick]
    mainHK .onFinish = true ∧ afterClose ⟨.onFinish, 0, true⟩ = false ∧ x.fired = true ∧ x.l.c.st = .excepted faultExc ∧
    x.l.c.fut = .exc faultExc ∧ x.l.c.pc = .done := by decide +kernel

-- … with a kill pending at that moment (requested while the last step was in flight): the kill action performs the transition, the
-- fault in `on_kill` fires there; EXCEPTED with the fault, and the requester of the kill is told `True` (`.done`)
example :
    let x := runX procC03 (initX 0 [] (some ⟨.onKill, 0, false⟩)) [.tick, .tick, .resume (some 7), .tick, .kill, .tick]
    x.fired = true ∧ x.l.c.st = .excepted faultExc ∧ x.l.c.fut = .exc faultExc ∧ x.l.c.closed = true ∧
    x.l.c.actions.map (·.status) = [.done] ∧ x.l.c.pc = .done := by decide +kernel

-- … with a kill requested by a LISTENER of the very transition in which the fault fires (`on_running` raising after `super()`,
-- i.e. after the listeners were notified): the request is deferred, the process excepts, the action is cancelled by the `finally`
example :
    let x := runX procC03 (initX 0 [(.running, 2, .kill)] (some ⟨.onRunning, 1, true⟩)) [.tick, .tick]
    x.fired = true ∧ x.l.c.st = .excepted faultExc ∧ x.l.c.fut = .exc faultExc ∧ x.l.c.closed = true ∧
    x.l.c.actions.map (·.status) = [.cancelled] ∧ x.l.c.pc = .done := by decide +kernel

-- non-vacuity of `C03_raising_step_excepted`: the harness's process whose `s3` raises after its await
example :
    let l := runL (withStepFault procC03 2 1) (initL 0 []) [.tick, .tick, .resume (some 7), .tick]
    terminal l.c.st.label = false ∧ l.c.pc = .inUser ⟨0, .raise faultExc⟩ := by decide +kernel

-- non-vacuity of `C03_stepper_returns_after_hook_fault_partial`: `fail()` on the WAITING process whose `on_exit_waiting` raises
-- (F30) — the fault fires while the stepping task is suspended on the wait of the state being left
example : mainHK .exitWaiting = true ∧ NoTC ⟨.exitWaiting, 0, false⟩ ∧
    (runX procC03 (initX 0 [] (some ⟨.exitWaiting, 0, false⟩)) [.tick, .tick, .tick, .fail (.user 9)]).fired = true ∧
    (runX procC03 (initX 0 [] (some ⟨.exitWaiting, 0, false⟩)) [.tick, .tick, .tick, .fail (.user 9)]).l.c.pc = .awaitWaiting 0 :=
  ⟨rfl, by unfold NoTC; decide, by decide +kernel, by decide +kernel⟩

-- non-vacuity of `C03_stepper_returns_after_hook_fault_proved` for the two hooks it adds: `kill()` on the paused process whose
-- `on_terminated` raises BEFORE `super()` — the fault fires while the stepping task is suspended on the pause future, which the
-- first `on_terminated` did not get to release; the failing path's `on_terminated` (the fault is spent) releases it: EXCEPTED with
-- the fault (not an error of the state machine), and the next wake-up ends `step_until_terminated()`
example :
    let x := runX procC03 (initX 0 [] (some ⟨.onTerminated, 0, false⟩)) [.tick, .pause, .tick, .kill]
    mainHK .onTerminated = true ∧ afterClose ⟨.onTerminated, 0, false⟩ = false ∧ x.fired = true ∧
    x.l.c.st = .excepted faultExc ∧ x.l.c.pc = .awaitPaused 0 ∧ x.l.c.pfs = [true] ∧ (runF procC03 x [.tick]).l.c.pc = .done := by
  decide +kernel

example : ¬ InternalError (runX procC03 (initX 0 [] (some ⟨.onTerminated, 0, false⟩)) [.tick, .pause, .tick, .kill]) := by
  intro ⟨e, he, hs⟩
  have h : (runX procC03 (initX 0 [] (some ⟨.onTerminated, 0, false⟩)) [.tick, .pause, .tick, .kill]).l.c.st = .excepted faultExc := by
    decide +kernel
  rw [h] at hs; cases hs; exact faultExc_not_internal he

-- … and `on_close` raising before `super()` in the closing transition of the last step
example :
    let x := runX procC03 (initX 0 [] (some ⟨.onClose, 0, false⟩)) [.tick, .tick, .resume (some 7), .tick, .tick]
    afterClose ⟨.onClose, 0, false⟩ = false ∧ x.fired = true ∧ x.l.c.st = .excepted faultExc ∧ x.l.c.closed = true ∧
    x.l.c.cleanups = 1 ∧ x.l.c.pc = .done := by decide +kernel

-- non-vacuity of the `…_unconditional` statements and of `C03_transition_raises_nothing`: the `on_terminated`-before-`super()` run
-- above satisfies their hypotheses (no hypothesis on the final configuration is left); a transition hypothesis instance: the
-- initial configuration is live, satisfies `K`, and RUNNING is allowed from CREATED
example : mainHK .onTerminated = true ∧ afterClose ⟨.onTerminated, 0, false⟩ = false ∧
    (runX procC03 (initX 0 [] (some ⟨.onTerminated, 0, false⟩)) [.tick, .pause, .tick, .kill]).fired = true :=
  ⟨rfl, rfl, by decide +kernel⟩

example : K ⟨.onRun, 0, false⟩ (initX 0 [] (some ⟨.onRun, 0, false⟩)) ∧
    terminal (initX 0 [] (some ⟨.onRun, 0, false⟩)).l.c.st.label = false ∧
    (SObj.running 0 [] []).label ∈ allowed (initX 0 [] (some ⟨.onRun, 0, false⟩)).l.c.st.label :=
  ⟨initX_K _ 0 [], rfl, by decide⟩

-- non-vacuity of `C03_no_internal_error`'s hypotheses: the harness's process and a history with a user failure are clean
example : CleanProg procC03 ∧ (∀ ev ∈ [Ev.tick, .fail (.user 9)], CleanEv ev) := by
  refine ⟨fun fn args kw ctx e h => ?_, fun ev hev => ?_⟩
  · unfold procC03 at h
    split at h
    · cases h
    · split at h <;> cases h
  · simp only [List.mem_cons, List.mem_nil_iff, or_false] at hev
    rcases hev with h | h <;> subst h
    · trivial
    · intro hi; rcases hi with h | h | ⟨a, b, h⟩ <;> cases h

/-- **user code CAN make the process EXCEPTED with one of the state machine's exception types** (why `C03_no_internal_error` needs
its hypotheses; a fact about the model's type of exceptions — and about plumpy: `proc.fail(AssertionError())` excepts the process with
that `AssertionError`): `fail(assertion)` on the created process, with a fault armed that never fires, or none. -/
theorem C03_user_code_can_raise_the_state_machines_exceptions :
    InternalError (runX procC03 (initX 0 [] (some ⟨.onRun, 5, false⟩)) [.fail .assertion]) ∧
    InternalError (runX procC03 (initX 0 [] none) [.fail .assertion]) ∧
    ¬ CleanEv (.fail .assertion) :=
  ⟨⟨.assertion, Or.inl rfl, by decide +kernel⟩, ⟨.assertion, Or.inl rfl, by decide +kernel⟩, fun h => h (Or.inl rfl)⟩

/-- **finding F18 on whole runs (witness)**: `on_terminated` raising AFTER `super()` in the closing transition of the last step: the
process is EXCEPTED with the fault while its future still holds the result of the FINISHED state it had entered — the two fault points
that `C03_hook_fault_ends_excepted` excludes, and the conclusion does fail there. -/
theorem C03_witness_fault_after_close_run :
    let x := runX procC03 (initX 0 [] (some ⟨.onTerminated, 0, true⟩)) [.tick, .tick, .resume (some 7), .tick, .tick]
    afterClose ⟨.onTerminated, 0, true⟩ = true ∧ x.fired = true ∧ x.l.c.st = .excepted faultExc ∧ x.l.c.fut = .result ∧
    x.l.c.closed = true := by decide +kernel

/-- **a fault in the pause hook of a pause action that was superseded while it ran is logged, and the request that superseded it is
served (finding F28, repaired by e94edb5; the run that used to crash the stepping task)**: a pause is pending when `run` returns; the
pause action performs the step's transition; a listener of that transition (`on_process_running`) calls `kill()`, which supersedes —
cancels — the pause action that is running; `on_pausing` then raises.  Nobody is left to report to: the step goes on, enacts the
kill, the process ends KILLED with everything agreeing, the requester of the kill is told `True`, `_killing` is cleared and
`step_until_terminated()` has returned. -/
theorem C03_superseded_pause_action_fault_is_logged :
    let x := runX procC03 (initX 0 [(.running, 2, .kill)] (some ⟨.onPausing, 0, false⟩)) [.tick, .pause, .tick]
    x.fired = true ∧ x.l.c.pc = .done ∧ x.l.c.st = .killed ∧ x.l.c.fut = .exc .killedErr ∧ x.l.c.closed = true ∧
    x.l.c.actions.map (·.status) = [.cancelled, .done] ∧ x.l.c.killing = none ∧ x.l.c.pausing = none := by decide +kernel

/-- **a hook that raises before calling `super()` no longer disturbs the hook call around it (finding F29, repaired by 6c8055d;
the run in which `play()` used to raise an `AssertionError`)**: `play()` → `on_playing` → the `on_process_played` listener calls
`kill()` → the transition's `on_exit_running` raises before calling `super()`: the transition handles the fault (EXCEPTED with it),
the call counter is back where it was, and `play()` returns `True`. -/
theorem C03_failing_hook_leaves_enclosing_hook_alone :
    let x := runX procC03 (initX 0 [(.played, 1, .kill)] (some ⟨.exitRunning, 1, false⟩)) [.tick, .pause, .tick]
    (stepF procC03 x .play).2 = .bool true ∧ (stepF procC03 x .play).1.l.c.st = .excepted faultExc ∧
    (stepF procC03 x .play).1.l.c.fut = .exc faultExc ∧ (stepF procC03 x .play).1.called = x.called := by decide +kernel

/-- **`fail()` on a WAITING process whose `on_exit_waiting` raises (finding F30, repaired by a130f23; the run that used to leave the
stepping task blocked for ever)**: the failed transition is redone with the EXITING callbacks bypassed, but the state — still
entered — is exited: `Waiting.exit()` completes the wait the stepping task is suspended on; the process is EXCEPTED with the fault,
closed, its future raising it, and the next wake-up of the stepping task ends `step_until_terminated()`. -/
theorem C03_failed_exit_hook_still_exits_the_state :
    let x := runX procC03 (initX 0 [] (some ⟨.exitWaiting, 0, false⟩)) [.tick, .tick, .tick, .fail (.user 9)]
    x.fired = true ∧ x.l.c.st = .excepted faultExc ∧ x.l.c.fut = .exc faultExc ∧ x.l.c.closed = true ∧
    x.l.c.pc = .awaitWaiting 0 ∧ x.l.c.wfs[0]? = some (.result none) ∧ (runF procC03 x [.tick]).l.c.pc = .done := by
  decide +kernel

end FP
end PMF
