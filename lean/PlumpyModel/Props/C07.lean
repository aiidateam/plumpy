import PlumpyModel.Persist.Proof2
/-!
# C07 — save, load, save again yields the same bundle and the same observable process

Model: `Persist.save` / `Persist.load` (lean/PlumpyModel/Persist/Model.lean), the hand-written mirror of
`Savable.save/load`, `Process.save/load_instance_state`, every state class, `SavableFuture`, `EventHelper`,
`ContextMixin`, `WorkChain` and the steppers.  The member sets and hand-written keys are the generated tables of
`Gen/Persist.lean`; `C07_members_cover` is the obligation that breaks when one of them changes in the source.

* `E : Env` — the global object loader, how loader classes are found, the names of the outline's step functions;
  `ctx` — the object loader of the save context (`none`: default); `E.ok ctx` is the ObjectLoader contract
  (`load_object (identify_object c) = c`).  All are universally quantified.
* `C : Cls` — the process class (identifier, and the outline if it is a WorkChain); `v : View` — the persisted view.
* `savable C v` — no payload contains a live awaitable (on which `copy.deepcopy` raises in the real code too) and the
  stepper state is one the typed stepper objects can hold.
* The three media are the identity on bundles (`Medium.deepcopy/pickle/yaml`): their fidelity is trusted base and is
  exercised by the correspondence check through the real `copy`, `pickle` and PyYAML.
* "Up to the traceback text": the traceback of an EXCEPTED state is not part of the view and `save` does not write
  it (its restoration needs the optional `tblib`); the harness strips the key before comparing.
-/
namespace Persist
open Outline

variable (E : Env) (ctx : Option Loader) (C : Cls) (v : View)

/-- **load ∘ save = id** on every savable view, whether the load is given the loader of the save context or has to find
it in the bundle (`ctx' = none`), through each medium. -/
theorem C07_load_save (hE : E.ok ctx) (hs : savable C v = true) (ctx' : Option Loader) (hc : ctx' = none ∨ ctx' = ctx) :
    load E C ctx' (save E C ctx v) = .ok v ∧
    load E C ctx' (Medium.deepcopy (save E C ctx v)) = .ok v ∧
    load E C ctx' (Medium.pickle (save E C ctx v)) = .ok v ∧
    load E C ctx' (Medium.yaml (save E C ctx v)) = .ok v :=
  have h := load_save E ctx C v hE hs ctx' hc
  ⟨h, h, h, h⟩

/-- **save, load, save again yields an identical bundle** -/
theorem C07_save_load_save (hE : E.ok ctx) (hs : savable C v = true) (ctx' : Option Loader) (hc : ctx' = none ∨ ctx' = ctx) :
    (load E C ctx' (save E C ctx v)).map (save E C ctx) = .ok (save E C ctx v) := by
  rw [load_save E ctx C v hE hs ctx' hc]; rfl

/-- **the loaded process reports the same** pid, state, raw and parsed inputs, outputs, context, status, paused flag,
creation time and outcome: every one of them is a function (`observe`) of the persisted view, which is restored
exactly. -/
theorem C07_load_observes (hE : E.ok ctx) (hs : savable C v = true) (ctx' : Option Loader) (hc : ctx' = none ∨ ctx' = ctx)
    (v' : View) (h : load E C ctx' (save E C ctx v) = .ok v') : observe v' = observe v := by
  rw [load_save E ctx C v hE hs ctx' hc] at h
  cases h; rfl

def MVal.isMissing : MVal → Bool
  | .missing => true
  | _ => false

/-- **the generated member tables are exactly what the view carries**: a name is an attribute of the modelled object
iff it is in the effective `_auto_persist` set generated from the source, for the process (both base classes), the
future, the event helper, every state class and the steppers; the keys written by hand are the ones the model knows
(anything else would be written as poison) and each is read back by the same class. -/
theorem C07_members_cover :
    (∀ m, (procMember E ctx v m).isMissing = false ↔ m ∈ members procCls) ∧
    members chainCls = members procCls ∧
    (∀ f m, (futMember f m).isMissing = false ↔ m ∈ members futCls) ∧
    (∀ e m, (ehMember e m).isMissing = false ↔ m ∈ members ehCls) ∧
    (∀ s m, (stateMember s m).isMissing = false ↔ m ∈ members s.cls) ∧
    (∀ pos ch m, (posMember (.node pos ch) m).isMissing = false ↔ m ∈ members blockStepCls) ∧
    members ifStepCls = members blockStepCls ∧ members whileStepCls = [] ∧ members fnStepCls = [] ∧
    members retStepCls = [] ∧
    (∀ c ∈ Gen.handKeyValues, ∀ kv ∈ c.2, kv.2 ∈ (Gen.handLoadedKeys.lookup c.1).getD []) := by
  refine ⟨?_, by simp only [tables_proc], ?_, ?_, ?_, ?_, by simp only [tables_stepper], by simp only [tables_stepper],
    by simp only [tables_stepper], by simp only [tables_stepper], tables_proc.1⟩
  · intro m; simp only [tables_proc, List.mem_cons, List.not_mem_nil, or_false]; unfold procMember
    -- in the last case of a `split` the names it has excluded are used as they stand: `simp_all` is slow to check there
    split <;> simp [MVal.isMissing] <;> (try (cases v.paused <;> rfl)) <;> and_intros <;> assumption
  · intro f m; simp only [tables_proc]; unfold futMember
    split <;> simp_all [MVal.isMissing]
  · intro e m; simp only [tables_proc]; unfold ehMember
    split <;> simp_all [MVal.isMissing]
  · intro s m
    rcases s with _ | _ | ⟨_, _, _, _, _ | _⟩ | _ | _ | _ <;>
      simp only [StateV.cls, tables_state, List.mem_cons, List.not_mem_nil, or_false] <;> unfold stateMember <;> split <;>
      simp [MVal.isMissing] <;> and_intros <;> assumption
  · intro pos ch m; simp only [tables_stepper]; unfold posMember
    split <;> simp_all [MVal.isMissing]

/-! ### non-vacuity -/
section
private def demoE : Env := { glob := defaultLoader, find := fun _ => none, fnName := fun f => s!"s{f}" }
private def demoOutline : Block := [.call 1, .while_ 0 [.call 2, .ite [(some 1, [.ret (some 7)]), (none, [.call 4, .call 5])]], .call 3]
private def demoC : Cls := { name := "harness.persist_gen:Demo", outline := some demoOutline }
/-- a paused work chain inside the `else_` branch of an `if_` inside a `while_`, with outputs and a status -/
private def demoV : View :=
  { pid := .nat 7, ctime := .opaque "t0", status := .str "Paused", prePaused := .str "busy", paused := some .pending,
    future := .pending, eh := { listenerType := .opaque "ProcessListener", listeners := .opaque "set()" },
    inputsRaw := some (.opaque "{a:1}"), inputsParsed := some (.opaque "{a:1,b:2}"), outputs := [("x", .nat 1)],
    state := .running (.bool true) "_do_step" (.opaque "()") (.opaque "{}"),
    chain := some { ctx := .opaque "{n:3}",
                    stepper := some (.node 1 (some (.node 0 (some (.node 1 (some (.node 1 (some (.node 1 (some .leaf)))))))))) } }

example : demoE.ok none := ⟨fun _ => rfl, fun _ h => by cases h⟩
example : savable demoC demoV = true := by decide +kernel
/-- a custom loader in the save context (found again through the global loader) satisfies the hypothesis too -/
private def demoL : Loader := { defaultLoader with name := "harness.persist_gen:PrefixLoader" }
private def demoE' : Env := { demoE with find := fun n => if n = demoL.name then some demoL else none }
example : demoE'.ok (some demoL) :=
  ⟨fun _ => rfl, fun L h => by cases h; exact ⟨fun _ => rfl, by simp [demoE', demoL]⟩⟩
example : load demoE demoC none (save demoE demoC none demoV) = .ok demoV :=
  (C07_load_save demoE none demoC demoV ⟨fun _ => rfl, fun _ h => by cases h⟩ (by decide +kernel) none (Or.inl rfl)).1

/-- the hypothesis `savable` is needed: a work chain waiting on a live awaitable cannot be saved (`copy.deepcopy`
raises in `save_members`), in the model the load of such a bundle reports `unsavable` -/
example : (match load demoE demoC none (save demoE demoC none
    { demoV with state := .waiting (.bool true) (some "_do_step") (.str "Waiting before next step") .live (some .live) }) with
    | .error .unsavable => true | _ => false) = true := by
  have hE : demoE.ok none := ⟨fun _ => rfl, fun _ h => nomatch h⟩
  generalize hw : ({ demoV with state := .waiting (.bool true) (some "_do_step") (.str "Waiting before next step") .live (some .live) } : View) = w
  have hst : w.state = .waiting (.bool true) (some "_do_step") (.str "Waiting before next step") .live (some .live) := by
    rw [← hw]
  have hs := keys_state w.state
  -- the nested state: `load_members` of `workchains.Waiting` reads `_awaiting` first, which was saved as `unsavable`
  have h1 : loadState demoE (saveState demoE w.state) = .error .unsavable := by
    rw [saveState_eq, loadState, saved_ensureLoader hs hE (.inl rfl), ok_bind, saved_loadClass hs hE, ok_bind]
    refine (byStateClass_cid w.state ..).trans ?_
    rw [hst] at hs ⊢
    rw [StateV.cls] at hs
    dsimp only
    rw [StateV.cls, if_pos rfl, if_pos rfl, saved_loadMembers hs]
    simp only [tables_state, setMembers, stateMember, MVal.loaded, if_true]
    rfl
  have hn := keys_proc demoE demoC w
  -- `Process.load_instance_state` recreates the state before anything else
  rw [save_eq, load, saved_ensureLoader hn hE (.inl rfl), ok_bind, saved_loadClass hn hE, ok_bind, if_neg (fun h => h rfl),
    saved_hand hn (o := some (.dict (saveState demoE w.state))) (by simp [procWrites]), decodeDict, ok_bind, h1]
  rfl
end

end Persist
