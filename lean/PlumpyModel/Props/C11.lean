import PlumpyModel.Ports.Proof4
/-!
# C11 — only spec-conforming inputs create a process; defaults applied, inputs immutable

Model: `Ports.preProcess` (`PortNamespace.pre_process`), `Ports.validatePort` / `validatePorts` / `validateDynamic`
(`Port.validate`, `PortNamespace.validate`, `validate_ports`, `validate_dynamic_ports`), `Ports.construct`
(`Process.on_create`), in `PlumpyModel/Ports/Model.lean`.  Specification: the declarative predicates of
`PlumpyModel/Ports/Spec.lean` (`ConformsPort`, `DefaultsExact`, `FrozenPorts`), written from the property text.

Quantification: every port tree (arbitrary nesting and width, every combination of required / valid_type / default /
validator / dynamic / populate_defaults), every nested input dictionary, every validator oracle `vd`.  The only
hypothesis is `wfPorts`: port names are distinct within each namespace (they are the keys of a Python dict).

Not expressible in the functional model: that `raw_inputs` and the caller's dictionary stay exactly as given (`raw`
is an immutable argument here).  That is decided by the correspondence check (`harness/props/c11.py` compares both
with a deep copy taken before construction, and constructs every class twice).
-/
namespace Ports

/-- **Acceptance, declaratively.**  The inputs can be completed (no declared namespace is given a non-mapping), and the
inputs completed by the declared defaults conform to the top-level namespace: required ports present after defaults,
values of the declared types, port validators, no undeclared key outside a dynamic namespace, dynamic values of the
namespace's type at any depth, namespace validators, an optional namespace that is absent or empty accepted.
The completion `parsed` is characterised declaratively by `C11_defaults_exact`. -/
def Accepts (vd : Nat → V → Bool) (top : NsA) (ports : PortList) (raw : Items) : Prop :=
  ∃ parsed, preProcess ports raw = .ok parsed ∧ ConformsPort vd (.ns top ports) (some (.dict true parsed))

/-- the fully declarative variant: the completion is *any* mapping related to `raw` by the per-key rule
`DefaultsExact`, not the one the model computes (see `C11_accepts_iff_decl`) -/
def AcceptsDecl (vd : Nat → V → Bool) (top : NsA) (ports : PortList) (raw : Items) : Prop :=
  ∃ parsed, DefaultsExact ports raw parsed ∧ ConformsPort vd (.ns top ports) (some (.dict true parsed))

/-- **C11, first sentence.**  A process is constructed exactly with the inputs the spec accepts; otherwise
construction raises (and the constructor returns no process). -/
theorem C11_accepts_iff (vd : Nat → V → Bool) (top : NsA) (ports : PortList) (hwf : wfPorts ports = true) (raw : Items) :
    (∃ parsed, construct vd top ports raw = .ok parsed) ↔ Accepts vd top ports raw := by
  simp only [construct_ok_iff, Accepts, validatePort_none_iff vd (.ns top ports) hwf]
  exact ⟨fun ⟨_, items, h1, h2, _⟩ => ⟨items, h1, h2⟩, fun ⟨items, h1, h2⟩ => ⟨_, items, h1, h2, rfl⟩⟩

/-- the form of the design document: validation of the completed inputs passes iff the inputs are accepted -/
theorem C11_validate_iff (vd : Nat → V → Bool) (top : NsA) (ports : PortList) (hwf : wfPorts ports = true) (raw : Items) :
    (∃ parsed, preProcess ports raw = .ok parsed ∧
        validatePort vd "inputs" [] (.ns top ports) (some (.dict true parsed)) = none) ↔ Accepts vd top ports raw := by
  simp only [Accepts, validatePort_none_iff vd (.ns top ports) hwf]

/-- one direction of the fully declarative variant: whatever is constructed is accepted in the sense of `AcceptsDecl` -/
theorem C11_constructed_acceptsDecl (vd : Nat → V → Bool) (top : NsA) (ports : PortList) (hwf : wfPorts ports = true)
    (raw : Items) (parsed : V) (h : construct vd top ports raw = .ok parsed) : AcceptsDecl vd top ports raw := by
  obtain ⟨p, hp, hc⟩ := (C11_accepts_iff vd top ports hwf raw).1 ⟨parsed, h⟩
  exact ⟨p, preProcess_spec ports hwf raw p hp, hc⟩

/-- **C11, first sentence, fully declarative.**  With validators that cannot tell two completions of the same inputs
apart (`VdStable`: completions differ at most in the order of keys, which Python dictionaries ignore when compared), a
process is constructed exactly when *some* mapping that completes the inputs by the declared defaults — in the sense of
the per-key rule `DefaultsExact`, with no reference to `pre_process` — conforms to the spec. -/
theorem C11_accepts_iff_decl (vd : Nat → V → Bool) (hvd : VdStable vd) (top : NsA) (ports : PortList)
    (hwf : wfPorts ports = true) (raw : Items) :
    (∃ parsed, construct vd top ports raw = .ok parsed) ↔ AcceptsDecl vd top ports raw := by
  constructor
  · rintro ⟨parsed, h⟩; exact C11_constructed_acceptsDecl vd top ports hwf raw parsed h
  · rintro ⟨parsed', hd, hc⟩
    obtain ⟨parsed, hp⟩ := preProcess_total ports hwf raw parsed' hd.1
    have hd2 := preProcess_spec ports hwf raw parsed hp
    refine (C11_accepts_iff vd top ports hwf raw).2 ⟨parsed, hp, ?_⟩
    refine ConformsPort_transfer vd hvd (.ns top ports) (some (.dict false raw)) _ _ ?_ ?_ hc
    · simp only [DefaultsPort]; exact ⟨parsed', rfl, hd.1, hd.2⟩
    · simp only [DefaultsPort]; exact ⟨parsed, rfl, hd2.1, hd2.2⟩

/-- `VdStable` is satisfiable, e.g. by validators that only look at atoms (leaf validators) -/
example : VdStable (fun n v => match v with | .atom _ id => id == n | .dict _ _ => false) := by
  intro n ports sup i1 i2 _ _; rfl

/-- **C11, rejection.**  Construction fails in exactly two ways: `TypeError` while completing (a declared namespace
was given, or declares as its default, a non-mapping), or the `ValueError` carrying the validation error of the
completed inputs. -/
theorem C11_reject_classes (vd : Nat → V → Bool) (top : NsA) (ports : PortList) (raw : Items) (e : Err)
    (h : construct vd top ports raw = .error e) :
    (preProcess ports raw = .error e) ∨
    (∃ parsed, preProcess ports raw = .ok parsed ∧
      validatePort vd "inputs" [] (.ns top ports) (some (.dict true parsed)) = some e) := by
  unfold construct at h
  cases hp : preProcess ports raw with
  | error e' => simp only [hp] at h; cases h; exact Or.inl rfl
  | ok parsed =>
    simp only [hp] at h
    cases hv : validatePort vd "inputs" [] (.ns top ports) (some (.dict true parsed)) with
    | some e' => simp only [hv] at h; cases h; exact Or.inr ⟨parsed, rfl, hv⟩
    | none => simp only [hv] at h; cases h

/-- **C11, second sentence (defaults).**  The parsed inputs are the raw inputs completed with exactly the declared
defaults, per key at every declared level (`DefaultsExact`): a supplied value is preserved (a supplied namespace
value recursively); a declared leaf that is not supplied appears with its (evaluated) default and does not appear
if it has none; an unsupplied namespace is left out when `populate_defaults` is off, starts from its own default if it
has one, from the empty mapping if it declares ports, and is left out otherwise; every key that is not a declared port
is exactly as supplied, so nothing else appears. -/
theorem C11_defaults_exact (vd : Nat → V → Bool) (top : NsA) (ports : PortList) (hwf : wfPorts ports = true)
    (raw : Items) (parsed : V) (h : construct vd top ports raw = .ok parsed) :
    ∃ items, parsed = .dict true items ∧ DefaultsExact ports raw items := by
  obtain ⟨items, hp, _, he⟩ := (construct_ok_iff vd top ports raw parsed).1 h
  exact ⟨items, he, preProcess_spec ports hwf raw items hp⟩

/-- the path runs through declared namespaces and ends at a key that is not a declared namespace
(a leaf port, or an undeclared key such as a dynamic one) -/
def LeafPath : PortList → List String → Prop
  | _, [] => False
  | ports, [k] => ∀ a sub, lookup k ports ≠ some (.ns a sub)
  | ports, k :: k' :: rest => ∃ a sub, lookup k ports = some (.ns a sub) ∧ LeafPath sub (k' :: rest)

/-- **C11, "every supplied value is preserved", path form**: a value supplied at a `LeafPath` is found unchanged at the
same path of the completed mapping -/
theorem C11_supplied_preserved : ∀ (path : List String) (ports : PortList) (raw out : Items) (f f' : Bool) (v : V),
    DefaultsExact ports raw out → LeafPath ports path →
    getPath (some (.dict f raw)) path = some v → getPath (some (.dict f' out)) path = some v := by
  intro path ports raw out f f' v hd hl hg
  fun_induction LeafPath ports path generalizing raw out f f'
  case case1 => exact hl.elim
  case case2 ports k =>
    simp only [getPath] at hg ⊢
    cases hp : lookup k ports with
    | none => rw [hd.2.1 k hp]; exact hg
    | some p =>
      have := DefaultsPorts_lookup ports raw out k p hd.1 hp
      cases p with
      | leaf a => simp only [DefaultsPort, hg] at this; exact this
      | ns a sub => exact absurd hp (hl a sub)
  case case3 ports k k' rest ih =>
    obtain ⟨a, sub, hp, hl'⟩ := hl
    simp only [getPath] at hg ⊢
    have := DefaultsPorts_lookup ports raw out k _ hd.1 hp
    cases hr : lookup k raw with
    | none => rw [hr] at hg; simp [getPath] at hg
    | some w =>
      cases w with
      | atom t i => rw [hr] at hg; simp [getPath] at hg
      | dict fr items =>
        rw [hr] at hg this
        simp only [DefaultsPort] at this
        obtain ⟨items', h1, h2, h3⟩ := this
        rw [h1]
        exact ih sub items items' fr true ⟨h2, h3⟩ hl' hg

/-- **C11, "read-only at every declared namespace level".**  The parsed inputs are a frozen mapping, and below it
every value that sits at a declared namespace is again a frozen mapping, recursively (`FrozenPorts`).  (Frozen /
plain is the tag of `V.dict`; the harness observes it by attempting a mutation at every level.) -/
theorem C11_frozen_levels (vd : Nat → V → Bool) (top : NsA) (ports : PortList) (hwf : wfPorts ports = true)
    (raw : Items) (parsed : V) (h : construct vd top ports raw = .ok parsed) :
    ∃ items, parsed = .dict true items ∧ FrozenPorts ports items := by
  obtain ⟨items, h1, h2⟩ := C11_defaults_exact vd top ports hwf raw parsed h
  exact ⟨items, h1, FrozenPorts_of_DefaultsPorts ports raw items h2.1⟩

/-! ## non-vacuity: a concrete spec with every kind of attribute, accepted and rejected inputs -/

/-- `a`: required int with validator 3; `b`: optional with callable default; `ns`: optional namespace, populate off,
with a required leaf; `dyn`: dynamic namespace of ints with a nested declared namespace `sub` holding a default -/
def exPorts : PortList :=
  [("a", .leaf { required := true, validType := some 0, default := none, callable := false, validator := some 3 }),
   ("b", .leaf { required := true, validType := none, default := some (.atom 1 2), callable := true, validator := none }),
   ("ns", .ns { required := false, validType := none, default := none, dynamic := false, populate := false, validator := none }
      [("x", .leaf { required := true, validType := none, default := none, callable := false, validator := none })]),
   ("dyn", .ns { required := true, validType := some 0, default := none, dynamic := true, populate := true, validator := none }
      [("sub", .ns { required := true, validType := none, default := none, dynamic := false, populate := true, validator := none }
         [("y", .leaf { required := false, validType := none, default := some (.atom 0 7), callable := false, validator := none })])])]

def exTop : NsA := { required := true, validType := none, default := none, dynamic := false, populate := true, validator := none }
def exVd (n : Nat) (v : V) : Bool := v.mentions n

theorem exPorts_wf : wfPorts exPorts = true := by decide +kernel
example : wfPorts exPorts = true := exPorts_wf

/-- accepted: defaults filled in at two levels, `ns` left out, dynamic value two levels deep kept, all declared levels frozen -/
example : construct exVd exTop exPorts [("a", .atom 0 1), ("dyn", .dict false [("k", .dict false [("l", .atom 0 5)])])] =
    .ok (.dict true [("a", .atom 0 1),
      ("dyn", .dict true [("k", .dict false [("l", .atom 0 5)]), ("sub", .dict true [("y", .atom 0 7)])]),
      ("b", .atom 1 2)]) := by decide +kernel

example : Accepts exVd exTop exPorts [("a", .atom 0 1), ("dyn", .dict false [("k", .dict false [("l", .atom 0 5)])])] :=
  (C11_accepts_iff exVd exTop exPorts exPorts_wf _).1 ⟨.dict true [("a", .atom 0 1),
      ("dyn", .dict true [("k", .dict false [("l", .atom 0 5)]), ("sub", .dict true [("y", .atom 0 7)])]),
      ("b", .atom 1 2)], by decide +kernel⟩

/-- rejected: wrong type two levels down in the dynamic namespace; required port missing; validator; unknown key;
non-mapping for a namespace; supplied optional namespace lacking its required port -/
example : construct exVd exTop exPorts [("a", .atom 0 1), ("dyn", .dict false [("k", .dict false [("l", .atom 1 5)])])] =
    .error (.validation "inputs.dyn.k.dyn.l") := by decide +kernel
theorem exPorts_empty : construct exVd exTop exPorts [] = .error (.validation "inputs.a") := by decide +kernel
example : construct exVd exTop exPorts [] = .error (.validation "inputs.a") := exPorts_empty
example : construct exVd exTop exPorts [("a", .atom 0 3)] = .error (.validation "inputs.a") := by decide +kernel
example : construct exVd exTop exPorts [("a", .atom 0 1), ("zz", .atom 0 1)] = .error (.validation "inputs") := by decide +kernel
example : construct exVd exTop exPorts [("a", .atom 0 1), ("dyn", .atom 0 1)] = .error .typeError := by decide +kernel
example : construct exVd exTop exPorts [("a", .atom 0 1), ("ns", .dict false [("q", .atom 0 1)])] =
    .error (.validation "inputs.ns.x") := by decide +kernel
example : ¬ Accepts exVd exTop exPorts [] := by
  rw [← C11_accepts_iff exVd exTop exPorts exPorts_wf]
  rintro ⟨p, h⟩
  rw [exPorts_empty] at h; cases h

end Ports
