import PlumpyModel.ProcStack.Proof
/-!
# C18 — `Process.current()` is the process whose code is running

Model: `PlumpyModel/ProcStack/Model.lean` (tasks with context-local stacks, `_process_scope`, `_run_task`, `call_soon`,
`launch`, re-entrant `execute()`, lifecycle hooks fired by `transition_to` after `_run_task` returned; children awaited
**inline** in the awaiting task — `await child.step_until_terminated()` inside a step or callback, under an absorbing
`except BaseException` —, steps that end with a **BaseException**, and **cancellation** of a task at the await point
where it is suspended: `unwind` = the `finally` of every open scope, innermost first, up to the absorbing handler;
callbacks scheduled on **another** process — `creator.call_soon(cb)` from code of a process that the creator launched,
executed or awaits inline, so that the callback's task starts on a stack that already holds the creator *below* the
scheduling process — and callbacks that **raise**, after which `ProcessCallback.run` calls the public hook
`callback_excepted` in the callback's task, outside the scope).

Everything below quantifies over **every scenario** (any number of process classes with any step/segment structure,
callbacks, children — launched, executed re-entrantly or awaited inline, to any depth —, any step ending, any classes
instantiated at top level) and **every list of events**, i.e. every order in which ready tasks are ticked, parked
processes resumed or killed, callbacks scheduled from outside and tasks cancelled (outermost loop and nested loops alike).
`(runEvents (init scn top) es).log` is the list of all samples of `Process.current()` taken by the code points of the
run, `.scopes` the list of completed `_process_scope`s (each with the way it was left), `.joins` the list of completed
inline awaits, `.err` the first error.

Clause by clause:
* "while a step, continuation or scheduled callback (and the output hooks they call) executes, current() is that
  process"                                                  → `C18_current_in_scope` (= `C18_current_in_scope_partial`)
* "... hook ...": **false of the code for lifecycle hooks** → `C18_full`, `C18_witness_hook_outside_scope`,
  `C18_witness_child_hook_sees_parent`, `C18_full_false` (known finding F14)
* "once that code returns or yields, the previous value is what other code observes"
                                                            → `C18_scope_restores_self`, `C18_scope_restores_others`,
                                                              `C18_resume_touches_no_stack`, `C18_scope_restores`
* the same when the code is left through an `Interruption`, a BaseException or a cancellation, and for the code that
  awaited it in the same task                               → `C18_scope_restores_however_left`,
                                                              `C18_inline_await_restores`, `C18_absorbing_code_in_scope`,
                                                              `C18_unwind_well_scoped`, `C18_cancel_touches_no_stack`,
                                                              `C18_finished_task_left_every_scope`,
                                                              `C18_scope_restores_all`
* a callback scheduled on another process (its creator) runs with *that* process current, on top of the stack of the
  code that scheduled it; what runs in the callback's task after the callback's scope (`callback_excepted`) observes
  exactly what the scheduling code observed               → `C18_callback_on_creator_in_scope`,
                                                              `C18_callback_task_inherits_scheduling_context`,
                                                              `C18_raising_callback_code`,
                                                              `C18_callback_excepted_sees_previous`,
                                                              `C18_witness_callback_excepted_sees_scheduler` (F14 again:
                                                              that hook, too, runs outside the scope)
* the `assert` in `_process_scope` never fires              → `C18_scope_assertion_never_fails`
-/
namespace ProcStack

/-- the property as literally stated, *including* lifecycle hooks: every sample equals its owner -/
def C18_full : Prop :=
  ∀ (scn : Scenario) (top : List Nat) (es : List Event),
    ∀ o ∈ (runEvents (init scn top) es).log, o.cur = some o.owner

/-- **C18, main clause.** Inside any code run through `_run_task` of `p` — entry of a step function or continuation,
after each of its awaits, a callback scheduled with `call_soon` and after each of its awaits, the output hooks
`on_output_emitting`/`on_output_emitted`, and the code right after `launch(..)`, `execute()`, `call_soon(..)`, `out(..)`
returned — `Process.current()` is `p`; for every scenario and every interleaving.  This includes the steps of a child that is
awaited inline (they run in the awaiting task, on top of the awaiting process: the child is current), the code of the
awaiting process after that await returned (`iret`) and inside the `except BaseException` clause that absorbed a
BaseException or a cancellation coming out of the child (`absorbed`). -/
theorem C18_current_in_scope (scn : Scenario) (top : List Nat) (es : List Event) :
    ∀ o ∈ (runEvents (init scn top) es).log, o.kind.inScope = true → o.cur = some o.owner :=
  (reachable_inv scn top es).log

theorem Kind.inScope_eq_not_lifecycle (k : Kind) : k.inScope = !k.isLifecycleHook := by
  cases k <;> simp [Kind.inScope, Kind.isLifecycleHook]

/-- **C18 without the lifecycle hooks** (what holds of the code): `C18_full` restricted to code points that are not
lifecycle hooks. The only hypothesis added to `C18_full` is `o.kind.isLifecycleHook = false`. -/
theorem C18_current_in_scope_partial (scn : Scenario) (top : List Nat) (es : List Event) :
    ∀ o ∈ (runEvents (init scn top) es).log, o.kind.isLifecycleHook = false → o.cur = some o.owner := by
  intro o ho hk
  exact C18_current_in_scope scn top es o ho (by simp [Kind.inScope_eq_not_lifecycle, hk])

/-- **the `assert Process.current() is self` at the exit of `_process_scope` never fails**, whatever the interleaving -/
theorem C18_scope_assertion_never_fails (scn : Scenario) (top : List Nat) (es : List Event) :
    (runEvents (init scn top) es).err ≠ some .scopeAssertion :=
  (reachable_inv scn top es).noAssert

/-- **after a scope exits, the task's stack is what it was when the scope was entered** — however many awaits,
callbacks, children and nested executions happened in between, in this task or any other -/
theorem C18_scope_restores_self (scn : Scenario) (top : List Nat) (es : List Event) :
    ∀ x ∈ (runEvents (init scn top) es).scopes, x.after = x.before :=
  (reachable_inv scn top es).scopes

/-- **however a scope is left, the previous stack is restored**: the awaited code returned (`returned`: plain return,
`Continue`, `Wait`, or an `Exception` that `Running.execute` turned into the EXCEPTED state), an `Interruption` was raised
through it (`interrupted`: kill of a waiting process), user code raised a BaseException that is not an `Exception`
(`baseException`), or the task was cancelled while suspended at an await point inside the scope (`cancelled`) — at any
nesting depth of inline-awaited children, all of whose open scopes are then left one after the other. -/
theorem C18_scope_restores_however_left (scn : Scenario) (top : List Nat) (es : List Event) (how : Exit) :
    ∀ x ∈ (runEvents (init scn top) es).scopes, x.how = how → x.after = x.before :=
  fun x hx _ => (reachable_inv scn top es).scopes x hx

/-- **the code that awaits a child inline carries on where it was**: when the statement
`try: await child.step_until_terminated()` / `except BaseException: ...` of process `p` is done — the child terminated, was
killed, or a BaseException / the cancellation of the task came out of it and was absorbed — the task's stack is exactly
what it was when the `try` was entered, and `Process.current()` is `p` again; whatever the child, its own inline children
and every other task did in between. -/
theorem C18_inline_await_restores (scn : Scenario) (top : List Nat) (es : List Event) :
    ∀ j ∈ (runEvents (init scn top) es).joins, j.after = j.before ∧ current j.after = some j.pid :=
  (reachable_inv scn top es).joins

/-- the instance of `C18_current_in_scope` for the code points of an inline await: in the `except BaseException` clause
that absorbed what came out of an inline-awaited child, and after that statement, `Process.current()` is the awaiting
process — not the child whose step was left through the BaseException / cancellation -/
theorem C18_absorbing_code_in_scope (scn : Scenario) (top : List Nat) (es : List Event) :
    ∀ o ∈ (runEvents (init scn top) es).log, (o.kind = .absorbed ∨ o.kind = .iret) → o.cur = some o.owner := by
  intro o ho hk
  apply C18_current_in_scope scn top es o ho
  rcases hk with h | h <;> simp [h, Kind.inScope]

/-- **raising a BaseException at any point of a well-scoped coroutine leaves a well-scoped coroutine.**  `WF s sv c`
(PlumpyModel/ProcStack/Proof.lean) says that the remaining coroutine `c` of a task, run on the task's stack `s`, has every
scope exit find its own process on top and restore the stack saved at the matching entry, every in-scope sample find its
owner on top, and every handler of an inline await run on the stack of its `try`.  `unwind how 0 c` is what remains of `c`
when a BaseException is raised at its head: the exits of the open scopes, then the absorbing handler and what follows it
(or nothing).  All compiled coroutines are `WF` on any stack (`wf_stepperOps`, `wf_cbOps`); this is the step that keeps the
invariant of `reachable_inv` across `raise BaseBoom()` and across the delivery of a cancellation. -/
theorem C18_unwind_well_scoped (how : Exit) (s : List Pid) (sv : List (List Pid)) (c : List Op) (h : WF s sv c) :
    WF s sv (unwind how 0 c) := by
  simpa using wf_unwind how c 0 s sv h

/-- **a task that has ended has left every scope it entered** (`Task.saved` holds one entry per open scope): whether its
coroutine returned, or a BaseException / a cancellation that nothing absorbed ended it in the middle of a step -/
theorem C18_finished_task_left_every_scope (scn : Scenario) (top : List Nat) (es : List Event) :
    ∀ T ∈ (runEvents (init scn top) es).tasks, T.done = true → T.saved = [] := by
  intro T hT hd
  have h := (reachable_inv scn top es).tasks T hT
  simp only [Task.done, List.isEmpty_iff] at hd
  rw [hd] at h
  simpa [WF] using h

/-- **running code of one task never changes what another task observes**: a tick of task `t` (a whole callback,
including everything it pushes, pops, spawns, and the nested executions that return during it) leaves the record of
every other task `u` — its stack, hence its `current()` — untouched, unless `u` is itself inside a nested
`run_until_complete` and is resumed by this tick (then `u` runs its own code, to which the other theorems apply).
Holds in every state, reachable or not. -/
theorem C18_scope_restores_others (σ : State) (t u : Tid) (hu : u < σ.tasks.length) (hne : u ≠ t)
    (hcs : u ∉ σ.callStack) :
    (step σ (.tick t)).tasks[u]? = σ.tasks[u]? := by
  simp only [step]
  split
  · rfl
  · split
    · have hd := deliver_frame σ t
      rw [run_frame _ (deliver σ t) t u (Nat.lt_of_lt_of_le hu hd.len) hne (hd.keeps_out hne hcs), hd.others u hu hne]
    · rfl

/-- resuming a parked process from outside changes no stack at all -/
theorem C18_resume_touches_no_stack (σ : State) (t u : Tid) :
    (step σ (.resume t)).tasks[u]?.map (·.stack) = σ.tasks[u]?.map (·.stack) := request_stack (.inl rfl) u

/-- killing a parked process from outside changes no stack at all (the scope is left by the stepping task itself) -/
theorem C18_kill_touches_no_stack (σ : State) (t u : Tid) :
    (step σ (.kill t)).tasks[u]?.map (·.stack) = σ.tasks[u]?.map (·.stack) := request_stack (.inr (.inl rfl)) u

/-- requesting the cancellation of a task from outside changes no stack at all: the scopes are left by the cancelled task
itself when it next runs (a tick, to which `C18_scope_restores_others` applies) -/
theorem C18_cancel_touches_no_stack (σ : State) (t u : Tid) :
    (step σ (.cancel t)).tasks[u]?.map (·.stack) = σ.tasks[u]?.map (·.stack) := request_stack (.inr (.inr rfl)) u

/-- scheduling a callback from outside (`p.call_soon(cb)` between two callbacks) leaves every existing task untouched -/
theorem C18_external_call_soon_touches_no_task (σ : State) (p : Pid) (cb : Nat) (u : Tid) (hu : u < σ.tasks.length) :
    (step σ (.callSoon p cb)).tasks[u]? = σ.tasks[u]? := by
  simp only [step]
  split
  · rfl
  · split
    · rfl
    · split
      · exact List.getElem?_append_left hu
      · rfl

/-- at the level of single operations: whatever task `t` executes, the records of all other tasks are unchanged -/
theorem C18_op_touches_only_own_context (σ : State) (t u : Tid) (hu : u < σ.tasks.length) (hne : u ≠ t) :
    (exec1 σ t).1.tasks[u]? = σ.tasks[u]? :=
  (exec1_frame σ t).others u hu hne

/-- **C18, restore clause** (the three statements together, on reachable states) -/
theorem C18_scope_restores (scn : Scenario) (top : List Nat) (es : List Event) (t u : Tid) :
    let σ := runEvents (init scn top) es
    (∀ x ∈ σ.scopes, x.after = x.before) ∧
    (u < σ.tasks.length → u ≠ t → u ∉ σ.callStack →
      (step σ (.tick t)).tasks[u]?.map (fun T => current T.stack) = σ.tasks[u]?.map (fun T => current T.stack)) ∧
    ((step σ (.resume t)).tasks[u]?.map (·.stack) = σ.tasks[u]?.map (·.stack)) := by
  refine ⟨C18_scope_restores_self scn top es, ?_, C18_resume_touches_no_stack _ t u⟩
  intro hu hne hcs
  rw [C18_scope_restores_others _ t u hu hne hcs]

/-- **C18, restore clause, with every way of leaving a scope** (on reachable states): completed scopes and completed
inline awaits restored the stack; a tick touches no other task; resume, kill and cancel requests touch no stack -/
theorem C18_scope_restores_all (scn : Scenario) (top : List Nat) (es : List Event) (t u : Tid) :
    let σ := runEvents (init scn top) es
    (∀ x ∈ σ.scopes, x.after = x.before) ∧
    (∀ j ∈ σ.joins, j.after = j.before ∧ current j.after = some j.pid) ∧
    (u < σ.tasks.length → u ≠ t → u ∉ σ.callStack → (step σ (.tick t)).tasks[u]? = σ.tasks[u]?) ∧
    ((step σ (.resume t)).tasks[u]?.map (·.stack) = σ.tasks[u]?.map (·.stack)) ∧
    ((step σ (.kill t)).tasks[u]?.map (·.stack) = σ.tasks[u]?.map (·.stack)) ∧
    ((step σ (.cancel t)).tasks[u]?.map (·.stack) = σ.tasks[u]?.map (·.stack)) :=
  ⟨C18_scope_restores_self scn top es, C18_inline_await_restores scn top es,
   fun hu hne hcs => C18_scope_restores_others _ t u hu hne hcs,
   C18_resume_touches_no_stack _ t u, C18_kill_touches_no_stack _ t u, C18_cancel_touches_no_stack _ t u⟩

/-- the instance of `C18_current_in_scope` for scheduled callbacks, **whoever scheduled them**: at the entry of a callback
and after each of its awaits `Process.current()` is the process the callback was scheduled *on* (`p.call_soon(cb)`), also
when the call was made by code of another process (`creator.call_soon(cb)`: the callback's task starts on the stack of
that code, e.g. creator·child, and runs on creator·child·creator); and the code that made the call carries on with its own
process current (`pcret`). -/
theorem C18_callback_on_creator_in_scope (scn : Scenario) (top : List Nat) (es : List Event) :
    ∀ o ∈ (runEvents (init scn top) es).log, (o.kind = .cbseg ∨ o.kind = .cbaw ∨ o.kind = .pcret) → o.cur = some o.owner := by
  intro o ho hk
  apply C18_current_in_scope scn top es o ho
  rcases hk with h | h | h <;> simp [h, Kind.inScope]

/-- **the task of a callback starts in the context of the code that called `call_soon`**, not in one derived from the
process the callback belongs to: when code of `p` (task `t`, stack `T.stack`) runs `creator.call_soon(cb)` and `p` has the
creator `q`, one task is appended whose stack is `T.stack` and whose coroutine is `ProcessCallback.run` of `q` — compiled
with `T.stack` as the value that `callback_excepted` must find; nothing else changes in the task list. -/
theorem C18_callback_task_inherits_scheduling_context (σ : State) (t : Tid) (T : Task) (p q : Pid) (cb : Nat)
    (rest : List Op) (code : List Act)
    (hT : σ.tasks[t]? = some T) (hc : T.code = .callSoonCreator p cb :: rest)
    (hcb : σ.scn.cbs[cb]? = some code) (hq : creatorOf σ p = some q) :
    (exec1 σ t).1.tasks =
      σ.tasks.set t { T with code := rest } ++ [{ stack := T.stack, code := cbCode σ.scn q T.stack cb code }] := by
  simp [exec1, hT, hc, hcb, hq]

/-- the coroutine of a callback that ends by raising: enter the scope of `q`, the callback's code, leave the scope through
the exception, then `q.callback_excepted(..)` — whose sample is checked against `sched` -/
theorem C18_raising_callback_code (scn : Scenario) (q : Pid) (sched : List Pid) (cb : Nat) (code : List Act)
    (hr : scn.cbRaise.contains cb = true) :
    cbCode scn q sched cb code = .push q :: (codeOps q true code ++ [.pop q .exception, .excepted q sched]) := by
  unfold cbCode
  rw [if_pos hr]
  rfl

/-- **what runs after a callback's scope, in the callback's task, observes the previous value**: every call of
`callback_excepted` (a callback raised; `_run_task`, hence the scope, was left through the exception) finds the stack —
and so the `Process.current()` — that the code which called `call_soon` had at that moment, and its sample is in the log
with exactly that value; whatever the callback did (awaits, further callbacks, nested executions, children awaited
inline) and wherever the process the callback belongs to sits in that stack: on top (a callback scheduled by the process
on itself), nowhere (scheduled from outside), or **below another process** (scheduled by a child on its creator while the
creator's step is still running underneath: the stack creator·child·creator must go back to creator·child, not to
child·creator). -/
theorem C18_callback_excepted_sees_previous (scn : Scenario) (top : List Nat) (es : List Event) :
    ∀ x ∈ (runEvents (init scn top) es).cbExcs,
      x.observed = x.scheduled ∧
      (⟨x.pid, .hook .callback_excepted, current x.scheduled, x.scheduled, x.tid⟩ : Obs) ∈ (runEvents (init scn top) es).log :=
  (reachable_inv scn top es).cbExcs

/-- class 0 (`outer`): its step executes a child of class 1 re-entrantly; class 1 (`inner`): schedules callback 0 on its
creator, awaits twice; callback 0: sample, then `raise` -/
def sandwichScn : Scenario :=
  { classes := [[⟨[.execute 1, .obs], .finish⟩], [⟨[.callSoonCreator 0, .await, .await, .obs], .finish⟩]],
    cbs := [[.obs]], cbRaise := [0] }

/-- outer's step (task 0) starts and blocks in `execute()`; the nested loop runs inner (task 1), which schedules the
callback on outer (task 2); the callback runs and raises; inner finishes; outer's step carries on -/
def sandwichEvents : List Event := [.tick 0, .tick 1, .tick 2, .tick 1, .tick 1]

/-- **witness** (F14 for one more hook, and the shape that tells `pop()` from `remove(self)`): inside the callback the
stack is outer·inner·outer and `current()` is outer; `callback_excepted` of outer then observes **inner** — the previous
value —, on the stack outer·inner (stacks are newest first in the model) -/
theorem C18_witness_callback_excepted_sees_scheduler :
    (⟨0, .cbseg, some 0, [0, 1, 0], 2⟩ : Obs) ∈ (runEvents (init sandwichScn [0]) sandwichEvents).log ∧
    (⟨0, .hook .callback_excepted, some 1, [1, 0], 2⟩ : Obs) ∈ (runEvents (init sandwichScn [0]) sandwichEvents).log := by
  decide +kernel

/-! ## The hook clause is false of the code: witnesses (known finding F14) -/

/-- one process, one step, nothing in it -/
def witnessScn : Scenario := { classes := [[⟨[], .finish⟩]], cbs := [] }

/-- a parent whose step launches a child of class 1 -/
def witnessChildScn : Scenario := { classes := [[⟨[.launch 1], .finish⟩], [⟨[], .finish⟩]], cbs := [] }

/-- **witness**: in the model — as in the code — the first tick of a top-level process fires `on_run` (from
`transition_to`, after `_run_task(Created.execute)` returned) and that hook observes `Process.current() = None` -/
theorem C18_witness_hook_outside_scope :
    ∃ o ∈ (runEvents (init witnessScn [0]) [.tick 0]).log,
      o.kind = .hook .on_run ∧ o.owner = 0 ∧ o.cur = none := by
  decide +kernel

/-- **witness**: the lifecycle hooks of a launched child observe the *parent* (the creator's context is inherited) -/
theorem C18_witness_child_hook_sees_parent :
    ∃ o ∈ (runEvents (init witnessChildScn [0]) [.tick 0, .tick 1]).log,
      o.kind = .hook .on_finish ∧ o.owner = 1 ∧ o.cur = some 0 := by
  decide +kernel

/-- the literal statement (with lifecycle hooks) does not hold -/
theorem C18_full_false : ¬ C18_full := by
  intro h
  obtain ⟨o, ho, _, h1, h2⟩ := C18_witness_hook_outside_scope
  have := h witnessScn [0] [.tick 0] o ho
  rw [h2] at this
  cases this

/-- every lifecycle hook fired by `transition_to` / the constructor is outside `Kind.inScope` (so the partial theorem
says nothing about them), and output hooks are inside -/
theorem C18_transition_hooks_are_lifecycle (old : Option PMF.Label) (new : PMF.Label) :
    ∀ h ∈ transitionHooks old new, (Kind.hook h).isLifecycleHook = true :=
  List.all_eq_true.1 (transitionHooks_lifecycle old new)

/-! ## Non-vacuity: a concrete run with interleaving, a callback, a child, a nested execution and a wait -/

/-- class 0: `run` = sample, await, out, call_soon(cb 0), launch(class 1), execute(class 1), then `Wait`, then a last step;
class 1: await, sample, raise -/
def demoScn : Scenario :=
  { classes := [[⟨[.obs, .await, .out, .callSoon 0, .launch 1, .execute 1], .wait⟩, ⟨[.obs], .finish⟩],
                [⟨[.await, .obs], .raise⟩]],
    cbs := [[.obs, .await]] }

/-- two top-level processes; the nested loop of `execute()` ticks the other top-level process, the callback and the
child before the nested process; the parked process is resumed at the end -/
def demoEvents : List Event :=
  [.tick 0, .tick 1, .tick 0, .tick 1, .tick 2, .tick 3, .tick 4, .tick 3, .tick 2, .tick 4, .resume 0, .tick 0]

/-- What the examples below quote from this run and from its first two and three events.  They are stated together so that
the kernel evaluates the run once: the prefixes are intermediate states of the same fold. -/
theorem demoRun :
    let σ := runEvents (init demoScn [0, 1]) demoEvents
    let σ₂ := runEvents (init demoScn [0, 1]) (demoEvents.take 2)
    let σ₃ := runEvents (init demoScn [0, 1]) (demoEvents.take 3)
    σ.err = none ∧ σ.tasks.all (·.done) = true ∧
    (σ.log.filter (·.kind.inScope)).length = 23 ∧
    (σ.log.filter (fun o => !o.kind.inScope && o.cur != some o.owner)).length = 76 ∧
    σ.scopes.length = 11 ∧
    (σ₃.callStack = [0] ∧ (1 < σ₃.tasks.length ∧ 1 ≠ 2 ∧ 1 ∉ σ₃.callStack) ∧
      (σ₃.tasks[1]?.map (·.stack)) = some [1] ∧ (σ₃.tasks[2]?.map (·.stack)) = some [0]) ∧
    (σ₂.tasks[1]?.map (fun T => current T.stack)) = some (some 1) := by
  decide +kernel

example : (runEvents (init demoScn [0, 1]) demoEvents).err = none := demoRun.1
example : (runEvents (init demoScn [0, 1]) demoEvents).tasks.all (·.done) = true := demoRun.2.1
/-- 23 in-scope samples, 76 lifecycle-hook samples (all of them differing from their owner), 11 completed scopes -/
example : ((runEvents (init demoScn [0, 1]) demoEvents).log.filter (·.kind.inScope)).length = 23 := demoRun.2.2.1
example : ((runEvents (init demoScn [0, 1]) demoEvents).log.filter (fun o => !o.kind.inScope && o.cur != some o.owner)).length
    = 76 := demoRun.2.2.2.1
example : (runEvents (init demoScn [0, 1]) demoEvents).scopes.length = 11 := demoRun.2.2.2.2.1
/-- the hypotheses of `C18_scope_restores_others` are satisfiable in a reachable state with a nested loop running:
after 3 events task 0 is inside `execute()`, task 1 is another top-level process, task 2 the callback -/
example : let σ := runEvents (init demoScn [0, 1]) (demoEvents.take 3)
    σ.callStack = [0] ∧ (1 < σ.tasks.length ∧ 1 ≠ 2 ∧ 1 ∉ σ.callStack) ∧
    (σ.tasks[1]?.map (·.stack)) = some [1] ∧ (σ.tasks[2]?.map (·.stack)) = some [0] := demoRun.2.2.2.2.2.1
/-- while task 1 is suspended at its await (inside its scope) its own stack keeps the pushed process -/
example : ((runEvents (init demoScn [0, 1]) (demoEvents.take 2)).tasks[1]?.map (fun T => current T.stack)) = some (some 1) :=
  demoRun.2.2.2.2.2.2

/-! ## Non-vacuity for the inline / BaseException / cancellation constructs -/

/-- class 0 (the parent): awaits a child of class 1 inline, samples, awaits, awaits a child of class 2 inline, then one of
class 4; class 1: await, sample, `Wait`, then a step that raises a BaseException; class 2: await, awaits a child of class 3
inline (nesting depth 3), await; class 3: sample, await, sample (also instantiated at top level: a peer in another task);
class 4: out, `Wait` -/
def inlineScn : Scenario :=
  { classes := [[⟨[.inline 1, .obs, .await, .inline 2, .inline 4], .finish⟩],
                [⟨[.await, .obs], .wait⟩, ⟨[.obs], .raiseBase⟩],
                [⟨[.await, .inline 3, .await], .finish⟩],
                [⟨[.obs, .await, .obs], .finish⟩],
                [⟨[.out], .wait⟩, ⟨[], .finish⟩]],
    cbs := [] }

/-- the parent (task 0, pid 0) and a peer (task 1, pid 1) interleaved; the first inline child (pid 2) is resumed from its
wait and raises a BaseException; the task is cancelled while the child of the child (pid 4, stack 0·3·4) is suspended at
its await; the last child (pid 5) is killed while it waits -/
def inlineEvents : List Event :=
  [.tick 0, .tick 1, .tick 0, .resume 0, .tick 0, .tick 0, .tick 1, .tick 0, .cancel 0, .tick 0, .tick 0, .kill 0, .tick 0]

/-- What the examples below quote from this run and from its first eight events (the state in which the cancellation is
requested), stated together so that the kernel evaluates the run once. -/
theorem inlineRun :
    let σ := runEvents (init inlineScn [0, 3]) inlineEvents
    let σ₈ := runEvents (init inlineScn [0, 3]) (inlineEvents.take 8)
    σ.err = none ∧ σ.tasks.all (·.done) = true ∧
    (σ₈.tasks[0]?.map (·.stack)) = some [4, 3, 0] ∧
    σ.scopes.map (fun x => (x.pid, x.how)) =
      [(0, .returned), (5, .interrupted), (5, .returned), (5, .returned), (3, .returned), (4, .cancelled), (4, .returned),
       (1, .returned), (3, .returned), (2, .baseException), (2, .returned), (2, .returned), (1, .returned), (2, .returned),
       (0, .returned)] ∧
    σ.joins.map (fun j => (j.pid, j.before, j.absorbed)) =
      [(0, [0], false), (0, [0], false), (3, [3, 0], true), (0, [0], true)] ∧
    (σ.log.filter (·.kind == .absorbed)).map (fun o => (o.owner, o.cur)) = [(3, some 3), (0, some 0)] ∧
    (σ.log.filter (·.kind.inScope)).length = 27 ∧
    (⟨4, .seg, some 4, [4, 3, 0], 0⟩ : Obs) ∈ σ.log ∧
    (σ₈.tasks[0]?).map (fun T => (T.stack, T.saved, T.code.length, T.code.take 1)) =
      some ([4, 3, 0], [[3, 0], [0], []], 37, [.obs 4 .aw]) ∧
    (unwind .cancelled 0 ((σ₈.tasks[0]?).getD default).code).take 2 = [.pop 4 .cancelled, .handler 3 [3, 0] true] := by
  decide +kernel

example : (runEvents (init inlineScn [0, 3]) inlineEvents).err = none := inlineRun.1
example : (runEvents (init inlineScn [0, 3]) inlineEvents).tasks.all (·.done) = true := inlineRun.2.1
/-- when the cancellation is requested, the task is suspended three scopes deep, in the step of pid 4 -/
example : ((runEvents (init inlineScn [0, 3]) (inlineEvents.take 8)).tasks[0]?.map (·.stack)) = some [4, 3, 0] := inlineRun.2.2.1
/-- scopes left in four of the five ways occur (15 in all; the fifth, `.exception`, in `sandwichRun` below), so
`C18_scope_restores_however_left` is not vacuous for any `how` -/
example : (runEvents (init inlineScn [0, 3]) inlineEvents).scopes.map (fun x => (x.pid, x.how)) =
    [(0, .returned), (5, .interrupted), (5, .returned), (5, .returned), (3, .returned), (4, .cancelled), (4, .returned),
     (1, .returned), (3, .returned), (2, .baseException), (2, .returned), (2, .returned), (1, .returned), (2, .returned),
     (0, .returned)] := inlineRun.2.2.2.1
/-- four inline awaits complete, two of them by absorbing (the BaseException of pid 2 in pid 0, the cancellation in pid 3) -/
example : (runEvents (init inlineScn [0, 3]) inlineEvents).joins.map (fun j => (j.pid, j.before, j.absorbed)) =
    [(0, [0], false), (0, [0], false), (3, [3, 0], true), (0, [0], true)] := inlineRun.2.2.2.2.1
/-- the samples taken in the two absorbing `except` clauses -/
example : ((runEvents (init inlineScn [0, 3]) inlineEvents).log.filter (·.kind == .absorbed)).map (fun o => (o.owner, o.cur)) =
    [(3, some 3), (0, some 0)] := inlineRun.2.2.2.2.2.1
/-- 27 in-scope samples in this run; the steps of the inline children run with the child current, e.g. pid 4 on 0·3·4 -/
example : ((runEvents (init inlineScn [0, 3]) inlineEvents).log.filter (·.kind.inScope)).length = 27 := inlineRun.2.2.2.2.2.2.1
example : (⟨4, .seg, some 4, [4, 3, 0], 0⟩ : Obs) ∈ (runEvents (init inlineScn [0, 3]) inlineEvents).log := inlineRun.2.2.2.2.2.2.2.1
/-- hypothesis of `C18_unwind_well_scoped`: the coroutine of task 0 at the moment of the cancellation is `WF` on its stack
(an instance of `reachable_inv`), with three open scopes and two handlers ahead; what `unwind` makes of it starts with the
exit of the innermost scope and the handler of the process that awaits pid 4 -/
example : ∀ T ∈ (runEvents (init inlineScn [0, 3]) (inlineEvents.take 8)).tasks, WF T.stack T.saved T.code :=
  (reachable_inv inlineScn [0, 3] (inlineEvents.take 8)).tasks
example : (((runEvents (init inlineScn [0, 3]) (inlineEvents.take 8)).tasks[0]?).map
    (fun T => (T.stack, T.saved, T.code.length, T.code.take 1))) = some ([4, 3, 0], [[3, 0], [0], []], 37, [.obs 4 .aw]) :=
  inlineRun.2.2.2.2.2.2.2.2.1
example : let T := ((runEvents (init inlineScn [0, 3]) (inlineEvents.take 8)).tasks[0]?).getD default
    ((unwind .cancelled 0 T.code).take 2) = [.pop 4 .cancelled, .handler 3 [3, 0] true] :=
  inlineRun.2.2.2.2.2.2.2.2.2
/-- a top-level process cancelled in the middle of its step: its task ends (nothing absorbs), the scope was left (`cancelled`),
no transition hook ran after it, and the open-scope history of the finished task is empty -/
example : let σ := runEvents (init { classes := [[⟨[.await, .obs], .finish⟩]], cbs := [] } [0]) [.tick 0, .cancel 0, .tick 0]
    σ.err = none ∧ σ.tasks.map (fun T => (T.done, T.stack, T.saved)) = [(true, [], [])] ∧
    σ.scopes.map (fun x => (x.pid, x.how, x.before, x.after)) = [(0, .cancelled, [], []), (0, .returned, [], [])] ∧
    (σ.log.head?.map (·.kind)) = some .seg := by decide +kernel

/-! ## Non-vacuity for callbacks on the creator and raising callbacks -/

/-- What the examples below quote from the run of `sandwichScn` and from its first two events, stated together so that the
kernel evaluates the run once. -/
theorem sandwichRun :
    let σ := runEvents (init sandwichScn [0]) sandwichEvents
    let σ₂ := runEvents (init sandwichScn [0]) (sandwichEvents.take 2)
    σ.err = none ∧ σ.tasks.all (·.done) = true ∧
    σ.cbExcs = [⟨2, 0, [1, 0], [1, 0]⟩] ∧
    (σ.scopes.map (fun x => (x.tid, x.pid, x.how, x.before))).take 4 =
      [(0, 0, .returned, []), (1, 1, .returned, [0]), (2, 0, .exception, [1, 0]), (1, 1, .returned, [0])] ∧
    (creatorOf σ₂ 1 = some 0 ∧ creatorOf σ₂ 0 = none ∧
      (σ₂.tasks[2]?.map (fun T => (T.stack, T.code.head?, T.code.getLast?))) =
        some ([1, 0], some (.push 0), some (.excepted 0 [1, 0]))) ∧
    (σ.log.filter (fun o => o.kind == .cbseg || o.kind == .cbaw || o.kind == .pcret)).map
      (fun o => (o.owner, o.kind, o.stack)) = [(0, .cbseg, [0, 1, 0]), (1, .pcret, [1, 0])] := by
  decide +kernel

example : (runEvents (init sandwichScn [0]) sandwichEvents).err = none := sandwichRun.1
example : (runEvents (init sandwichScn [0]) sandwichEvents).tasks.all (·.done) = true := sandwichRun.2.1
/-- one call of `callback_excepted`: task 2, process 0, scheduled on the stack [1, 0] (outer·inner), observed the same -/
example : (runEvents (init sandwichScn [0]) sandwichEvents).cbExcs = [⟨2, 0, [1, 0], [1, 0]⟩] := sandwichRun.2.2.1
/-- the callback's scope was left through the exception (first record = latest), between it and the scope of inner's step -/
example : ((runEvents (init sandwichScn [0]) sandwichEvents).scopes.map (fun x => (x.tid, x.pid, x.how, x.before))).take 4 =
    [(0, 0, .returned, []), (1, 1, .returned, [0]), (2, 0, .exception, [1, 0]), (1, 1, .returned, [0])] := sandwichRun.2.2.2.1
/-- hypotheses of `C18_callback_task_inherits_scheduling_context` are met in a reachable state (inner = process 1 has the
creator 0, outer has none); after inner's first tick the callback's task exists, on inner's stack, and its coroutine starts
with the scope of outer and ends with `callback_excepted` expecting inner's stack -/
example : let σ := runEvents (init sandwichScn [0]) (sandwichEvents.take 2)
    creatorOf σ 1 = some 0 ∧ creatorOf σ 0 = none ∧
    (σ.tasks[2]?.map (fun T => (T.stack, T.code.head?, T.code.getLast?))) =
      some ([1, 0], some (.push 0), some (.excepted 0 [1, 0])) := sandwichRun.2.2.2.2.1
example : sandwichScn.cbRaise.contains 0 = true ∧ sandwichScn.wf [0] = true := by decide +kernel
/-- why this shape matters: leaving the innermost scope means dropping the *top* entry; dropping the bottom-most occurrence
of the process instead (`list.remove`) would turn outer·inner·outer into inner·outer -/
example : ([0, 1, 0] : List Pid).tail = [1, 0] ∧ (([0, 1, 0] : List Pid).reverse.erase 0).reverse = [0, 1] := by decide +kernel
/-- the samples of the three kinds of `C18_callback_on_creator_in_scope` in this run, and a process without creator for
which `creator.call_soon` schedules nothing -/
example : ((runEvents (init sandwichScn [0]) sandwichEvents).log.filter
    (fun o => o.kind == .cbseg || o.kind == .cbaw || o.kind == .pcret)).map (fun o => (o.owner, o.kind, o.stack)) =
    [(0, .cbseg, [0, 1, 0]), (1, .pcret, [1, 0])] := sandwichRun.2.2.2.2.2
example : (runEvents (init { classes := [[⟨[.callSoonCreator 0], .finish⟩]], cbs := [[]] } [0]) [.tick 0]).tasks.length = 1 := by
  decide +kernel

end ProcStack
