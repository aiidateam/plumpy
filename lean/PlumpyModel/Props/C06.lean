import PlumpyModel.PM.Proof9
import PlumpyModel.PM.Proof11g
/-!
# C06 — a wake-up is never lost to a concurrent pause or interruption

Model: `PMF`.  A WAITING state object is `SObj.waiting fn wf wakeup awaiting`: `wf` indexes its waiting future in
`Cfg.wfs` (`pending | result v | interrupted cookie | failed e`), `wakeup` is the slot in which an outcome that arrives
while an interruption is being delivered is parked (repair I), `awaiting` the workchain's outstanding awaitables.
`deliver` is `Waiting._deliver` (used by `resume()` and by the workchain's `_awaitable_done`), `wake` is
`Waiting.execute` after its future completed, followed by the end of the step.

The first theorems are the protocol's safety core, for every configuration: an accepted wake-up is stored or parked,
never dropped; a later one never overwrites it; re-arming after an interruption hands the parked outcome to the fresh
future; a completed wait activates the continuation with exactly that value (`C13_wait_resume_exact`, `Props/C13.lean`).

**History level** (helper lemmas in namespace `PMF.H6`).  Property text: "the value passed to the first resume() is
delivered exactly once to the continuation".  A wait that holds a value activates its continuation with it at the next
callback of the stepping task of a playing process (`C06_delivery`); the first activation after an accepted `resume(v)` is
the continuation with `v`, whatever arrives later (`C06_first_resume_wins`); nothing is activated for a wait that holds no
outcome (`C06_no_activation_while_waiting_empty`).

The only hypothesis on the history is `H6.histFuelOk`: no single callback of the stepping task executes `fuel0` (1000)
process steps without suspending once.  It is needed: when `loopHead` runs out of fuel it returns with a STALE program
counter, and the model's next tick would re-run an already consumed continuation (for instance wake a NEW wait with the
value of an old one).  The real code can only match such a run by not returning from the callback; the driver never
reaches it (`C06_witness_fuel_exhaustion`, `C06_first_resume_wins_full_is_false`).  The hypothesis is a decidable `Bool`
function of the program and the history (see the examples).
-/
namespace PMF

/-- `resume(v)` on a waiting process whose wait is still pending completes the wait with `v` -/
theorem C06_resume_accepted (c : Cfg) (fn wf : Nat) (wk : Option WF) (aw : List (Nat × Nat)) (v : Option Val)
    (hst : c.st = .waiting fn wf wk aw) (hp : c.wfs[wf]? = some .pending) :
    (resume c v).2 = .none ∧ (resume c v).1.st = c.st ∧ (resume c v).1.wfs[wf]? = some (.result v) := by
  have hlt : wf < c.wfs.length := (List.getElem?_eq_some_iff.mp hp).1
  unfold resume deliver
  simp only [hst, hp]
  exact ⟨trivial, trivial, by simp [setAt, hlt]⟩

/-- `resume(v)` arriving while an interruption is being delivered (the future already carries the interruption) is
parked in the wake-up slot — not dropped, and it does not raise -/
theorem C06_resume_parked (c : Cfg) (fn wf : Nat) (aw : List (Nat × Nat)) (v : Option Val) (k : Nat)
    (hst : c.st = .waiting fn wf none aw) (hp : c.wfs[wf]? = some (.interrupted k)) :
    (resume c v).2 = .none ∧ (resume c v).1.st = .waiting fn wf (some (.result v)) aw ∧ (resume c v).1.wfs = c.wfs := by
  unfold resume deliver
  simp [hst, hp]

/-- the first wake-up wins: once the wait holds a result, or an outcome is parked, a further `resume` changes nothing -/
theorem C06_later_resume_ignored (c : Cfg) (fn wf : Nat) (wk : Option WF) (aw : List (Nat × Nat)) (u v : Option Val)
    (hst : c.st = .waiting fn wf wk aw) (hp : c.wfs[wf]? = some (.result u)) :
    (resume c v).1 = c := by
  rw [resume_eq_deliver]
  exact H6.deliver_held_noop c _ fn wf wk aw u hst (Or.inl hp)

theorem C06_parked_not_overwritten (c : Cfg) (fn wf : Nat) (o : WF) (aw : List (Nat × Nat)) (v : Option Val) (k : Nat)
    (hst : c.st = .waiting fn wf (some o) aw) (hp : c.wfs[wf]? = some (.interrupted k)) :
    (resume c v).1 = c := by
  unfold resume deliver
  simp [hst, hp]

/-- `resume()` on a process that is not WAITING is refused (EventError) and changes nothing -/
theorem C06_resume_refused_when_not_waiting (c : Cfg) (v : Option Val)
    (hst : ∀ fn wf wk aw, c.st ≠ .waiting fn wf wk aw) : resume c v = (c, .raised .eventError) := by
  unfold resume
  split
  · rename_i fn wf wk aw h; exact absurd h (hst fn wf wk aw)
  · rfl

def rearmed (c : Cfg) (fn : Nat) (wk : Option WF) (aw : List (Nat × Nat)) : Cfg :=
  { c with st := .waiting fn c.wfs.length none aw, wfs := c.wfs ++ [match wk with | some o => o | none => .pending] }

/-- the interrupted wait is re-armed with the parked outcome: the configuration handed to the end of the step is
WAITING on a fresh future that already holds what was parked (or is pending if nothing was) -/
theorem C06_wake_rearms (c : Cfg) (fn wf : Nat) (wk : Option WF) (aw : List (Nat × Nat)) (k : Nat)
    (hst : c.st = .waiting fn wf wk aw) :
    wake c fn wf (.interrupted k) = endOfStep (rearmed c fn wk aw) (.interruption k) ∧
    (rearmed c fn wk aw).wfs[c.wfs.length]? = some (match wk with | some o => o | none => .pending) := by
  constructor
  · exact wake_interrupted c fn wf k _ hst (by cases wk <;> rfl)
  · cases wk <;> simp [rearmed]

/-- a `play()` that retracted the pause leaves a cancelled action behind; the end of the interrupted step then changes
neither the state object nor the re-armed future: the parked wake-up is still there for the next `Waiting.execute` -/
theorem C06_retracted_pause_keeps_wakeup (c : Cfg) (k i : Nat) (hl : terminal c.st.label = false)
    (hi : c.interrupt = some i) (hc : actionStatus c i = .cancelled) :
    (endOfStep c (.interruption k)).st = c.st ∧ (endOfStep c (.interruption k)).wfs = c.wfs := by
  rw [H6.endOfStep_interruption_plain c k i hl hi hc]
  exact ⟨(finally_off c).st, (finally_off c).wfs⟩

/-! ## History level -/

/-- **C06 — a wake-up is delivered (history level).**  Take any user program `P`, any number of awaitables and ANY
history `evs` of ticks, scheduled callbacks and pause / play / kill / resume / fail / cancel / complete / call_soon events
in which no callback ran out of fuel.  If the configuration reached is WAITING for continuation `fn` and its wait holds
the outcome `v` (`H6.Holds`: the waiting future completed with `v`, or `v` is parked while the future carries an
interruption), and the process is playing — not paused, no pause request pending, and no kill request pending (a pending
kill rightly wins: C04) — then ONE more callback of the stepping task activates the continuation: the trace of user calls
gains the entry `fn(*argsOf v)` (not started paused), directly on top of the old trace (further entries `extra` only if
the continuation itself ran to completion synchronously and later steps followed in the same callback). -/
theorem C06_delivery (P : Prog) (nf : Nat) (evs : List Ev) (hfuel : H6.histFuelOk P (init nf) evs = true)
    (fn wf : Nat) (wk : Option WF) (aw : List (Nat × Nat)) (v : Option Val)
    (hst : (run P (init nf) evs).st = .waiting fn wf wk aw)
    (hh : H6.Holds (run P (init nf) evs) wf wk v)
    (hpa : (run P (init nf) evs).paused = none) (hpi : (run P (init nf) evs).pausing = none)
    (hk : (run P (init nf) evs).killing = none) :
    ∃ extra, (ticks P 1 (run P (init nf) evs)).trace =
      extra ++ { fn := fn, args := H6.argsOf v, kw := [], paused := false } :: (run P (init nf) evs).trace :=
  H6.tick_delivers P _ fn wf wk aw v (H6.run_coh P _ evs (H6.coh_init nf) hfuel) hst hh hpa hpi hk

/-- `resume(v)` on this configuration is accepted as THE wake-up of the current WAITING epoch (continuation `fn`):
nothing was delivered to it yet — its future is pending, or carries an interruption with an empty wake-up slot -/
def Accepts (c : Cfg) (fn : Nat) : Prop :=
  ∃ wf wk aw, c.st = .waiting fn wf wk aw ∧
    (c.wfs[wf]? = some .pending ∨ ((∃ k, c.wfs[wf]? = some (.interrupted k)) ∧ wk = none))

/-- an accepted `resume(v)` makes the wait hold `v` (`C06_resume_accepted`, `C06_resume_parked` in one statement) -/
theorem C06_accepted_holds (c : Cfg) (fn : Nat) (v : Option Val) (h : Accepts c fn) :
    ∃ wf wk aw, (resume c v).1.st = .waiting fn wf wk aw ∧ H6.Holds (resume c v).1 wf wk v ∧
      (resume c v).1.trace = c.trace := by
  obtain ⟨wf, wk, aw, hst, he⟩ := h
  rw [resume_eq_deliver]
  exact ⟨wf, (H6.deliver_accepted c (.result v) hst he).imp fun _ g => ⟨aw, g⟩⟩

/-- what can have become of a `resume(v)` that configuration `c₁` accepted for continuation `fn`, in a later
configuration `c`:

* the trace grew, and the FIRST activation logged after the accepted resume is `fn(*argsOf v)`, not started paused
  (`extra` are later activations: the continuation's successors);
* or nothing was activated since (`c.trace = c₁.trace`) and the process terminated (kill / fail / …), or is RUNNING
  `fn(*argsOf v)` between two steps (woken with `v`, activation still ahead — it is paused), or is still in the same
  WAITING epoch whose wait still holds `v`. -/
def ResumeOutcome (c₁ c : Cfg) (fn : Nat) (v : Option Val) : Prop :=
  (∃ extra, c.trace = extra ++ { fn := fn, args := H6.argsOf v, kw := [], paused := false } :: c₁.trace) ∨
  (c.trace = c₁.trace ∧
    (terminal c.st.label = true ∨
     (c.st = .running fn (H6.argsOf v) [] ∧ c.stepping = false) ∨
     ∃ wf wk aw, c.st = .waiting fn wf wk aw ∧ H6.Holds c wf wk v))

/-- **C06 — the first accepted value wins, and it is delivered at most once (history level).**  Split any history at a
`resume(v)` event that is accepted (`Accepts`) by the configuration `c₁` reached by the first part `evs₁`; let `evs₂` be
ANY continuation (later `resume(u)` with other values, pause / play in any interleaving, interruptions that re-arm the
wait, kill, fail, awaitable callbacks, ticks) and `c` the configuration at its end.  Then `ResumeOutcome c₁ c fn v`: the
first activation logged since is `fn` with `v`'s arguments, or nothing was activated and `v` is still held / about to be
passed / the process terminated.  In particular a later `resume(u)` never replaces `v`, nothing but `fn(v)` is activated
next, and (the wait being consumed by that activation: the state is then RUNNING) the epoch's continuation is not
activated a second time. -/
theorem C06_first_resume_wins (P : Prog) (nf : Nat) (evs₁ evs₂ : List Ev) (fn : Nat) (v : Option Val)
    (hfuel : H6.histFuelOk P (init nf) (evs₁ ++ .resume v :: evs₂) = true)
    (hacc : Accepts (run P (init nf) evs₁) fn) :
    ResumeOutcome (run P (init nf) evs₁) (run P (init nf) (evs₁ ++ .resume v :: evs₂)) fn v := by
  rw [H6.histFuelOk_append, Bool.and_eq_true] at hfuel
  obtain ⟨hf1, hf2⟩ := hfuel
  have hC1 := H6.run_coh P _ evs₁ (H6.coh_init nf) hf1
  have hrun : run P (init nf) (evs₁ ++ .resume v :: evs₂) = run P (resume (run P (init nf) evs₁) v).1 evs₂ := by
    rw [run_append]; rfl
  obtain ⟨wf, wk, aw, hst, hh, htr⟩ := C06_accepted_holds _ fn v hacc
  have hD := H6.run_deliv P _ evs₂ (H6.resume_coh _ v hC1) (H6.histFuelOk_cons hf2).2 (H6.Deliv.held wf wk aw hst hh htr)
  rw [hrun]
  cases hD with
  | held wf' wk' aw' hst' hh' ht' => exact Or.inr ⟨ht', Or.inr (Or.inr ⟨wf', wk', aw', hst', hh'⟩)⟩
  | ready hst' hns ht' => exact Or.inr ⟨ht', Or.inr (Or.inl ⟨hst', hns⟩)⟩
  | over hterm ht' => exact Or.inr ⟨ht', Or.inl hterm⟩
  | done extra ht' => exact Or.inl ⟨extra, ht'⟩

/-- `C06_first_resume_wins` without its fuel hypothesis (kept as a statement: it is FALSE of the model, see below) -/
def C06_first_resume_wins_full : Prop :=
  ∀ (P : Prog) (nf : Nat) (evs₁ evs₂ : List Ev) (fn : Nat) (v : Option Val), Accepts (run P (init nf) evs₁) fn →
    ResumeOutcome (run P (init nf) evs₁) (run P (init nf) (evs₁ ++ .resume v :: evs₂)) fn v

/-- the process is WAITING for continuation `fn` and NOTHING has been delivered to that wait: the wake-up slot is empty and
the future is pending or carries an interruption -/
def WaitsEmpty (c : Cfg) (fn : Nat) : Prop :=
  ∃ wf aw, c.st = .waiting fn wf none aw ∧ (c.wfs[wf]? = some .pending ∨ ∃ k, c.wfs[wf]? = some (.interrupted k))

/-- **C06 — no activation without a delivered outcome (history level).**  If after `evs₁` the process is WAITING for `fn`
with nothing delivered, then along ANY continuation `evs₂` that contains no delivery — no `resume`, no awaitable
done-callback (the workchain's own way of completing the wait) — but any ticks, pauses, plays, interruptions that
re-arm the wait, kills, fails, nothing at all is activated: the trace of user calls is unchanged, and the process is
still WAITING for `fn` with nothing delivered, or it terminated.  A continuation is only ever started by an outcome. -/
theorem C06_no_activation_while_waiting_empty (P : Prog) (nf : Nat) (evs₁ evs₂ : List Ev) (fn : Nat)
    (hfuel : H6.histFuelOk P (init nf) (evs₁ ++ evs₂) = true)
    (hw : WaitsEmpty (run P (init nf) evs₁) fn)
    (hnd : ∀ e ∈ evs₂, (∀ u, e ≠ .resume u) ∧ (∀ f, e ≠ .tickCb (.adone f))) :
    (run P (init nf) (evs₁ ++ evs₂)).trace = (run P (init nf) evs₁).trace ∧
    (terminal (run P (init nf) (evs₁ ++ evs₂)).st.label = true ∨ WaitsEmpty (run P (init nf) (evs₁ ++ evs₂)) fn) := by
  rw [H6.histFuelOk_append, Bool.and_eq_true] at hfuel
  obtain ⟨wf, aw, hst, he⟩ := hw
  have hC1 := H6.run_coh P _ evs₁ (H6.coh_init nf) hfuel.1
  have hU := H6.run_unres P _ evs₂ hC1 hfuel.2 hnd (H6.Unres.waiting wf aw hst he rfl)
  rw [run_append]
  cases hU with
  | waiting wf' aw' hst' he' ht' => exact ⟨ht', Or.inr ⟨wf', aw', hst', he'⟩⟩
  | over hterm ht' => exact ⟨ht', Or.inl hterm⟩

/-! ### a chain of synchronous steps, walked without evaluating the process step

`run` on the witnesses below drives `fuel0` synchronous steps through `loopHead`; evaluating them costs the kernel the whole
of `endOfStep` and `transitionTo` a thousand times, and `fuelOk` the same again.  On a playing, open process with no
interrupt action a step `fn → fn'` only changes five fields (`chainStep`), so `loopHead` and `fuelOk` both walk the chain
as `chainSteps` does, and only that is evaluated. -/

def chainStep (c : Cfg) (fn : Nat) (a : Act) : Cfg :=
  { c with st := .running fn [] [], stepping := false, entered := .running :: c.entered, notif := .running :: c.notif, trace := a :: c.trace }

theorem stepBody_cont (P : Prog) (c : Cfg) (fn fn' : Nat) (args : List Val) (kw : List (Nat × Val))
    (hst : c.st = .running fn args kw) (hP : P fn args kw c.ctx = ⟨0, .ret (.cont fn' [] [])⟩)
    (hcl : c.closed = false) (hpa : c.paused = none) (hint : c.interrupt = none) :
    stepBody P 0 c = chainStep c fn' ⟨fn, args, kw, false⟩ := by
  cases c
  simp only at hst hP hcl hpa hint
  subst hst hcl hpa hint
  simp [chainStep, stepBody, stepBodyK, loopHead, hP, finishUser, cmdToState, endOfStep, prepare, dispatch, transitionTo,
    exitState, enteringHooks, enterNext, enterState, enteredHooks, enteredNotif, setState, finally_, setInterrupt, terminal,
    allowed, SObj.label]

/-- `k` steps of a chain in which every function continues with its successor -/
def chainSteps : Nat → Cfg → Cfg
  | 0, c => c
  | k+1, c => chainSteps k (match c.st with | .running fn args kw => chainStep c (fn + 1) ⟨fn, args, kw, false⟩ | _ => c)

theorem loopHead_chain (P : Prog) (hi : Nat)
    (hP : ∀ fn args kw ctx, 0 < fn → fn < hi → P fn args kw ctx = ⟨0, .ret (.cont (fn + 1) [] [])⟩) :
    ∀ (k n : Nat) (c : Cfg) (fn : Nat) (args : List Val) (kw : List (Nat × Val)) (wf : Nat), c.st = .running fn args kw →
      0 < fn → fn + k ≤ hi → c.closed = false → c.paused = none → c.interrupt = none → c.pc = .awaitWaiting wf →
      loopHead P (n + k) c = loopHead P n (chainSteps k c) ∧ H6.fuelOk P (n + k) c = H6.fuelOk P n (chainSteps k c) := by
  intro k
  induction k with
  | zero => intros; exact ⟨rfl, rfl⟩
  | succ k ih =>
    intro n c fn args kw wf hst h0 hk hcl hpa hint hpc
    have hPc := hP fn args kw c.ctx h0 (by omega)
    have hsync : H6.stepSync P c = true := by simp [H6.stepSync, hst, hPc]
    have hlive : terminal c.st.label = false := by rw [hst]; rfl
    obtain ⟨i1, i2⟩ := ih n (chainStep c (fn + 1) ⟨fn, args, kw, false⟩) (fn + 1) [] [] wf rfl (by omega) (by omega) hcl hpa hint hpc
    have hc : chainSteps (k + 1) c = chainSteps k (chainStep c (fn + 1) ⟨fn, args, kw, false⟩) := by rw [chainSteps, hst]
    rw [hc, ← i1, ← i2, ← stepBody_cont P c fn (fn + 1) args kw hst hPc hcl hpa hint]
    constructor
    · show loopHead P (n + k + 1) c = _
      rw [loopHead_step P _ c (by rw [hpc]; nofun) hlive hcl hpa]
      exact H6.stepBodyK_sync P _ c hsync
    · show H6.fuelOk P (n + k + 1) c = _
      rw [H6.fuelOk, hlive, hpa, hsync]
      rfl

/-- the callback of the stepping task that finds its wait completed with `v` and wakes function 1 of a chain 1 → 2 → … → 1000:
999 of its `fuel0` steps are chain steps, and so are 999 of the steps `tickFuelOk` counts -/
theorem tick_chain (P : Prog) (hP : ∀ fn args kw ctx, 0 < fn → fn < 1000 → P fn args kw ctx = ⟨0, .ret (.cont (fn + 1) [] [])⟩)
    (c : Cfg) (wf : Nat) (v : Option Val) (args : List Val) (hpc : c.pc = .awaitWaiting wf) (hw : c.wfs[wf]? = some (.result v))
    (hq : (wake c (H6.wakeFn c) wf (.result v)).st = .running 1 args [] ∧ (wake c (H6.wakeFn c) wf (.result v)).closed = false ∧
      (wake c (H6.wakeFn c) wf (.result v)).paused = none ∧ (wake c (H6.wakeFn c) wf (.result v)).interrupt = none ∧
      (wake c (H6.wakeFn c) wf (.result v)).pc = .awaitWaiting wf) :
    tickStepper P c = loopHead P 1 (chainSteps 999 (wake c (H6.wakeFn c) wf (.result v))) ∧
    H6.tickFuelOk P c = H6.fuelOk P 1 (chainSteps 999 (wake c (H6.wakeFn c) wf (.result v))) := by
  obtain ⟨h1, h2⟩ := loopHead_chain P 1000 hP 999 1 _ 1 args [] wf hq.1 (by omega) (by omega) hq.2.1 hq.2.2.1 hq.2.2.2.1 hq.2.2.2.2
  rw [← h1, ← h2]
  simp only [tickStepper, H6.tickFuelOk, hpc, hw]
  exact ⟨rfl, rfl⟩

theorem run_tick (P : Prog) (c : Cfg) (es : List Ev) : run P c (es ++ [.tick]) = tickStepper P (run P c es) := by
  rw [run_append]; rfl

theorem histFuelOk_tick (P : Prog) (c : Cfg) (es : List Ev) :
    H6.histFuelOk P c (es ++ [.tick]) = (H6.histFuelOk P c es && H6.tickFuelOk P (run P c es)) := by
  rw [H6.histFuelOk_append]; simp [H6.histFuelOk]

/-- a program with a chain of exactly `fuel0` synchronous steps between two waits: fn 0 waits for fn 1, fn 1 … fn 999
continue with the next one, fn 1000 waits for fn 1001, which stops -/
def fuelWitness : Prog := fun fn _ _ _ =>
  if fn = 0 then ⟨0, .ret (.wait 1)⟩ else if fn < 1000 then ⟨0, .ret (.cont (fn + 1) [] [])⟩
  else if fn = 1000 then ⟨0, .ret (.wait 1001)⟩ else ⟨0, .ret (.stop none true)⟩

/-- what the two theorems below need of the run on `fuelWitness`; the traces are compared by length and first entry only -/
theorem fuelWitness_run :
    (run fuelWitness (init 0) [.tick, .resume (some 7), .tick]).st = .waiting 1001 1 none [] ∧
    (run fuelWitness (init 0) [.tick, .resume (some 7), .tick]).wfs[1]? = some .pending ∧
    H6.histFuelOk fuelWitness (init 0) [.tick, .resume (some 7), .tick] = false ∧
    (((run fuelWitness (run fuelWitness (init 0) [.tick, .resume (some 7), .tick]) (.resume (some 8) :: [.tick])).trace.take 1).map
      fun a => (a.fn, a.args)) = [(1001, [7])] ∧
    (run fuelWitness (run fuelWitness (init 0) [.tick, .resume (some 7), .tick]) (.resume (some 8) :: [.tick])).trace.length =
      (run fuelWitness (init 0) [.tick, .resume (some 7), .tick]).trace.length + 1 := by
  obtain ⟨ht, hf⟩ := tick_chain fuelWitness (fun fn _ _ _ h0 h1 => by simp [fuelWitness, h1, Nat.ne_of_gt h0])
    (run fuelWitness (init 0) [.tick, .resume (some 7)]) 0 (some 7) [7] (by decide +kernel) (by decide +kernel) (by decide +kernel)
  rw [show [Ev.tick, .resume (some 7), .tick] = [.tick, .resume (some 7)] ++ [.tick] from rfl, run_tick, histFuelOk_tick, ht, hf]
  decide +kernel

/-- **why `histFuelOk` is a hypothesis** (a finding about the MODEL, not about plumpy): on `fuelWitness` the callback that
consumes `resume(7)` runs out of fuel exactly when the second wait has been entered, and returns with the stale program
counter "awaiting future 0".  The second wait then accepts `resume(8)` — and the model's next tick wakes it with the value
of the FIRST wait: fn 1001 is activated with `[7]`.  So `C06_first_resume_wins` without the fuel hypothesis is false of
the model (the real code cannot produce this run: its callback would simply go on). -/
theorem C06_witness_fuel_exhaustion :
    Accepts (run fuelWitness (init 0) [.tick, .resume (some 7), .tick]) 1001 ∧
    H6.histFuelOk fuelWitness (init 0) ([.tick, .resume (some 7), .tick] ++ .resume (some 8) :: [.tick]) = false ∧
    (((run fuelWitness (init 0) ([.tick, .resume (some 7), .tick] ++ .resume (some 8) :: [.tick])).trace.take 1).map
      fun a => (a.fn, a.args)) = [(1001, [7])] := by
  obtain ⟨hst, hwf, hfuel, hhead, _⟩ := fuelWitness_run
  refine ⟨⟨1, none, [], hst, Or.inl hwf⟩, ?_, ?_⟩
  · rw [H6.histFuelOk_append, hfuel, Bool.false_and]
  · rw [run_append]; exact hhead

/-- the statement without the fuel hypothesis is refuted by `fuelWitness`: the activation that follows the accepted
`resume(8)` is logged with `[7]` -/
theorem C06_first_resume_wins_full_is_false : ¬ C06_first_resume_wins_full := by
  intro h
  obtain ⟨hacc, _, hhead⟩ := C06_witness_fuel_exhaustion
  have hlen := fuelWitness_run.2.2.2.2
  rw [← run_append] at hlen
  rcases h fuelWitness 0 [.tick, .resume (some 7), .tick] [.tick] 1001 (some 8) hacc with ⟨extra, he⟩ | ⟨he, _⟩
  · rw [he, List.length_append, List.length_cons] at hlen
    have : extra = [] := List.eq_nil_of_length_eq_zero (by omega)
    subst this
    rw [he] at hhead
    simp [H6.argsOf] at hhead
  · rw [he] at hlen
    omega

-- non-vacuity and the races of section 9: pause then resume inside one loop iteration; the value arrives after play
section
private def waiter : Prog := fun fn _ _ _ => if fn = 0 then ⟨0, .ret (.wait 1)⟩ else ⟨0, .ret (.stop none true)⟩
example : ((run waiter (init 0) [.tick, .pause, .resume (some 5), .tick, .play, .tick]).trace.map fun a => (a.fn, a.args)) =
    [(1, [5]), (0, [])] := by decide +kernel
example : ((run waiter (init 0) [.tick, .pause, .play, .resume (some 5), .resume (some 6), .tick, .tick]).trace.map
    fun a => (a.fn, a.args)) = [(1, [5]), (0, [])] := by decide +kernel
example : (run waiter (init 0) [.tick, .pause, .resume (some 5), .tick, .play, .tick]).st = .finished none true := by
  decide +kernel

-- history level: the Waiter program of harness/pm.py (fn 0 waits, fn 1 stops), history
-- [tick, pause, resume 5, play, tick, tick]: no callback runs out of fuel ...
example : H6.histFuelOk waiter (init 0) [.tick, .pause, .resume (some 5), .play, .tick, .tick] = true := by decide +kernel
-- ... after [tick, pause, resume 5, play] the value 5 is PARKED (the future carries the interruption of the retracted
-- pause) and the process is playing: all hypotheses of `C06_delivery` hold, so the next tick activates fn 1 with [5]
example : ∃ extra, (ticks waiter 1 (run waiter (init 0) [.tick, .pause, .resume (some 5), .play])).trace =
    extra ++ { fn := 1, args := [5], kw := [], paused := false } ::
      (run waiter (init 0) [.tick, .pause, .resume (some 5), .play]).trace :=
  C06_delivery waiter 0 [.tick, .pause, .resume (some 5), .play] (by decide +kernel) 1 0 (some (.result (some 5))) [] (some 5)
    (by decide +kernel) (Or.inr ⟨⟨0, by decide +kernel⟩, rfl⟩) (by decide +kernel) (by decide +kernel) (by decide +kernel)
-- the same with the value in the future itself (resume arrives while the stepper is suspended on the wait, no pause)
example : H6.Holds (run waiter (init 0) [.tick, .resume none]) 0 none none := Or.inl (by decide +kernel)
-- `Accepts`: after [tick, pause] the wait of fn 1 carries the interruption and nothing is parked; after [tick] it is pending
example : Accepts (run waiter (init 0) [.tick, .pause]) 1 :=
  ⟨0, none, [], by decide +kernel, Or.inr ⟨⟨0, by decide +kernel⟩, rfl⟩⟩
example : Accepts (run waiter (init 0) [.tick]) 1 := ⟨0, none, [], by decide +kernel, Or.inl (by decide +kernel)⟩
-- `C06_first_resume_wins` on [tick, pause] ++ resume 5 :: [resume 6, play, resume 7, tick, tick]: its first alternative
-- holds, the activation after the accepted resume is fn 1 with [5]; 6 and 7 are gone
example : H6.histFuelOk waiter (init 0) ([.tick, .pause] ++ .resume (some 5) :: [.resume (some 6), .play, .resume (some 7), .tick, .tick]) = true := by
  decide +kernel
example : ((run waiter (init 0) ([.tick, .pause] ++ .resume (some 5) :: [.resume (some 6), .play, .resume (some 7), .tick, .tick])).trace.map
    fun a => (a.fn, a.args)) = [(1, [5]), (0, [])] := by decide +kernel
-- `C06_no_activation_while_waiting_empty`: waiting with nothing delivered after [tick]; pause, tick (re-arm), play, ticks
-- activate nothing
example : WaitsEmpty (run waiter (init 0) [.tick]) 1 := ⟨0, [], by decide +kernel, Or.inl (by decide +kernel)⟩
example : H6.histFuelOk waiter (init 0) ([.tick] ++ [.pause, .tick, .play, .tick, .tick]) = true := by decide +kernel
example : ∀ e ∈ [Ev.pause, .tick, .play, .tick, .tick], (∀ u, e ≠ .resume u) ∧ (∀ f, e ≠ .tickCb (.adone f)) := by
  intro e he
  simp at he
  rcases he with rfl | rfl | rfl | rfl <;> exact ⟨fun _ h => (by cases h), fun _ h => (by cases h)⟩
example : ((run waiter (init 0) ([.tick] ++ [.pause, .tick, .play, .tick, .tick])).trace.map fun a => a.fn) = [0] ∧
    (run waiter (init 0) ([.tick] ++ [.pause, .tick, .play, .tick, .tick])).st = .waiting 1 1 none [] := by decide +kernel
-- ... and each of the other alternatives of `C06_first_resume_wins` occurs: still waiting and holding 5 (paused), terminated before the activation
example : (run waiter (init 0) ([.tick, .pause] ++ .resume (some 5) :: [.resume (some 6), .tick, .tick])).st =
    .waiting 1 1 none [] ∧
    (run waiter (init 0) ([.tick, .pause] ++ .resume (some 5) :: [.resume (some 6), .tick, .tick])).wfs[1]? = some (.result (some 5)) := by
  decide +kernel
example : (run waiter (init 0) ([.tick] ++ .resume (some 5) :: [.pause, .tick])).st = .running 1 [5] [] ∧
    (run waiter (init 0) ([.tick] ++ .resume (some 5) :: [.pause, .tick])).stepping = false ∧
    ((run waiter (init 0) ([.tick] ++ .resume (some 5) :: [.pause, .tick])).trace.map fun a => a.fn) = [0] := by
  decide +kernel
example : (run waiter (init 0) ([.tick, .pause] ++ .resume (some 5) :: [.kill, .tick])).st = .killed ∧
    ((run waiter (init 0) ([.tick, .pause] ++ .resume (some 5) :: [.kill, .tick])).trace.map fun a => a.fn) = [0] := by
  decide +kernel
end

end PMF
