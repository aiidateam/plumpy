import PlumpyModel.Launcher.Proof
/-!
# C17 — launcher tasks do what they say or are rejected

Model: `Launcher.call` (`ProcessLauncher.__call__`), `Launcher.launch` / `continue_` / `create`
(`_launch` / `_continue` / `_create`), over an abstract persister (`Store`, a map `(pid, tag) → Checkpoint`; the
configuration says whether one is configured at all), abstract object loaders (`Loaders`) and an abstract process
runtime (`Runtime`: `construct`, `complete`).  All theorems hold for every configuration, every loader tables, every
runtime, every state (persister content and id counter) and every task body; `runAll`/`finalState` thread the state
through a history of tasks, and `C17_history_step` says that every step of every history is such a `call`, so each
clause holds at every point of every history.

A step (`Step`) consists of the reply, the state left behind, the effects before the reply (`now`) and the effects of
what was scheduled with `ensure_future` (`later`), both in order of occurrence.
-/
namespace Launcher
variable (cfg : Config) (L : Loaders) (R : Runtime) (s : State)

/-! ## the tables generated from the source are the ones the clauses below talk about -/

/-- The dispatch chain of `__call__` read off the source: the task type is `task[TASK_KEY]`, it is compared with
`LAUNCH_TASK`, `CONTINUE_TASK`, `CREATE_TASK` in this order, each awaiting the method of that name, and what follows
the chain is `raise TaskRejected`.  (A change of the chain changes `Gen/Launcher.lean` and this stops compiling.) -/
theorem C17_tables :
    Gen.launcherTaskSubject = Gen.comms_task_key ∧
    Gen.launcherDispatch = [(Gen.comms_launch_task, "_launch"), (Gen.comms_continue_task, "_continue"),
      (Gen.comms_create_task, "_create")] ∧
    Gen.launcherFallthrough = "raise communications.TaskRejected" := ⟨rfl, rfl, rfl⟩

def argKeys (body : Dict) : List String :=
  match lookup Gen.comms_task_args body with
  | some (.dict d) => d.map (·.1)
  | _ => []

/-- The bodies written by `create_launch_body` / `create_continue_body` / `create_create_body` (task type and argument
keys as generated from the source) are the model's `launchBody` / `continueBody` / `createBody`, and `__call__` binds
them to the right method with the right arguments: the keys fit the keyword signatures of `_launch`, `_continue`,
`_create`. -/
theorem C17_bodies_bind (ident : Ident) (init : CtorArgs) (persist nowait : Bool) (pid : Pid) (tag : Tag) :
    (lookup Gen.comms_task_key (launchBody ident init persist nowait) = some (.str Gen.body_launch_task) ∧
      argKeys (launchBody ident init persist nowait) = Gen.body_launch_argKeys ∧
      call cfg L R s (launchBody ident init persist nowait)
        = launch cfg L R s { processClass := .str ident, persist := persist, nowait := nowait, init := init }) ∧
    (lookup Gen.comms_task_key (continueBody pid tag nowait) = some (.str Gen.body_continue_task) ∧
      argKeys (continueBody pid tag nowait) = Gen.body_continue_argKeys ∧
      call cfg L R s (continueBody pid tag nowait)
        = continue_ cfg L R s { pid := .pid pid, nowait := nowait, tag := match tag with | none => .none | some t => .str t }) ∧
    (lookup Gen.comms_task_key (createBody ident init persist) = some (.str Gen.body_create_task) ∧
      argKeys (createBody ident init persist) = Gen.body_create_argKeys ∧
      call cfg L R s (createBody ident init persist)
        = create cfg L R s { processClass := .str ident, persist := persist, init := init }) :=
  ⟨⟨rfl, rfl, rfl⟩, ⟨rfl, rfl, rfl⟩, ⟨rfl, rfl, rfl⟩⟩

/-- every step of every history is `call` in the state left by the tasks before it -/
theorem C17_history_step (pre post : List Dict) (b : Dict) :
    (runAll cfg L R s (pre ++ b :: post))[pre.length]? = some (call cfg L R (finalState cfg L R s pre) b) := by
  induction pre generalizing s with
  | nil => rfl
  | cons x r ih => exact ih _

/-- **unknown task type**: a body whose task type is none of launch / continue / create — whatever else it
contains — is rejected; the state is untouched, nothing happens before or after the reply. -/
theorem C17_unknown_task_rejected (body : Dict) (t : Val) (ht : lookup Gen.comms_task_key body = some t)
    (h1 : t ≠ .str Gen.comms_launch_task) (h2 : t ≠ .str Gen.comms_continue_task) (h3 : t ≠ .str Gen.comms_create_task) :
    call cfg L R s body = Step.reject s := by
  have hs : Gen.launcherTaskSubject = Gen.comms_task_key := rfl
  simp only [call, hs, ht, dispatch_unknown t h1 h2 h3]

example : call ⟨some .pickle, none, none⟩ ⟨fun _ _ => some "C", fun _ c => c⟩ ⟨fun _ _ => .ok (), fun _ => .outputs []⟩ ⟨[], 0⟩
    [(Gen.comms_task_key, .str "kill"), (Gen.comms_task_args, .dict [(Gen.comms_process_class_key, .str "m:C"),
      (Gen.comms_persist_key, .bool true), (Gen.comms_nowait_key, .bool false)])] = Step.reject ⟨[], 0⟩ := by
  apply C17_unknown_task_rejected (t := .str "kill") <;> first | rfl | (intro h; injection h with h; exact absurd h (by decide))

/-- **persisting without a persister** (launch): rejected, before the class is even looked up. -/
theorem C17_persist_without_persister_rejected (a : LaunchArgs) (hp : a.persist = true) (hn : cfg.persister = none) :
    launch cfg L R s a = Step.reject s :=
  (launch_eq cfg L R s a).trans (withNew_reject cfg L R s hp hn ..)

/-- **persisting without a persister** (create). -/
theorem C17_create_persist_without_persister_rejected (a : CreateArgs) (hp : a.persist = true) (hn : cfg.persister = none) :
    create cfg L R s a = Step.reject s :=
  (create_eq cfg L R s a).trans (withNew_reject cfg L R s hp hn ..)

/-- **continuing without a persister**: rejected, whatever pid and tag. -/
theorem C17_continue_without_persister_rejected (a : ContinueArgs) (hn : cfg.persister = none) :
    continue_ cfg L R s a = Step.reject s := by
  simp [continue_, hn]

/-- the same three at the level of `__call__`, for the bodies plumpy itself writes -/
theorem C17_bodies_without_persister_rejected (hn : cfg.persister = none) (ident : Ident) (init : CtorArgs) (nowait : Bool)
    (pid : Pid) (tag : Tag) :
    call cfg L R s (launchBody ident init true nowait) = Step.reject s ∧
    call cfg L R s (createBody ident init true) = Step.reject s ∧
    call cfg L R s (continueBody pid tag nowait) = Step.reject s := by
  obtain ⟨⟨_, _, h1⟩, ⟨_, _, h2⟩, ⟨_, _, h3⟩⟩ := C17_bodies_bind cfg L R s ident init true nowait pid tag
  rw [h1, h2, h3]
  exact ⟨C17_persist_without_persister_rejected cfg L R s _ rfl hn,
    C17_create_persist_without_persister_rejected cfg L R s _ rfl hn,
    C17_continue_without_persister_rejected cfg L R s _ hn⟩

example : (call ⟨none, some .custom, none⟩ ⟨fun _ _ => some "C", fun _ c => c⟩ ⟨fun _ _ => .ok (), fun _ => .outputs []⟩ ⟨[], 3⟩
    (continueBody 1 (some "t") true)).reply = .rejected := rfl

/-- **a task that is not honoured does nothing else instead**: whenever the reply is `TaskRejected` or an exception
that is not the outcome of a process (no task type, arguments that do not fit, unknown class identifier, failing
constructor, no such checkpoint), the persister and the id counter are as before, nothing was constructed, recreated,
saved or run, and nothing is scheduled. -/
theorem C17_refused_task_is_inert (body : Dict) (h : (call cfg L R s body).reply.refused = true) :
    (call cfg L R s body).Inert s :=
  (call_does cfg L R s body).inert_of_refused h

/-- in particular: a rejected task is exactly the rejection, nothing more -/
theorem C17_rejected_changes_nothing (body : Dict) (h : (call cfg L R s body).reply = .rejected) :
    (call cfg L R s body).st = s ∧ ranProcs ((call cfg L R s body).now ++ (call cfg L R s body).later) = [] ∧
      savedOf (call cfg L R s body).now = [] := by
  have hi := C17_refused_task_is_inert cfg L R s body (by rw [h]; rfl)
  refine ⟨hi.state, ?_, hi.saved⟩
  rw [hi.later, List.append_nil, hi.ran]

/-- **create does not run**: whatever the arguments, a create task runs nothing and schedules nothing; when it
succeeds (the reply is a pid) the reply is the id of the process it constructed from the class the launcher's loader
resolves, that process is in its initial state (`pos = 0`, CREATED), and the persister afterwards is the persister
before plus — iff `persist` was asked — the initial checkpoint of that process under `(pid, None)`. -/
theorem C17_create_does_not_run (a : CreateArgs) :
    ranProcs ((create cfg L R s a).now ++ (create cfg L R s a).later) = [] ∧ (create cfg L R s a).later = [] ∧
    ∀ pid, (create cfg L R s a).reply = .pid pid →
      ∃ ident cls, a.processClass = .str ident ∧ L.load cfg.launchLoader ident = some cls ∧
        pid = s.next ∧ (fresh s cls a.init).pid = pid ∧ (fresh s cls a.init).pos = 0 ∧
        builtOf (create cfg L R s a).now = [fresh s cls a.init] ∧
        (create cfg L R s a).st.next = s.next + 1 ∧
        (create cfg L R s a).st.pers =
          if a.persist then s.pers.put (pid, none) (bundle L cfg.saveLoader (fresh s cls a.init)) else s.pers := by
  rw [create_eq]
  rcases withNew_cases cfg L R s a.processClass a.persist a.init _ with h | ⟨ident, cls, hh, hc, hl, hcons⟩
  · refine ⟨by rw [h.inert.later, List.append_nil, h.inert.ran], h.inert.later, fun pid hp => ?_⟩
    have := h.refused
    rw [hp] at this
    cases this
  · rw [hc, withNew_ok cfg L R s hh hl hcons]
    have he := made_effects cfg L s a.persist ident cls a.init
    refine ⟨(congrArg ranProcs (List.append_nil _)).trans he.1, rfl, fun pid hp => ?_⟩
    cases hp
    exact ⟨ident, cls, rfl, hl, rfl, rfl, rfl, he.2.1, rfl, rfl⟩

example : (create ⟨some .pickle, none, none⟩ ⟨fun _ _ => some "C", fun _ c => c⟩ ⟨fun _ _ => .ok (), fun _ => .outputs []⟩ ⟨[], 3⟩
    ⟨.str "m:C", true, (.none, .none)⟩).reply = .pid 3 := rfl

/-- **launch runs a fresh instance, persisting it first when asked**: a launch task that gets as far as constructing
the process (`persist` is honourable, the launcher's loader knows the identifier, the constructor accepts the
arguments) does, in this order and nothing else: resolve the class, construct the process, — if asked — save its
INITIAL state (`pos = 0`: no step has run) under `(pid, None)`, and run that very process from the start.  The
persister afterwards is the persister before plus that one checkpoint (or unchanged). -/
theorem C17_launch_persists_first (a : LaunchArgs) (ident : Ident) (cls : ClassId)
    (hh : ¬ (a.persist = true ∧ cfg.persister = none)) (hc : a.processClass = .str ident)
    (hl : L.load cfg.launchLoader ident = some cls) (hcons : R.construct cls a.init = .ok ()) :
    let p := fresh s cls a.init
    let c := bundle L cfg.saveLoader p
    p.pos = 0 ∧ c.pos = 0 ∧ c.pid = s.next ∧
    (launch cfg L R s a).st.next = s.next + 1 ∧
    (a.persist = true →
      (launch cfg L R s a).now ++ (launch cfg L R s a).later =
        [.resolved cfg.launchLoader ident (some cls), .constructed p, .saved (s.next, none) c, .ran p] ∧
      (launch cfg L R s a).st.pers = s.pers.put (s.next, none) c) ∧
    (a.persist = false →
      (launch cfg L R s a).now ++ (launch cfg L R s a).later =
        [.resolved cfg.launchLoader ident (some cls), .constructed p, .ran p] ∧
      (launch cfg L R s a).st.pers = s.pers) := by
  rw [launch_eq, hc, withNew_ok cfg L R s hh hl hcons, finish_events, finish_st]
  refine ⟨rfl, rfl, rfl, rfl, fun hp => ?_, fun hp => ?_⟩ <;> rw [hp] <;> exact ⟨rfl, rfl⟩

example : ((launch ⟨some (.mem none), none, none⟩ ⟨fun _ _ => some "C", fun _ c => c⟩ ⟨fun _ _ => .ok (), fun _ => .outputs [("v", 1)]⟩
    ⟨[], 0⟩ ⟨.str "m:C", true, false, (.none, .none)⟩).st.pers.get (0, none)).map (·.pos) = some 0 := rfl

/-- **continue resumes exactly the persisted checkpoint of the requested tag**: with a persister configured, a continue
task for `(pid, tag)`
* fails with the persister's "no such checkpoint" error, doing nothing, when the store holds nothing under exactly
  that key;
* otherwise loads that checkpoint `c = load (pid, tag)`, resolves the class name recorded in it, recreates the process
  from it (`recreate c cls`: same id, same constructor arguments, same position — not a fresh instance) and runs that
  process and no other; the persister is left as it is. -/
theorem C17_continue_uses_requested_tag (a : ContinueArgs) (hp : cfg.persister ≠ none) (pid : Pid) (tag : Tag)
    (hkey : keyOf a.pid a.tag = some (pid, tag)) :
    (continue_ cfg L R s a).st = s ∧
    match s.pers.get (pid, tag) with
    | none => continue_ cfg L R s a = Step.fail s .noCheckpoint
    | some c =>
      match L.load (loadLoader cfg c) c.ident with
      | none => (continue_ cfg L R s a).reply = .error .unknownIdentifier ∧ (continue_ cfg L R s a).Inert s
      | some cls =>
        (continue_ cfg L R s a).now ++ (continue_ cfg L R s a).later =
          [.loaded (pid, tag) c, .resolved (loadLoader cfg c) c.ident (some cls), .recreated (recreate c cls),
           .ran (recreate c cls)] ∧
        (recreate c cls).pos = c.pos ∧ (recreate c cls).init = c.init ∧ (recreate c cls).pid = c.pid := by
  rcases continue_cases cfg L R s a with ⟨hn, _⟩ | ⟨_, hnone, e⟩ | ⟨k, c, _, hk, hg, hl, e⟩ | ⟨k, c, cls, _, hk, hg, hl⟩
  · exact absurd hn hp
  · rw [e, hnone _ hkey]; exact ⟨rfl, rfl⟩
  · rw [hkey] at hk; cases hk
    rw [e, hg]; simp only [hl]
    exact ⟨rfl, rfl, ⟨rfl, rfl, rfl, rfl, rfl⟩⟩
  · rw [continue_ok cfg L R s hp hk hg hl, finish_st, finish_events]
    rw [hkey] at hk; cases hk
    rw [hg]; simp only [hl]
    exact ⟨trivial, rfl, rfl, rfl, rfl⟩

/-- … and nothing else: the step of a continue task depends on the store only through the entry under the requested
key (two stores that agree there give the same reply and the same effects). -/
theorem C17_continue_depends_only_on_requested_checkpoint (s' : State) (a : ContinueArgs) (pid : Pid) (tag : Tag)
    (hkey : keyOf a.pid a.tag = some (pid, tag)) (hsame : s.pers.get (pid, tag) = s'.pers.get (pid, tag)) :
    (continue_ cfg L R s a).reply = (continue_ cfg L R s' a).reply ∧
    (continue_ cfg L R s a).now = (continue_ cfg L R s' a).now ∧
    (continue_ cfg L R s a).later = (continue_ cfg L R s' a).later := by
  cases hp : cfg.persister with
  | none => simp [continue_, hp, Step.reject]
  | some k =>
    simp only [continue_, hp, hkey, Option.isNone_some, Bool.false_eq_true, if_false, Option.bind_some, ← hsame]
    cases s.pers.get (pid, tag) with
    | none => simp [Step.fail]
    | some c =>
      simp only [Option.map_some]
      cases L.load (loadLoader cfg c) c.ident with
      | none => simp [Step.fail]
      | some cls => cases a.nowait <;> simp [finish]

/-- with the invariant of histories (a checkpoint is filed under the id of its process) the process resumed has the
requested id -/
theorem C17_continue_resumes_requested_pid (hinv : Inv s) (pid : Pid) (tag : Tag) (c : Checkpoint)
    (hg : s.pers.get (pid, tag) = some c) (cls : ClassId) : (recreate c cls).pid = pid :=
  (hinv (pid, tag) c (Store.mem_of_get hg)).1

example : (continue_ ⟨some .pickle, none, none⟩ ⟨fun _ _ => some "C", fun _ c => c⟩ ⟨fun _ _ => .ok (), fun p => .outputs [("pos", p.pos)]⟩
    ⟨[((7, some "b"), ⟨"m:C", none, 7, "C", (.none, .none), 2⟩), ((7, some "a"), ⟨"m:C", none, 7, "C", (.none, .none), 1⟩)], 8⟩
    ⟨.pid 7, false, .str "b"⟩).reply = .outputs [("pos", 2)] := rfl

/-- **with nowait the id is returned immediately**: a launch or continue task with `nowait` that gets as far as having
a process replies that process's id, has run nothing when it replies, and leaves exactly the run of that process for
afterwards. -/
theorem C17_nowait_returns_pid :
    (∀ (a : LaunchArgs) ident cls, a.nowait = true → ¬ (a.persist = true ∧ cfg.persister = none) →
      a.processClass = .str ident → L.load cfg.launchLoader ident = some cls → R.construct cls a.init = .ok () →
      (launch cfg L R s a).reply = .pid s.next ∧ ranProcs (launch cfg L R s a).now = [] ∧
        (launch cfg L R s a).later = [.ran (fresh s cls a.init)]) ∧
    (∀ (a : ContinueArgs) k c cls, a.nowait = true → cfg.persister ≠ none → keyOf a.pid a.tag = some k →
      s.pers.get k = some c → L.load (loadLoader cfg c) c.ident = some cls →
      (continue_ cfg L R s a).reply = .pid c.pid ∧ ranProcs (continue_ cfg L R s a).now = [] ∧
        (continue_ cfg L R s a).later = [.ran (recreate c cls)]) := by
  constructor
  · intro a ident cls hw hh hc hl hcons
    rw [launch_eq, hc, withNew_ok cfg L R s hh hl hcons, hw]
    exact ⟨rfl, (made_effects cfg L s ..).1, rfl⟩
  · intro a k c cls hw hp hk hg hl
    rw [continue_ok cfg L R s hp hk hg hl, hw]
    exact ⟨rfl, rfl, rfl⟩

/-- **otherwise the reply is the process's outputs or its error**: a launch or continue task without `nowait` that gets
as far as having a process has run it to completion before replying (the run is the last effect, nothing is left for
afterwards) and replies what the process ended with — its outputs, the exception it ended with, or `KilledError`
when it was killed meanwhile (never the outputs emitted before the kill) — and never a pid or a rejection. -/
theorem C17_reply_is_outputs_or_error :
    (∀ (a : LaunchArgs) ident cls, a.nowait = false → ¬ (a.persist = true ∧ cfg.persister = none) →
      a.processClass = .str ident → L.load cfg.launchLoader ident = some cls → R.construct cls a.init = .ok () →
      (launch cfg L R s a).reply = replyOf (R.complete (fresh s cls a.init)) ∧ (launch cfg L R s a).later = [] ∧
        ranProcs (launch cfg L R s a).now = [fresh s cls a.init]) ∧
    (∀ (a : ContinueArgs) k c cls, a.nowait = false → cfg.persister ≠ none → keyOf a.pid a.tag = some k →
      s.pers.get k = some c → L.load (loadLoader cfg c) c.ident = some cls →
      (continue_ cfg L R s a).reply = replyOf (R.complete (recreate c cls)) ∧ (continue_ cfg L R s a).later = [] ∧
        ranProcs (continue_ cfg L R s a).now = [recreate c cls]) ∧
    (∀ o, (∃ out, replyOf o = .outputs out ∧ o = .outputs out) ∨ (∃ e, replyOf o = .error (.proc e) ∧ o = .raised e) ∨
      (replyOf o = .error .killed ∧ o = .killed)) := by
  refine ⟨?_, ?_, ?_⟩
  · intro a ident cls hw hh hc hl hcons
    rw [launch_eq, hc, withNew_ok cfg L R s hh hl hcons, hw]
    exact ⟨rfl, rfl, by rw [show (finish R _ _ _ false).now = _ ++ [.ran _] from rfl, ranProcs_append,
      (made_effects cfg L s ..).1]; rfl⟩
  · intro a k c cls hw hp hk hg hl
    rw [continue_ok cfg L R s hp hk hg hl, hw]
    exact ⟨rfl, rfl, rfl⟩
  · intro o
    cases o with
    | outputs out => left; exact ⟨out, rfl, rfl⟩
    | raised e => right; left; exact ⟨e, rfl, rfl⟩
    | killed => right; right; exact ⟨rfl, rfl⟩

example : (launch ⟨none, none, none⟩ ⟨fun _ _ => some "C", fun _ c => c⟩ ⟨fun _ _ => .ok (), fun _ => .raised "ValueError"⟩ ⟨[], 0⟩
    ⟨.str "m:C", false, false, (.none, .none)⟩).reply = .error (.proc "ValueError") := rfl

/-- what `C17_configured_loader_used` says of one step when no loader is configured: every class resolution yields what
the loader that made it says, and that loader is the launcher's or the one `loadLoader` picks for a checkpoint this task
loaded; every process constructed or recreated has a class so resolved -/
def Step.Resolves (cfg : Config) (L : Loaders) (st : Step) : Prop :=
  (∀ r ∈ resolutionsOf (st.now ++ st.later), r.2.2 = L.load r.1 r.2.1 ∧
    (r.1 = cfg.launchLoader ∨ ∃ kc ∈ loadedOf st.now, r.1 = loadLoader cfg kc.2 ∧ r.2.1 = kc.2.ident)) ∧
  (∀ p ∈ builtOf st.now, ∃ r ∈ resolutionsOf st.now, r.2.2 = some p.cls)

theorem Step.Resolves.finish {st : Step} (h : st.Resolves cfg L) (hl : st.later = []) (p : Proc) (w : Bool) :
    (finish R st.st st.now p w).Resolves cfg L := by
  obtain ⟨_, el, eb, er⟩ := finish_now R st.st st.now p w
  unfold Step.Resolves at h ⊢
  rw [hl, List.append_nil] at h
  rw [finish_events, resolutionsOf_append, show resolutionsOf [.ran p] = [] from rfl, List.append_nil, el, eb, er]
  exact h

theorem Acquired.resolves {st : Step} {p : Proc} (h : Acquired cfg L R s st p) : st.Resolves cfg L := by
  have one : ∀ {α} (a : α), a ∈ [a] := fun _ => List.mem_singleton.mpr rfl
  cases h with
  | @made persist ident cls init _ hl =>
    obtain ⟨_, hb, _, hr⟩ := made_effects cfg L s persist ident cls init
    unfold Step.Resolves
    rw [show (Launcher.made cfg L s persist ident cls init).later = [] from rfl, List.append_nil, hb, hr]
    exact ⟨List.forall_mem_singleton.mpr ⟨hl.symm, .inl rfl⟩, List.forall_mem_singleton.mpr ⟨_, one _, rfl⟩⟩
  | reloaded _ _ hl =>
    exact ⟨List.forall_mem_singleton.mpr ⟨hl.symm, .inr ⟨_, one _, rfl, rfl⟩⟩, List.forall_mem_singleton.mpr ⟨_, one _, rfl⟩⟩

theorem Does.resolves {st : Step} (h : Does cfg L R s st) : st.Resolves cfg L := by
  cases h with
  | refuse h => exact ⟨by rw [h.inert.later, List.append_nil]; exact h.resolved, by rw [h.inert.built]; exact List.forall_mem_nil _⟩
  | hold h => exact h.resolves
  | run w h => exact (h.resolves).finish cfg L R (h.basic).1 _ w

/-- **the configured object loader is the one used**: when the launcher was given a loader `l`, every class
resolution of every task — the class to construct (launch, create) and the class to recreate a checkpoint as
(continue) — is made by `l` and yields what `l` says; every process constructed or recreated has the class `l`
resolved — also when the launcher was given a load context of its own, with or without a loader in it.  Without a
configured loader, launch and create use the global default loader and continue follows `loadLoader`. -/
theorem C17_configured_loader_used (body : Dict) :
    (∀ l, cfg.loader = some l → ∀ r ∈ resolutionsOf ((call cfg L R s body).now ++ (call cfg L R s body).later),
      r.1 = l ∧ r.2.2 = L.load l r.2.1) ∧
    (∀ r ∈ resolutionsOf ((call cfg L R s body).now ++ (call cfg L R s body).later),
      r.2.2 = L.load r.1 r.2.1 ∧
      (r.1 = cfg.launchLoader ∨ ∃ kc ∈ loadedOf (call cfg L R s body).now, r.1 = loadLoader cfg kc.2 ∧ r.2.1 = kc.2.ident)) ∧
    (∀ p ∈ builtOf (call cfg L R s body).now,
      ∃ r ∈ resolutionsOf (call cfg L R s body).now, r.2.2 = some p.cls) := by
  have hk := (call_does cfg L R s body).resolves
  refine ⟨fun l hl r hr => ?_, hk.1, hk.2⟩
  obtain ⟨h1, h2⟩ := hk.1 r hr
  have hcfg : cfg.launchLoader = l := by simp [Config.launchLoader, hl]
  have hload : ∀ c, loadLoader cfg c = l := by intro c; simp [loadLoader, Config.contextLoader, hl]
  have : r.1 = l := by
    rcases h2 with h | ⟨kc, _, h, _⟩
    · rw [h, hcfg]
    · rw [h, hload]
  exact ⟨this, by rw [h1, this]⟩

example : (launch ⟨none, some .custom, none⟩
    ⟨fun k i => match k with | .custom => (if i = "jimmy" then some "Proc" else none) | _ => none, fun _ c => c⟩
    ⟨fun _ _ => .ok (), fun p => .outputs [(p.cls, 1)]⟩ ⟨[], 0⟩
    ⟨.str "jimmy", false, false, (.none, .none)⟩).reply = .outputs [("Proc", 1)] := rfl

/-- the caller's load context carries the default loader, the launcher is given a custom one: a continue task resolves
the class with the custom one -/
example : (continue_ ⟨some .pickle, some .custom, some .default⟩
    ⟨fun k i => match k with | .custom => (if i = "m:C" then some "Swapped" else none) | _ => some "C", fun _ c => c⟩
    ⟨fun _ _ => .ok (), fun p => .outputs [(p.cls, 1)]⟩
    ⟨[((0, none), ⟨"m:C", none, 0, "C", (.none, .none), 0⟩)], 1⟩
    ⟨.pid 0, false, .none⟩).reply = .outputs [("Swapped", 1)] := rfl

/-- a process that is killed while the launcher awaits it: the reply is its `KilledError`, not its partial outputs -/
example : (launch ⟨none, none, none⟩ ⟨fun _ _ => some "C", fun _ c => c⟩ ⟨fun _ _ => .ok (), fun _ => .killed⟩ ⟨[], 0⟩
    ⟨.str "m:C", false, false, (.none, .none)⟩).reply = .error .killed := rfl

/-- in every history, the persister changes only through the saves the tasks announce, each of which files the initial
state of the process that very task constructed under `(its pid, None)`; ids are never reused; every process that
runs was constructed or recreated by the task that runs it; whatever is loaded is what the store held. -/
theorem C17_history_frame (hist : List Dict) (st : Step) (h : st ∈ runAll cfg L R s hist) :
    ∃ pre b post, hist = pre ++ b :: post ∧ st = call cfg L R (finalState cfg L R s pre) b ∧
      Frame cfg (finalState cfg L R s pre) st := by
  obtain ⟨pre, b, post, h1, h2⟩ := runAll_mem cfg L R s h
  exact ⟨pre, b, post, h1, h2, h2 ▸ call_frame cfg L R _ b⟩

/-- **without a persister**, whatever the history: the persister content never changes, nothing is ever saved or
loaded, and every persist-launch, persist-create and continue task plumpy can write is rejected. -/
theorem C17_history_without_persister (hn : cfg.persister = none) (hist : List Dict) :
    (finalState cfg L R s hist).pers = s.pers ∧
    ∀ st ∈ runAll cfg L R s hist, savedOf st.now = [] ∧ loadedOf st.now = [] := by
  refine ⟨finalState_induct cfg L R s (P := fun t => t.pers = s.pers) (fun t b ht => ?_) hist rfl, fun st h => ?_⟩
  · rw [(call_frame cfg L R t b).pers, ((call_frame cfg L R t b).nopers hn).1]; exact ht
  · obtain ⟨pre, b, _, _, rfl⟩ := runAll_mem cfg L R s h
    exact (call_frame cfg L R _ b).nopers hn

/-- every history keeps: a checkpoint is filed under the id of its process, and that id has been handed out -/
theorem C17_history_invariant (hist : List Dict) (h : Inv s) : Inv (finalState cfg L R s hist) :=
  finalState_induct cfg L R s (call_inv cfg L R) hist h

/-- **create, then (after any history of further tasks) continue = what `execute_process` does**: the continue task
for the id replied by a persisting create task resumes the INITIAL state of exactly the process that create task
constructed — whatever tasks were handled in between — so it runs what a launch task would have run. -/
theorem C17_create_then_continue (hp : cfg.persister ≠ none) (ident : Ident) (cls : ClassId) (init : CtorArgs)
    (hl : L.load cfg.launchLoader ident = some cls) (hcons : R.construct cls init = .ok ()) (mid : List Dict) (nowait : Bool) :
    let s1 := (call cfg L R s (createBody ident init true)).st
    let s2 := finalState cfg L R s1 mid
    let c := bundle L cfg.saveLoader (fresh s cls init)
    (call cfg L R s (createBody ident init true)).reply = .pid s.next ∧
    s2.pers.get (s.next, none) = some c ∧ c.pos = 0 ∧
    ∀ cls', L.load (loadLoader cfg c) c.ident = some cls' →
      (call cfg L R s2 (continueBody s.next none nowait)).now ++ (call cfg L R s2 (continueBody s.next none nowait)).later =
        [.loaded (s.next, none) c, .resolved (loadLoader cfg c) c.ident (some cls'), .recreated (recreate c cls'),
         .ran (recreate c cls')] ∧
      (recreate c cls').pid = s.next ∧ (recreate c cls').pos = 0 ∧ (recreate c cls').init = init := by
  intro s1 s2 c
  have hcreate : call cfg L R s (createBody ident init true) = made cfg L s true ident cls init :=
    (C17_bodies_bind cfg L R s ident init true nowait 0 none).2.2.2.2.trans
      (withNew_ok cfg L R s (persist := true) (fun h => hp h.2) hl hcons fun p s2 ev => ⟨.pid p.pid, s2, ev, []⟩)
  have hs1 : s1 = { pers := s.pers.put (s.next, none) c, next := s.next + 1 } := congrArg Step.st hcreate
  have hget : s2.pers.get (s.next, none) = some c := by
    show (finalState cfg L R s1 mid).pers.get (s.next, none) = some c
    rw [finalState_get_old cfg L R s1 mid (s.next, none) (by rw [hs1]; exact Nat.lt_succ_self _), hs1]
    exact Store.get_put_same _ _ _
  refine ⟨congrArg Step.reply hcreate, hget, rfl, fun cls' hl' => ?_⟩
  rw [(C17_bodies_bind cfg L R s2 ident init true nowait s.next none).2.1.2.2,
    continue_ok cfg L R s2 (a := ⟨.pid s.next, nowait, .none⟩) hp rfl hget hl', finish_events]
  exact ⟨rfl, rfl, rfl, rfl⟩

example : Inv ⟨[], 0⟩ := fun k c h => by cases h

end Launcher
