import PlumpyModel.Persister.Proof
/-!
# C14 — persisters are a snapshot store keyed by (pid, tag), equivalent to each other

Models (`PlumpyModel/Persister/Model.lean`): `Mem.*` (`InMemoryPersister`, nested dictionaries), `Pkl.*`
(`PicklePersister`, a directory as a map from file name to `(checkpoint, bundle)`, `pickleFilename` from the
regenerated templates `Gen.pickleNameTagged/Untagged`, listing by suffix filter, delete ignoring absence),
`Flat.*` (one flat dictionary: the executable presentation of the specification printed by the driver).
Specification: `Spec = Key → Option Snap` with `save/load/del/delp` and the listing predicates `Lists/ListsP`.

A history is a `List Op` (save / load / list / listp / del / delp / progress of a live process);
`runSt`, `runRes`, `runCur` give the persister, the observations and the live processes after it.
The side condition of the property is `SideCondition ops` (`∃ K, wfHist K ops`): every id and tag is of one kind and
separator-free. The in-memory persister needs no side condition.
-/
namespace Persister
open AList

/-! concrete ids used by the non-vacuity examples -/
private def pA : Pid := ⟨.str, "alpha"⟩
private def pB : Pid := ⟨.str, "beta"⟩
private def t1 : Tag := some ⟨.str, "t1"⟩
private def t2 : Tag := some ⟨.str, "pickle"⟩      -- a tag that looks like the suffix is fine
private def cur0 : Cur := fun p => if p = pA then 10 else 20
/-- a history with overwrites, several pids and tags, deletes of absent keys and progress between save and load -/
private def hist : List Op :=
  [.save pA t1, .progress pA 11, .save pA none, .save pB t2, .load pA t1, .list, .del pB t1, .del pB t1,
   .save pA t1, .listp pA, .delp pA, .load pA none, .progress pB 21, .load pB t2, .list]

-- so that observations can be compared by evaluation
deriving instance DecidableEq for Except, Res

/-- What the examples below quote from the run of `hist` and of its prefixes, stated together so that the kernel evaluates
the run once. -/
theorem histRun :
    let d := runSt pklImpl cur0 pklImpl.init (hist.take 4)
    wfHist .str hist = true ∧ SideCondition hist = true ∧
    runRes pklImpl cur0 pklImpl.init hist =
      [.done, .done, .done, .done, .loaded (.ok 10), .listed [(pA, t1), (pA, none), (pB, t2)], .done, .done, .done,
       .listed [(pA, t1), (pA, none)], .done, .loaded (.error .missing), .done, .loaded (.ok 20), .listed [(pB, t2)]] ∧
    runRes memImpl cur0 memImpl.init hist = runRes pklImpl cur0 pklImpl.init hist ∧
    Mem.getCheckpoints (runSt memImpl cur0 memImpl.init (hist.take 5)) = [(pA, t1), (pA, none), (pB, t2)] ∧
    Pkl.deleteCheckpoint d pA t1 ≠ d ∧
    (Pkl.getCheckpoints d = [(pA, t1), (pA, none), (pB, t2)] ∧
      Pkl.getCheckpoints (Pkl.deleteCheckpoint d pA none) = [(pA, t1), (pB, t2)] ∧
      Pkl.getCheckpoints (Pkl.deleteProcessCheckpoints d pA) = [(pB, t2)] ∧ wfId .str pA = true) := by
  decide +kernel

/-- **C14, side condition ⇒ one file per key**: for ids and tags of one kind with separator-free string forms the file
name determines (pid, tag). Proved from the templates regenerated from `pickle_filename`. -/
theorem C14_filename_injective {K : Kind} {k k' : Key} (h : wfKey K k = true) (h' : wfKey K k' = true)
    (e : pickleFilename k.1 k.2 = pickleFilename k'.1 k'.2) : k = k' :=
  filename_injective h h' e

example : wfKey .str (pA, t1) = true ∧ wfKey .str (pA, t2) = true ∧ (pA, t1) ≠ (pA, t2) := by decide +kernel
example : pickleFilename pA t2 = "alpha.pickle.pickle" ∧ pickleFilename pA none = "alpha.pickle" := by decide +kernel

/-- every file the persister writes is found again by the listing pattern `*.<suffix>` -/
theorem C14_listing_pattern_matches (p : Pid) (t : Tag) : matchesPattern (pickleFilename p t) = true :=
  matchesPattern_filename p t

example : matchesPattern (pickleFilename pA t1) = true ∧ matchesPattern "alpha.t1.pkl" = false := by decide +kernel

/-- **the side condition is needed (separator)**: a pid containing the separator shares its file with another key, and
on a two-operation history the two persisters then answer differently (the in-memory one says `missing`, the pickle
one returns the other key's snapshot). -/
theorem C14_separator_needed :
    ∃ (k k' : Key) (ops : List Op) (c : Cur), k ≠ k' ∧ pickleFilename k.1 k.2 = pickleFilename k'.1 k'.2 ∧
      SideCondition ops = false ∧ ¬ ObsEq (runRes memImpl c memImpl.init ops) (runRes pklImpl c pklImpl.init ops) := by
  refine ⟨(⟨.str, "a.b"⟩, none), (⟨.str, "a"⟩, some ⟨.str, "b"⟩),
    [.save ⟨.str, "a.b"⟩ none, .load ⟨.str, "a"⟩ (some ⟨.str, "b"⟩)], fun _ => 7, by decide +kernel, by decide +kernel, by decide +kernel, ?_⟩
  -- the observations are `[done, loaded missing]` and `[done, loaded (ok 7)]`
  exact fun h => nomatch h.2.1

/-- **the side condition is needed (one kind per history)**: the integer `1` and the string `'1'` are different
dictionary keys but the same file name. -/
theorem C14_one_kind_needed :
    ∃ (ops : List Op) (c : Cur), SideCondition ops = false ∧ (∀ op ∈ ops, ∃ K, wfOp K op = true) ∧
      ¬ ObsEq (runRes memImpl c memImpl.init ops) (runRes pklImpl c pklImpl.init ops) := by
  refine ⟨[.save ⟨.int, "1"⟩ none, .load ⟨.str, "1"⟩ none], fun _ => 7, by decide +kernel, ?_, ?_⟩
  · intro op hop
    simp only [List.mem_cons, List.not_mem_nil, or_false] at hop
    rcases hop with rfl | rfl
    · exact ⟨.int, by decide +kernel⟩
    · exact ⟨.str, by decide +kernel⟩
  · -- the observations are `[done, loaded missing]` and `[done, loaded (ok 7)]`
    exact fun h => nomatch h.2.1

/-! ## Refinement: every operation returns what the specification returns and commutes with the abstraction -/

/-- **C14, in-memory persister, one operation**: from related states (`RefM m s`: unique dictionary keys and
`absMem m = s`) every operation leads to related states (`step`: the abstraction commutes with the operation) and returns
what the specification prescribes (`res`: `load` the stored snapshot or `missing`, the listings exactly the stored keys,
each once). No side condition. -/
theorem C14_inmem_simulation : Refines memImpl (fun _ => True) RefM := mem_refines

/-- **C14, pickle persister, one operation**: the same for the directory model, for operations whose ids and tags are
separator-free and of kind `K`; `RefP K d s`: unique file names, every file is named after the checkpoint stored in it,
the bundle in the file named after a well-formed key is what `s` stores, and `s` stores only well-formed keys. -/
theorem C14_pickle_simulation (K : Kind) : Refines pklImpl (fun op => wfOp K op = true) (RefP K) := pkl_refines K

/-- the relations are inhabited (empty persisters represent the empty store) and the guard holds of ordinary operations -/
example : RefM memImpl.init Spec.empty ∧ RefP .str pklImpl.init Spec.empty ∧
    wfOp .str (.save pA t1) = true ∧ wfOp .str (.delp pB) = true ∧ wfOp .str (.save ⟨.str, "a.b"⟩ none) = false :=
  ⟨mem_refines.init, (pkl_refines .str).init, by decide +kernel⟩

/-- **C14, in-memory persister, every history**: started empty, after any history the observations conform to the
specification run (`Conforms`: result by result) and the final states are related. -/
theorem C14_inmem_refines (c : Cur) (ops : List Op) :
    Conforms c Spec.empty ops (runRes memImpl c memImpl.init ops) ∧
      RefM (runSt memImpl c memImpl.init ops) (specRun c Spec.empty ops) := by
  have := mem_refines.run ops (fun _ _ => trivial) c _ _ mem_refines.init
  exact ⟨this.2, this.1⟩

example : (runRes memImpl cur0 memImpl.init hist).length = 15 := rfl

/-- **C14, pickle persister, every history** satisfying the side condition for kind `K`. -/
theorem C14_pickle_refines (K : Kind) (c : Cur) (ops : List Op) (h : wfHist K ops = true) :
    Conforms c Spec.empty ops (runRes pklImpl c pklImpl.init ops) ∧
      RefP K (runSt pklImpl c pklImpl.init ops) (specRun c Spec.empty ops) := by
  have := (pkl_refines K).run ops (wfHist_mem h) c _ _ (pkl_refines K).init
  exact ⟨this.2, this.1⟩

example : wfHist .str hist = true := histRun.1

/-- the flat dictionary printed by the driver as "the specification" is a presentation of `Spec` -/
theorem C14_flat_refines (c : Cur) (ops : List Op) :
    Conforms c Spec.empty ops (runRes flatImpl c flatImpl.init ops) ∧
      RefF (runSt flatImpl c flatImpl.init ops) (specRun c Spec.empty ops) := by
  have := flat_refines.run ops (fun _ _ => trivial) c _ _ flat_refines.init
  exact ⟨this.2, this.1⟩

example : runRes flatImpl cur0 flatImpl.init [.save pA t1, .progress pA 11, .load pA t1, .list]
    = [.done, .done, .loaded (.ok 10), .listed [(pA, t1)]] := rfl

/-- **C14, observational equivalence**: over any history satisfying the side condition the in-memory and the pickle
persister return the same results, operation by operation (listings up to their unspecified order). -/
theorem C14_observational_equivalence (c : Cur) (ops : List Op) (h : SideCondition ops = true) :
    ObsEq (runRes memImpl c memImpl.init ops) (runRes pklImpl c pklImpl.init ops) := by
  simp only [SideCondition, List.any_cons, List.any_nil, Bool.or_false, Bool.or_eq_true] at h
  have key : ∀ K, wfHist K ops = true → ObsEq (runRes memImpl c memImpl.init ops) (runRes pklImpl c pklImpl.init ops) :=
    fun K hK => mem_refines.obsEq (pkl_refines K) c ops (fun _ _ => trivial) (wfHist_mem hK)
  rcases h with h | h | h <;> exact key _ h

example : SideCondition hist = true := histRun.2.1
/-- on the example history both persisters (and the flat specification) answer: the first `load` returns the value of
`alpha` at save time (10, not the 11 it progressed to), the deletes of the absent key change nothing, after `delp`
`alpha` has no checkpoint left and `beta`'s is untouched -/
example : runRes pklImpl cur0 pklImpl.init hist =
    [.done, .done, .done, .done, .loaded (.ok 10), .listed [(pA, t1), (pA, none), (pB, t2)], .done, .done, .done,
     .listed [(pA, t1), (pA, none)], .done, .loaded (.error .missing), .done, .loaded (.ok 20), .listed [(pB, t2)]] := histRun.2.2.1
example : runRes memImpl cur0 memImpl.init hist = runRes pklImpl cur0 pklImpl.init hist := histRun.2.2.2.1

/-! ## Corollaries, in terms of the persisters' own interface -/

/-- **C14, snapshot immutability / most recent save (in-memory)**: after any history `pre`, a save of `(p, t)` and any
operations `post` that do not save or delete that key — progress of the live process `p` itself, saves, loads and
deletes of other keys — loading `(p, t)` returns the value the process had when it was saved. -/
theorem C14_snapshot_immutable_inmem (c : Cur) (pre post : List Op) (p : Pid) (t : Tag)
    (hpost : ∀ op ∈ post, touches (p, t) op = false) :
    Mem.load (runSt memImpl c memImpl.init (pre ++ .save p t :: post)) p t = .ok (runCur c pre p) :=
  mem_refines.load_saved c pre post p t (fun _ _ => trivial) trivial hpost

/-- **C14, snapshot immutability / most recent save (pickle)** -/
theorem C14_snapshot_immutable_pickle (K : Kind) (c : Cur) (pre post : List Op) (p : Pid) (t : Tag)
    (hwf : wfHist K (pre ++ .save p t :: post) = true) (hpost : ∀ op ∈ post, touches (p, t) op = false) :
    Pkl.load (runSt pklImpl c pklImpl.init (pre ++ .save p t :: post)) p t = .ok (runCur c pre p) :=
  (pkl_refines K).load_saved c pre post p t (wfHist_mem hwf) (wfHist_mem hwf (.save p t) (by simp)) hpost

/-- hypotheses satisfiable: an overwrite before, then progress of the same process, a save under another tag, a delete
of another key and a delete of another process in between -/
example : let pre := [Op.save pA t1, .progress pA 11]
    let post := [Op.progress pA 12, .save pA none, .del pA t2, .delp pB, .progress pA 13, .load pA t1, .list]
    wfHist .str (pre ++ .save pA t1 :: post) = true ∧ (∀ op ∈ post, touches (pA, t1) op = false) ∧
      runCur cur0 pre pA = 11 ∧ runCur cur0 (pre ++ .save pA t1 :: post) pA = 13 := by
  decide +kernel

/-- **C14, list exactness (in-memory)**: after any history the listing has no duplicates and contains exactly the keys
that can be loaded. -/
theorem C14_list_exact_inmem (c : Cur) (ops : List Op) :
    let m := runSt memImpl c memImpl.init ops
    (Mem.getCheckpoints m).Nodup ∧ ∀ k : Key, k ∈ Mem.getCheckpoints m ↔ ∃ v, Mem.load m k.1 k.2 = .ok v := by
  intro m
  have h := mem_refines.list_exact (C14_inmem_refines c ops).2 trivial (fun _ _ => trivial)
  exact ⟨h.1, fun k => ⟨h.2.1 k, h.2.2 k trivial⟩⟩

/-- **C14, list exactness (pickle)**: after any history satisfying the side condition the listing has no duplicates,
every listed key can be loaded and every well-formed key that can be loaded is listed. -/
theorem C14_list_exact_pickle (K : Kind) (c : Cur) (ops : List Op) (hwf : wfHist K ops = true) :
    let d := runSt pklImpl c pklImpl.init ops
    (Pkl.getCheckpoints d).Nodup ∧ (∀ k : Key, k ∈ Pkl.getCheckpoints d → wfKey K k = true ∧ ∃ v, Pkl.load d k.1 k.2 = .ok v) ∧
      (∀ k : Key, wfKey K k = true → (∃ v, Pkl.load d k.1 k.2 = .ok v) → k ∈ Pkl.getCheckpoints d) := by
  intro d
  have hR := (C14_pickle_refines K c ops hwf).2
  have hw : ∀ k : Key, k ∈ Pkl.getCheckpoints d → wfKey K k = true := fun k hk => ((Pkl.mem_list hR.inv k).1 hk).1
  have h := (pkl_refines K).list_exact hR rfl hw
  exact ⟨h.1, fun k hk => ⟨hw k hk, h.2.1 k hk⟩, fun k hk => h.2.2 k hk⟩

example : Mem.getCheckpoints (runSt memImpl cur0 memImpl.init (hist.take 5)) = [(pA, t1), (pA, none), (pB, t2)] := histRun.2.2.2.2.1

/-- **C14, delete is idempotent (in-memory)**: a second delete of the same key changes nothing (in particular deleting
an absent key is not an error: the model of `delete_checkpoint` has no error outcome, as the code swallows it). -/
theorem C14_delete_idempotent_inmem (m : InMem) (p : Pid) (t : Tag) :
    Mem.deleteCheckpoint (Mem.deleteCheckpoint m p t) p t = Mem.deleteCheckpoint m p t := by
  cases hm : get? m p with
  | none => simp [Mem.deleteCheckpoint, hm]
  | some inner =>
    cases hi : get? inner t with
    | none => simp [Mem.deleteCheckpoint, hm, hi]
    | some v =>
      have h1 : Mem.deleteCheckpoint m p t = AList.set m p (del inner t) := by simp [Mem.deleteCheckpoint, hm, hi]
      rw [h1]
      simp [Mem.deleteCheckpoint, get?_set, get?_del]

/-- **C14, delete is idempotent (pickle)** -/
theorem C14_delete_idempotent_pickle (d : Dir) (p : Pid) (t : Tag) :
    Pkl.deleteCheckpoint (Pkl.deleteCheckpoint d p t) p t = Pkl.deleteCheckpoint d p t := by
  simp only [Pkl.deleteCheckpoint]
  exact AList.del_eq_self (by simp [get?_del])

example : Pkl.deleteCheckpoint (runSt pklImpl cur0 pklImpl.init (hist.take 4)) pA t1
    ≠ runSt pklImpl cur0 pklImpl.init (hist.take 4) := histRun.2.2.2.2.2.1

/-- **C14, delete touches only its key (in-memory)**: after any history, deleting `(p, t)` makes that key `missing`,
leaves what every other key loads unchanged, and removes exactly that key from the listing. -/
theorem C14_delete_local_inmem (c : Cur) (ops : List Op) (p : Pid) (t : Tag) :
    let m := runSt memImpl c memImpl.init ops
    (∀ k : Key, Mem.load (Mem.deleteCheckpoint m p t) k.1 k.2 = if k = (p, t) then .error .missing else Mem.load m k.1 k.2) ∧
    (∀ k : Key, k ∈ Mem.getCheckpoints (Mem.deleteCheckpoint m p t) ↔ (k ≠ (p, t) ∧ k ∈ Mem.getCheckpoints m)) := by
  intro m
  have h := mem_refines.delete_local (C14_inmem_refines c ops).2 c (p := p) (t := t) trivial trivial
  exact ⟨fun k => h.1 k trivial, h.2⟩

/-- **C14, delete touches only its key (pickle)**, for well-formed keys -/
theorem C14_delete_local_pickle (K : Kind) (c : Cur) (ops : List Op) (hwf : wfHist K ops = true) (p : Pid) (t : Tag)
    (hk : wfKey K (p, t) = true) :
    let d := runSt pklImpl c pklImpl.init ops
    (∀ k : Key, wfKey K k = true →
      Pkl.load (Pkl.deleteCheckpoint d p t) k.1 k.2 = if k = (p, t) then .error .missing else Pkl.load d k.1 k.2) ∧
    (∀ k : Key, k ∈ Pkl.getCheckpoints (Pkl.deleteCheckpoint d p t) ↔ (k ≠ (p, t) ∧ k ∈ Pkl.getCheckpoints d)) := by
  intro d
  have h := (pkl_refines K).delete_local (C14_pickle_refines K c ops hwf).2 c (p := p) (t := t) hk rfl
  exact ⟨fun k hk' => h.1 k hk', h.2⟩

/-- **C14, deleting a process's checkpoints removes all and only that process's tags (in-memory)** -/
theorem C14_delete_process_exact_inmem (c : Cur) (ops : List Op) (p : Pid) :
    let m := runSt memImpl c memImpl.init ops
    (∀ k : Key, Mem.load (Mem.deleteProcessCheckpoints m p) k.1 k.2 = if k.1 = p then .error .missing else Mem.load m k.1 k.2) ∧
    (∀ k : Key, k ∈ Mem.getCheckpoints (Mem.deleteProcessCheckpoints m p) ↔ (k.1 ≠ p ∧ k ∈ Mem.getCheckpoints m)) := by
  intro m
  have h := mem_refines.delete_process_exact (C14_inmem_refines c ops).2 c (p := p) trivial trivial
  exact ⟨fun k => h.1 k trivial, h.2⟩

/-- **C14, deleting a process's checkpoints removes all and only that process's tags (pickle)** -/
theorem C14_delete_process_exact_pickle (K : Kind) (c : Cur) (ops : List Op) (hwf : wfHist K ops = true) (p : Pid)
    (hp : wfId K p = true) :
    let d := runSt pklImpl c pklImpl.init ops
    (∀ k : Key, wfKey K k = true →
      Pkl.load (Pkl.deleteProcessCheckpoints d p) k.1 k.2 = if k.1 = p then .error .missing else Pkl.load d k.1 k.2) ∧
    (∀ k : Key, k ∈ Pkl.getCheckpoints (Pkl.deleteProcessCheckpoints d p) ↔ (k.1 ≠ p ∧ k ∈ Pkl.getCheckpoints d)) := by
  intro d
  have h := (pkl_refines K).delete_process_exact (C14_pickle_refines K c ops hwf).2 c (p := p) hp rfl
  exact ⟨fun k hk' => h.1 k hk', h.2⟩

/-- the delete clauses on a state with three checkpoints of two processes -/
example : let d := runSt pklImpl cur0 pklImpl.init (hist.take 4)
    Pkl.getCheckpoints d = [(pA, t1), (pA, none), (pB, t2)] ∧
    Pkl.getCheckpoints (Pkl.deleteCheckpoint d pA none) = [(pA, t1), (pB, t2)] ∧
    Pkl.getCheckpoints (Pkl.deleteProcessCheckpoints d pA) = [(pB, t2)] ∧ wfId .str pA = true := histRun.2.2.2.2.2.2

end Persister
