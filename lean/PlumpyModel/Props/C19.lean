import PlumpyModel.Savable.Proof
/-!
# C19 — any Savable round-trips its declared members through the named loader

Model: `Sav.save` / `Sav.load` (`Savable.save`, `save_members`, `Savable.load`, `recreate_from`, `load_members`,
`_get_value`, `SavableFuture.save_instance_state` / `recreate_from`), `Sav.ensureLoader` (`_ensure_object_loader`),
`Sav.Fam` (who owns which `_auto_persist` set: the `auto_persist` decorator and the `Savable.auto_persist` classmethod).

Quantification: every class family reachable by any sequence of declarations, every method table, every global loader,
every context loader, every object *of any nesting depth* (the proofs are by induction on the nesting of values).

**Copy at save time** ("later mutation of the original does not show") is value semantics in this functional model:
a value *is* its content when `save` runs, `deepcopy v = v`.  That clause is decided by the correspondence check (the
harness mutates the original after `save` and compares the saved state and the reloaded object with the model's), not
by a theorem here.
-/
namespace Sav

/-! ## What "restored" means, clause by clause -/

/-- `Restored W o o'`: `o'` restores `o` in the sense of the property.
* a plain value is equal;
* a bound method is bound to the object that now holds it (`own = true`) and is the same function (by name);
* a Savable is an object of the same class on which every declared member of that class is present and restores the
  original's member, recursively;
* a future is in the same one of the four states, with the same exception, or a result that restores the original's. -/
inductive Restored (W : World) : Val → Val → Prop
  | plain (p : Plain) : Restored W (.plain p) (.plain p)
  | method (n : Name) : Restored W (.method true n) (.method true n)
  | obj (c : Nat) (a a' : List (Name × Val))
      (present : ∀ ms, W.fam.eff c = some ms → ∀ m ∈ ms, (lookup m a').isSome = true)
      (members : ∀ ms, W.fam.eff c = some ms → ∀ m ∈ ms, ∀ v v', lookup m a = some v → lookup m a' = some v' →
        Restored W v v') :
      Restored W (.obj c a) (.obj c a')
  | futPending : Restored W .futPending .futPending
  | futCancelled : Restored W .futCancelled .futCancelled
  | futExc (e : String) : Restored W (.futExc e) (.futExc e)
  | futResult (v v' : Val) : Restored W v v' → Restored W (.futResult v) (.futResult v')

/-- the restriction `proj` that the round trip computes does restore every well-formed value -/
theorem C19_proj_restores (W : World) (dom : PyObj → Bool) :
    ∀ v : Val, ∀ meths, wfVal W dom meths v = true → Restored W v (proj W v) := by
  refine wfVal.ind (fun _ p => .plain p) (fun _ n _ => .method n) ?_ ?_ (fun _ v _ ih => .futResult v _ ih)
  · intro _ c a _ ih
    cases heff : W.fam.eff c with
    | none =>
      simp only [proj, heff]
      exact .obj c a [] (by simp [heff]) (by simp [heff])
    | some ms =>
      simp only [proj, heff]
      refine .obj c a _ ?_ ?_ <;> intro ms' h' m hm <;> cases heff.symm.trans h' <;> obtain ⟨v, hv, hr⟩ := ih ms heff m hm
      · simp [lookup_select, lookup_projAttrs, hm, hv]
      · intro v1 v' hv1 hv'
        rw [lookup_select, lookup_projAttrs, if_pos hm, hv, Option.map_some, Option.some.injEq] at hv'
        cases hv.symm.trans hv1
        exact hv' ▸ hr
  · rintro _ v _ (rfl | rfl | ⟨e, rfl⟩)
    · exact .futPending
    · exact .futCancelled
    · exact .futExc e

/-! ## Clause 1: every declared member is restored, at any nesting depth -/

/-- **C19 (members round-trip), general form.**  `o` is any Savable (an object of a generated class or a future) that
is well formed (`wfVal`: declared members present hereditarily, methods bound to their holder and defined on its
class, classes within `dom`).  It is saved with any context `ctx`, which makes `TL` the loader that names the classes
and `rec` the recorded loader (`saveHead`); it is loaded with any context `lctx` for which `_ensure_object_loader`
yields `L`; `TL` and `L` agree on `dom`.  Then `save` succeeds and `load` returns `proj W o`, which restores `o`. -/
theorem C19_members_roundtrip (W : World) (ctx lctx : Ctx) (rec : Option Ident) (TL L : Loader) (dom : PyObj → Bool)
    (o : Val) (hsav : isSavable o = true) (hwf : wfVal W dom [] o = true)
    (hhead : saveHead W ctx = .ok (rec, TL)) (hens : ensureLoader W lctx rec = .ok L) (hrt : RoundTrips TL L dom) :
    ∃ s o', save W ctx o = .ok s ∧ load W lctx s = .ok o' ∧ o' = proj W o ∧ Restored W o o' := by
  obtain ⟨s, h1, h2, h3⟩ := (roundtrip_core hhead hrt o [] hwf).2 hsav
  refine ⟨s, proj W o, h1, ?_, rfl, C19_proj_restores W dom o [] hwf⟩
  simp [load, h2, hens, h3]

/-- **default or global-custom loader** (no context at save, none at load): the global loader names and resolves -/
theorem C19_members_roundtrip_global (W : World) (dom : PyObj → Bool) (o : Val) (hsav : isSavable o = true)
    (hwf : wfVal W dom [] o = true) (hrt : RoundTrips W.global W.global dom) :
    ∃ s o', save W none o = .ok s ∧ load W none s = .ok o' ∧ Restored W o o' := by
  obtain ⟨s, o', h1, h2, _, h4⟩ :=
    C19_members_roundtrip W none none none W.global W.global dom o hsav hwf rfl rfl hrt
  exact ⟨s, o', h1, h2, h4⟩

/-- **per-save custom loader** `Lc`, loaded *without* a context: the global loader can name the class of `Lc`
(`lid`) and resolve that name, and instantiating the class gives `Lc`; `Lc` names and resolves the classes of `dom`
(nothing is asked of the global loader about them).  The round trip goes through `Lc`. -/
theorem C19_members_roundtrip_persave (W : World) (Lc : Loader) (lid : Ident) (dom : PyObj → Bool) (o : Val)
    (hsav : isSavable o = true) (hwf : wfVal W dom [] o = true)
    (hid : W.global.identify (.loaderCls Lc.cls) = .ok lid) (hload : W.global.load lid = some (.loaderCls Lc.cls))
    (hinst : W.instantiate Lc.cls = Lc) (hrt : RoundTrips Lc Lc dom) :
    ∃ s o', save W (some Lc) o = .ok s ∧ s.recorded = some lid ∧ load W none s = .ok o' ∧ Restored W o o' := by
  have hhead : saveHead W (some Lc) = .ok (some lid, Lc) := by simp [saveHead, hid]
  have hens : ensureLoader W none (some lid) = .ok Lc := by simp [ensureLoader, hload, hinst]
  obtain ⟨s, h1, h2, h3⟩ := (roundtrip_core hhead hrt o [] hwf).2 hsav
  refine ⟨s, proj W o, h1, h2, ?_, C19_proj_restores W dom o [] hwf⟩
  simp [load, h2, hens, h3]

/-- what the round trip keeps of an object: exactly the declared members, each one the restriction of the original's -/
theorem C19_members_exactly_declared (W : World) (c : Nat) (attrs : List (Name × Val)) (ms : List Name)
    (heff : W.fam.eff c = some ms) :
    ∃ attrs', proj W (.obj c attrs) = .obj c attrs' ∧
      ∀ m, lookup m attrs' = if m ∈ ms then (lookup m attrs).map (proj W) else none := by
  refine ⟨select ms (projAttrs W attrs), by simp [proj, heff], ?_⟩
  intro m
  rw [lookup_select, lookup_projAttrs]

/-! ## Clause 2: declarations on a child do not reach the parent — and exactly when -/

/-- **C19 (inheritance of `auto_persist` sets).**  In any family reachable from freshly created classes by any
sequence of declarations (`Fam.WF`, see `C19_reachable_wf`), declaring members `d.members` on an existing class
`d.cls` leaves the effective member set of every proper ancestor `p` unchanged, **provided** the declaration is made
* with the decorator `@auto_persist(...)` (it rebinds the class to a fresh copy first), or
* with the classmethod on a class that already has its own set (it was decorated before), or
* with the classmethod when no ancestor has declared anything (`_auto_persist is None`: a fresh set is created). -/
theorem C19_autopersist_inherit_independent (F : Fam) (hwf : F.WF) (d : Decl) (p : Nat)
    (hc : d.cls < F.own.length) (hp : p < d.cls)
    (hcond : d.kind = .decorator ∨ (∃ r, F.own[d.cls]? = some (some r)) ∨ F.ref d.cls = none) :
    (F.apply d).eff p = F.eff p := by
  unfold Fam.apply
  cases hk : d.kind with
  | decorator => exact Fam.eff_decorate_lt hwf _ hc hp
  | classmethod =>
    rcases hcond with h | ⟨r, h⟩ | h
    · rw [hk] at h; cases h
    · exact Fam.eff_classmethod_own_lt hwf _ h hp
    · exact Fam.eff_classmethod_none_lt hwf _ h hp

/-- the condition is exact: in the remaining case (classmethod on a class that only *inherits* a set) the set object
is shared, and every class that sees that object — the base that owns it and all classes inheriting it — gets the
new members -/
theorem C19_autopersist_shared_leaks (F : Fam) (c r p : Nat) (ms : List Name)
    (hr : F.ref c = some r) (hp : F.ref p = some r) :
    (F.classmethod c ms).eff p = (F.eff p).map (insertAll · ms) := by
  rw [Fam.eff_classmethod_of_ref ms hr hp]; simp

/-- a class without its own set sees the very set object of its base: the premise of the leak -/
theorem C19_autopersist_inherited_is_shared (F : Fam) (c : Nat) (h : (F.own[c + 1]?).join = none) :
    F.ref (c + 1) = F.ref c := lookupOwn_inherit h

/-- every family built from `n` fresh classes by any list of declarations satisfies the ownership invariant -/
theorem C19_reachable_wf (n : Nat) (ds : List Decl) : (Fam.build n ds).WF := by
  unfold Fam.build
  have h0 : ∀ F0 : Fam, F0.WF → (ds.foldl Fam.apply F0).WF := by
    induction ds with
    | nil => intro F0 h; exact h
    | cons d ds ih => intro F0 h; exact ih _ (h.apply d)
  exact h0 _ (Fam.fresh_wf n)

/-- the decorated class itself: a copy of what it inherited so far, plus the new members -/
theorem C19_autopersist_decorated_set (F : Fam) (c : Nat) (ms : List Name) (hc : c < F.own.length) :
    (F.decorate c ms).eff c = some (insertAll ((F.eff c).getD []) ms) := by
  rw [Fam.decorate_eq ms hc]
  simp [Fam.eff, Fam.ref, lookupOwn_of_own (List.getElem?_set_self hc)]

/-! ## Clause 3: futures -/

def futState : Val → Option String
  | .futPending => some "PENDING"
  | .futResult _ => some "FINISHED"
  | .futExc _ => some "FINISHED"
  | .futCancelled => some "CANCELLED"
  | _ => none

/-- **C19 (futures).**  Under the loader hypotheses of `C19_members_roundtrip`, a future that is pending, cancelled,
failed with `e`, or resolved with a well-formed value `v` (plain, or itself a Savable of any depth, or a future) is
saved and comes back pending, cancelled, failed with `e`, resolved with the restored `v`, respectively. -/
theorem C19_future_state_restored (W : World) (ctx lctx : Ctx) (rec : Option Ident) (TL L : Loader)
    (dom : PyObj → Bool) (hdom : dom .future = true)
    (hhead : saveHead W ctx = .ok (rec, TL)) (hens : ensureLoader W lctx rec = .ok L) (hrt : RoundTrips TL L dom) :
    (∃ s, save W ctx .futPending = .ok s ∧ load W lctx s = .ok .futPending) ∧
    (∃ s, save W ctx .futCancelled = .ok s ∧ load W lctx s = .ok .futCancelled) ∧
    (∀ e, ∃ s, save W ctx (.futExc e) = .ok s ∧ load W lctx s = .ok (.futExc e)) ∧
    (∀ v, wfVal W dom [] v = true →
      ∃ s v', save W ctx (.futResult v) = .ok s ∧ load W lctx s = .ok (.futResult v') ∧ Restored W v v') := by
  have rt : ∀ o, isSavable o = true → wfVal W dom [] o = true →
      ∃ s, save W ctx o = .ok s ∧ load W lctx s = .ok (proj W o) := fun o hs hw => by
    obtain ⟨s, _, h1, h2, rfl, _⟩ := C19_members_roundtrip W ctx lctx rec TL L dom o hs hw hhead hens hrt
    exact ⟨s, h1, h2⟩
  refine ⟨?_, ?_, fun e => ?_, fun v hv => ?_⟩
  · have := rt .futPending rfl (by simp [wfVal, hdom])
    rwa [proj] at this
  · have := rt .futCancelled rfl (by simp [wfVal, hdom])
    rwa [proj] at this
  · have := rt (.futExc e) rfl (by simp [wfVal, hdom])
    rwa [proj] at this
  · obtain ⟨s, h1, h2⟩ := rt (.futResult v) rfl (by simp [wfVal, hdom, hv])
    exact ⟨s, proj W v, h1, by rwa [proj] at h2, C19_proj_restores W dom v [] hv⟩

/-- the state string of a round-tripped future is the original's -/
theorem C19_future_state_same (W : World) (v : Val) : futState (proj W v) = futState v := by
  cases v with
  | obj c a => simp only [proj]; split <;> rfl
  | _ => rfl

/-- the set of persisted future attributes is what the source declares (`@auto_persist('_state', '_result')`):
a proof obligation on the generated table -/
theorem C19_future_members_table : futureMembers = ["_result", "_state"] := futureMembers_eq

/-! ## Clause 4: which loader resolves the class -/

/-- **C19 (loader precedence)**, `_ensure_object_loader`: 1) a loader in the load context wins over everything;
2) otherwise the loader recorded in the saved state, found through the global loader and instantiated;
3) otherwise the global default.  An unknown recorded identifier is a `ValueError`. -/
theorem C19_loader_precedence (W : World) :
    (∀ L rec, ensureLoader W (some L) rec = .ok L) ∧
    (∀ lid l, W.global.load lid = some (.loaderCls l) → ensureLoader W none (some lid) = .ok (W.instantiate l)) ∧
    (ensureLoader W none none = .ok W.global) ∧
    (∀ lid, W.global.load lid = none → ensureLoader W none (some lid) = .error .valueError) := by
  refine ⟨?_, ?_, ?_, ?_⟩
  · intro L rec; rfl
  · intro lid l h; simp [ensureLoader, h]
  · rfl
  · intro lid h; simp [ensureLoader, h]

/-- `save` records a loader exactly when the save context carries one: the identifier the global loader gives to the
*class* of that loader; and the class of the object is named by the context loader if there is one, else by the global
loader -/
theorem C19_save_records_loader (W : World) (ctx : Ctx) (c : Nat) (attrs : List (Name × Val))
    (st : SVal) (h : save W ctx (.obj c attrs) = .ok st) :
    ∃ cid types entries rec, st = .state (some cid) rec types entries ∧
      (match ctx with
       | none => rec = none ∧ W.global.identify (.cls c) = .ok cid
       | some Lc => (∃ lid, rec = some lid ∧ W.global.identify (.loaderCls Lc.cls) = .ok lid) ∧
                    Lc.identify (.cls c) = .ok cid) := by
  -- `save` succeeded: so did `saveHead`, giving `(rec, ldr)`, and `ldr` named the class
  simp only [save] at h
  split at h
  · cases h
  · rename_i rec ldr hhead
    split at h
    · cases h
    · rename_i cid hid
      have hst : ∃ types entries, st = .state (some cid) rec types entries := by
        split at h
        · cases h; exact ⟨_, _, rfl⟩
        · split at h
          · cases h
          · cases h; exact ⟨_, _, rfl⟩
      obtain ⟨types, entries, rfl⟩ := hst
      refine ⟨cid, types, entries, rec, rfl, ?_⟩
      cases ctx with
      | none => cases hhead; exact ⟨rfl, hid⟩
      | some Lc =>
        simp only [saveHead] at hhead
        split at hhead
        · cases hhead
        · rename_i lid hl; cases hhead; exact ⟨⟨lid, rfl, hl⟩, hid⟩

/-- the loader that `load` hands the class name to: the context's, else the recorded one, else the global one -/
theorem C19_load_uses_ensured_loader (W : World) (lctx : Ctx) (s : SVal) (L : Loader)
    (h : ensureLoader W lctx s.recorded = .ok L) : load W lctx s = loadWith W L s := by
  simp [load, h]

/-! ## Clause 5: an unknown class is a ValueError, never a wrong object -/

/-- **C19 (unknown class)**: whatever the saved state contains, if the class name is missing or the effective loader
does not resolve it, `load` raises `ValueError` -/
theorem C19_unknown_class_valueerror (W : World) (lctx : Ctx) (L : Loader) (cls rec : Option Ident)
    (types : List (Name × Tag)) (entries : List (Name × SVal))
    (hens : ensureLoader W lctx rec = .ok L)
    (hunk : cls = none ∨ ∃ cid, cls = some cid ∧ L.load cid = none) :
    load W lctx (.state cls rec types entries) = .error .valueError := by
  simp only [load, SVal.recorded, hens]
  rcases hunk with h | ⟨cid, h1, h2⟩
  · subst h; simp [loadWith]
  · subst h1; simp [loadWith, h2]

/-- the object a value is an instance of -/
def classOf : Val → Option PyObj
  | .obj c _ => some (.cls c)
  | .futPending | .futResult _ | .futExc _ | .futCancelled => some .future
  | _ => none

/-- **never a wrong object**: whenever `load` returns, the result is an instance of exactly the object that the
effective loader resolved the recorded class name to -/
theorem C19_loaded_class_is_resolved (W : World) (lctx : Ctx) (s : SVal) (v : Val) (h : load W lctx s = .ok v) :
    ∃ L cid types entries rec, ensureLoader W lctx s.recorded = .ok L ∧ s = .state (some cid) rec types entries ∧
      (L.load cid).isSome ∧ classOf v = L.load cid := by
  unfold load at h
  cases hens : ensureLoader W lctx s.recorded with
  | error e => simp [hens] at h
  | ok L =>
    simp only [hens] at h
    cases s with
    | plain p => simp [loadWith] at h
    | mname n => simp [loadWith] at h
    | exc e => simp [loadWith] at h
    | state cls rec types entries =>
      cases cls with
      | none => simp [loadWith] at h
      | some cid =>
        refine ⟨L, cid, types, entries, rec, rfl, rfl, ?_⟩
        simp only [loadWith] at h
        cases hl : L.load cid with
        | none => simp [hl] at h
        | some x =>
          simp only [hl] at h
          cases x with
          | cls c =>
            simp only at h
            cases heff : W.fam.eff c with
            | none => simp [heff] at h; subst h; simp [classOf]
            | some ms =>
              simp only [heff] at h
              split at h
              · simp at h
              · simp at h; subst h; simp [classOf]
          | future =>
            simp only at h
            refine ⟨rfl, ?_⟩
            unfold recreateFuture at h
            repeat' split at h
            all_goals first | (simp at h; done) | (simp at h; subst h; simp [classOf])
          | loaderCls l => simp at h
          | other n => simp at h

/-- an unknown *recorded loader* is a `ValueError` as well -/
theorem C19_unknown_loader_valueerror (W : World) (s : SVal) (lid : Ident) (hrec : s.recorded = some lid)
    (hunk : W.global.load lid = none) : load W none s = .error .valueError := by
  simp [load, hrec, ensureLoader, hunk]

/-! ## Non-vacuity: a concrete family, loaders and a depth-3 object satisfy every hypothesis -/
section examples

-- so that rendered results can be compared by evaluation
deriving instance DecidableEq for Except

private def N : Naming where
  modOf
    | .future => "plumpy.persistence"
    | .loaderCls 0 => "plumpy.loaders"
    | _ => "fam"
  nameOf
    | .cls 0 => "K0" | .cls 1 => "K1" | .cls _ => "K2"
    | .future => "SavableFuture"
    | .loaderCls 0 => "DefaultObjectLoader" | .loaderCls _ => "LoaderX"
    | .other _ => "x"

private def reg : List PyObj := [.cls 0, .cls 1, .cls 2, .future, .loaderCls 0, .loaderCls 1]
private def dom (x : PyObj) : Bool := reg.contains x
private def dfl : Loader := regLoader 0 N.default reg
private def cx : Loader := regLoader 1 (N.custom "cx") reg

/-- `@auto_persist('a') class K0`, `@auto_persist('b','n') class K1(K0)`, `@auto_persist('f') class K2(K1)` -/
private def fam : Fam := Fam.build 3 [⟨.decorator, 0, ["a"]⟩, ⟨.decorator, 1, ["b", "n"]⟩, ⟨.decorator, 2, ["f"]⟩]
private def W : World where
  fam := fam
  methods := fun _ => ["m0", "m1"]
  global := dfl
  instantiate := fun l => if l = 1 then cx else dfl

example : fam.eff 0 = some ["a"] ∧ fam.eff 1 = some ["a", "b", "n"] ∧ fam.eff 2 = some ["a", "b", "n", "f"] := by decide +kernel

/-- nesting depth 3, a bound method, a future resolved with a Savable, an undeclared attribute -/
private def o : Val :=
  .obj 2 [("a", .plain "[1,2]"), ("b", .method true "m1"),
    ("n", .obj 1 [("a", .plain "1"), ("b", .plain "\"s\""), ("n", .obj 0 [("a", .plain "{\"k\":0}"), ("junk", .raw (.exc "x"))])]),
    ("f", .futResult (.obj 0 [("a", .futCancelled)])), ("undeclared", .plain "0")]

theorem o_wf : wfVal W dom [] o = true := by decide +kernel

example : isSavable o = true := rfl
example : wfVal W dom [] o = true := o_wf

theorem C19_example_rt_dfl : RoundTrips dfl dfl dom :=
  regLoader_roundTrips 0 N.default reg (by decide +kernel)

theorem C19_example_rt_cx : RoundTrips cx cx dom :=
  regLoader_roundTrips 1 (N.custom "cx") reg (by decide +kernel)

/-- the hypotheses of `C19_members_roundtrip_global` hold, and this is what comes back -/
example : ∃ s o', save W none o = .ok s ∧ load W none s = .ok o' ∧ Restored W o o' :=
  C19_members_roundtrip_global W dom o rfl o_wf C19_example_rt_dfl

example : ((save W none o).bind (load W none)).map Val.render =
    .ok "K2{a=[1,2],b=meth:1:m1,f=F.result(K0{a=F.cancelled}),n=K1{a=1,b=\"s\",n=K0{a={\"k\":0}}}}" := by decide +kernel

/-- the hypotheses of `C19_members_roundtrip_persave` hold for the custom loader `cx` -/
example : ∃ s o', save W (some cx) o = .ok s ∧ s.recorded = some "fam:LoaderX" ∧ load W none s = .ok o' ∧
    Restored W o o' :=
  C19_members_roundtrip_persave W cx "fam:LoaderX" dom o rfl o_wf (by decide +kernel) (by decide +kernel) rfl C19_example_rt_cx

example : (save W (some cx) (.obj 0 [("a", .plain "1")])).map SVal.render =
    .ok "{c=cx!fam!K0;l=fam:LoaderX;t=;e=a=1}" := by decide +kernel

/-- precedence: a state saved through `cx` is not loadable with an explicit default-loader context (the context wins
over the recorded loader, and the default loader does not know `cx!fam!K0`): `ValueError`, not a wrong object -/
example : (save W (some cx) (.obj 0 [("a", .plain "1")])).bind (load W (some dfl)) = .error .valueError := by rfl

/-- hypotheses of `C19_autopersist_inherit_independent` on a reachable family, all three admissible ways -/
example : (Fam.build 2 [⟨.decorator, 0, ["a"]⟩]).own.length = 2 := by decide +kernel
example : let F := Fam.build 2 [⟨.decorator, 0, ["a"]⟩]
    (F.apply ⟨.decorator, 1, ["b"]⟩).eff 0 = some ["a"] ∧ (F.apply ⟨.decorator, 1, ["b"]⟩).eff 1 = some ["a", "b"] := by decide +kernel
example : let F := Fam.build 2 [⟨.decorator, 0, ["a"]⟩, ⟨.decorator, 1, []⟩]
    (∃ r, F.own[1]? = some (some r)) ∧ (F.apply ⟨.classmethod, 1, ["b"]⟩).eff 0 = some ["a"] := by
  exact ⟨⟨1, by decide +kernel⟩, by decide +kernel⟩
example : let F := Fam.build 2 []
    F.ref 1 = none ∧ (F.apply ⟨.classmethod, 1, ["b"]⟩).eff 0 = none ∧ (F.apply ⟨.classmethod, 1, ["b"]⟩).eff 1 = some ["b"] := by
  decide +kernel

/-- the excluded case is real: the classmethod on a child that only inherits its set changes the parent -/
example : let F := Fam.build 2 [⟨.decorator, 0, ["a"]⟩]
    F.ref 1 = F.ref 0 ∧ (F.apply ⟨.classmethod, 1, ["b"]⟩).eff 0 = some ["a", "b"] := by decide +kernel

/-- copy on inherit: what the parent declares *after* the child was decorated does not reach the child -/
example : (Fam.build 2 [⟨.decorator, 0, ["a"]⟩, ⟨.decorator, 1, ["b"]⟩, ⟨.classmethod, 0, ["late"]⟩]).eff 1 = some ["a", "b"] := by
  decide +kernel

/-- unknown class and unknown recorded loader -/
example : load W none (.state (some "fam:Nope") none [] []) = .error .valueError := by rfl
example : load W none (.state (some "fam:K0") (some "fam:Nope") [] []) = .error .valueError := by rfl

end examples

end Sav
