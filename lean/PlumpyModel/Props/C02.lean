import PlumpyModel.PM.LProof4
import PlumpyModel.PM.LProof18
/-!
# C02 — all reports of a terminated process's outcome agree

Model: `PMF`.  `Cfg.fut` is the process future (`pending | result | exc e | cancelled`; `result` stands for "resolved to
the outputs"), `closed` / `cleanups` the close flag and the number of times the registered cleanups ran, `notif` the log
of listener notifications.  `outcomeOf st` is what the future must hold for a terminal state object: FINISHED ↦ result,
KILLED ↦ KilledError, EXCEPTED e ↦ the exception `e` itself.

Proved for every program, every number of awaited futures and every history of events (ticks in any order, pause, play,
kill, resume, fail, call_soon callbacks, cancellation of the future, completion of awaitables).
"step_until_terminated() returns" is proved for every history as well (`C02_stepper_returns`): in every reachable
terminated configuration finitely many wake-ups of the stepping task end it normally.  It rests on the linking invariant
`Inv10` of `PM/Proof10.lean` over all reachable configurations, of which the readable parts are restated here.
-/
namespace PMF

/-- **agreement at termination**: in every reachable terminal configuration the future holds exactly the outcome of
the state object (FINISHED: the outputs; EXCEPTED: the original exception; KILLED: KilledError), the process is closed,
the cleanups ran exactly once and listeners received exactly one terminal notification. -/
theorem C02_outcome_agrees (P : Prog) (nf : Nat) (evs : List Ev)
    (ht : terminal (run P (init nf) evs).st.label = true) :
    let c := run P (init nf) evs
    outcomeOf c.st = some c.fut ∧ c.closed = true ∧ c.cleanups = 1 ∧ termCount c.notif = 1 := by
  have h := (inv2_closed.run P (init nf) evs (inv2_init nf)).term ht
  exact ⟨h.2.2.2, h.1, h.2.1, h.2.2.1⟩

/-- **… conversely, nothing is reported early**: while the process is live its future is unresolved (pending, or
cancelled by the environment — the process itself never resolves it), it is not closed, no cleanup has run and no
terminal notification has been sent. -/
theorem C02_nothing_reported_while_live (P : Prog) (nf : Nat) (evs : List Ev)
    (hl : terminal (run P (init nf) evs).st.label = false) :
    let c := run P (init nf) evs
    (c.fut = .pending ∨ c.fut = .cancelled) ∧ c.closed = false ∧ c.cleanups = 0 ∧ termCount c.notif = 0 :=
  (inv2_closed.run P (init nf) evs (inv2_init nf)).live hl

/-- the three cases spelled out -/
theorem C02_finished_future (P : Prog) (nf : Nat) (evs : List Ev) (v : Option Val) (ok : Bool)
    (h : (run P (init nf) evs).st = .finished v ok) : (run P (init nf) evs).fut = .result := by
  have := (C02_outcome_agrees P nf evs (by rw [h]; simp [SObj.label, terminal, allowed])).1
  rw [h] at this; simpa [outcomeOf] using this.symm

theorem C02_excepted_future (P : Prog) (nf : Nat) (evs : List Ev) (e : Exc)
    (h : (run P (init nf) evs).st = .excepted e) : (run P (init nf) evs).fut = .exc e := by
  have := (C02_outcome_agrees P nf evs (by rw [h]; simp [SObj.label, terminal, allowed])).1
  rw [h] at this; simpa [outcomeOf] using this.symm

theorem C02_killed_future (P : Prog) (nf : Nat) (evs : List Ev)
    (h : (run P (init nf) evs).st = .killed) : (run P (init nf) evs).fut = .exc .killedErr := by
  have := (C02_outcome_agrees P nf evs (by rw [h]; decide)).1
  rw [h] at this; simpa [outcomeOf] using this.symm

/-- the future of a process is resolved exactly when the process has terminated (cancellation aside) -/
theorem C02_future_resolved_iff_terminated (P : Prog) (nf : Nat) (evs : List Ev) :
    let c := run P (init nf) evs
    (c.fut ≠ .pending ∧ c.fut ≠ .cancelled) ↔ terminal c.st.label = true := by
  intro c
  constructor
  · intro hf
    cases ht : terminal c.st.label with
    | true => rfl
    | false =>
      rcases (C02_nothing_reported_while_live P nf evs ht).1 with h | h
      · exact absurd h hf.1
      · exact absurd h hf.2
  · intro ht
    have h := (C02_outcome_agrees P nf evs ht).1
    have hne : ∀ (st : SObj) (f : PFut), outcomeOf st = some f → f ≠ .pending ∧ f ≠ .cancelled := by
      intro st f hf
      cases st <;> simp [outcomeOf] at hf <;> subst hf <;> exact ⟨(fun h => nomatch h), (fun h => nomatch h)⟩
    exact hne _ _ h


/-- **step_until_terminated() returns**: for every program, every number of awaited futures and every history of events
(ticks of the stepping task and of scheduled callbacks in any order, pause, play, kill, resume, fail, call_soon,
cancellation of the future, completion of awaitables), if the configuration reached is terminated then finitely many
further wake-ups `ticks P n` of the stepping task bring its program counter to `done`: whoever awaits
`step_until_terminated()` is released, and the task ends normally, not by an exception. -/
theorem C02_stepper_returns (P : Prog) (nf : Nat) (evs : List Ev)
    (ht : terminal (run P (init nf) evs).st.label = true) :
    ∃ n, (ticks P n (run P (init nf) evs)).pc = .done :=
  stepper_returns_reachable P nf evs ht

/-- **the stepping task never crashes**: in no reachable configuration (terminated or not) has the coroutine of
`step_until_terminated()` ended with an exception (neither "closed" from a step on a closed process nor the
interrupt action being run a second time). -/
theorem C02_stepper_never_crashes (P : Prog) (nf : Nat) (evs : List Ev) (e : Exc) :
    (run P (init nf) evs).pc ≠ .crashed e :=
  (run_inv10 P (init nf) evs (inv2_init nf) (inv10_init nf)).s.nocrash e

/-- **a stepper awaiting a waiting future will be woken** (the link that repair J maintains): in every reachable
configuration in which the stepping task is suspended on waiting future `wf`, that future exists and either the current
state object is the WAITING state that owns `wf` (so `resume`, an awaitable or leaving the state will complete it) or
`wf` is already completed (result, failure or interruption). -/
theorem C02_waiting_stepper_is_released (P : Prog) (nf : Nat) (evs : List Ev) (wf : Nat)
    (hpc : (run P (init nf) evs).pc = .awaitWaiting wf) :
    let c := run P (init nf) evs
    wf < c.wfs.length ∧ ((∃ fn wk aw, c.st = .waiting fn wf wk aw) ∨ c.wfs[wf]? ≠ some .pending) :=
  (run_inv10 P (init nf) evs (inv2_init nf) (inv10_init nf)).s.aw wf hpc

/-- **a stepper awaiting a pause future will be woken** (the link that repair G maintains): in every reachable
configuration in which the stepping task is suspended on pause future `pf`, that future exists and is the process's
current pause future (so `play` releases it) or is already released; and if the process has terminated, the current
pause future is released, hence so is `pf`. -/
theorem C02_paused_stepper_is_released (P : Prog) (nf : Nat) (evs : List Ev) (pf : Nat)
    (hpc : (run P (init nf) evs).pc = .awaitPaused pf) :
    let c := run P (init nf) evs
    pf < c.pfs.length ∧ (c.paused = some pf ∨ c.pfs[pf]? = some true) ∧
    (terminal c.st.label = true → c.pfs[pf]? = some true ∧ ∀ pf', c.paused = some pf' → c.pfs[pf']? = some true) :=
  (run_inv10 P (init nf) evs (inv2_init nf) (inv10_init nf)).s.paused_released hpc

/-- **step_until_terminated() returns, configuration-level**: from ANY terminated configuration — reachable or not — in
which the stepping coroutine has not crashed and is not blocked on an unreleased future (the pause future it awaits and
the current one are released, the waiting future it awaits is completed), finitely many wake-ups of the stepping task
end it normally.  (`C02_stepper_returns` discharges these hypotheses for reachable configurations; this statement is
kept because it does not depend on how the configuration was reached.  The name keeps its historical `_partial`.) -/
theorem C02_stepper_returns_partial (P : Prog) (c : Cfg) (ht : terminal c.st.label = true) (hcr : ∀ e, c.pc ≠ .crashed e)
    (hpz : ∀ pf, c.paused = some pf → c.pfs[pf]? = some true)
    (hap : ∀ pf, c.pc = .awaitPaused pf → c.pfs[pf]? = some true)
    (haw : ∀ wf, c.pc = .awaitWaiting wf → ∃ w, c.wfs[wf]? = some w ∧ w ≠ .pending) :
    ∃ n, (ticks P n c).pc = .done :=
  stepper_returns P c ht hcr hpz hap haw

/-- termination releases a stepping coroutine that is blocked on the pause (repair G): after `on_terminated` the current
pause future is resolved -/
theorem C02_termination_releases_pause (d : Cfg) (pf : Nat) (hp : (onTerminated d).paused = some pf)
    (hv : (d.pfs[pf]?).isSome = true) : (onTerminated d).pfs[pf]? = some true :=
  onTerminated_releases_pause d pf hp hv

/-- leaving the WAITING state (kill, fail, a failing callback) completes its wait, so a step still awaiting it returns
(repair J) -/
theorem C02_leaving_waiting_completes_wait (c : Cfg) (fn wf : Nat) (wk : Option WF) (aw : List (Nat × Nat))
    (hst : c.st = .waiting fn wf wk aw) (hv : (c.wfs[wf]?).isSome = true) :
    ∃ w, (exitState c).wfs[wf]? = some w ∧ w ≠ .pending :=
  exitState_completes_wait c fn wf wk aw hst hv

-- non-vacuity: each terminal state is reached by a concrete history, with kill while paused and kill during a step
section
private def async1 : Prog := fun _ _ _ _ => ⟨1, .ret (.stop (some 3) true)⟩
example : (run async1 (init 0) [.tick, .tick]).st = .finished (some 3) true := by decide +kernel
example : (run async1 (init 0) [.pause, .kill]).st = .killed := by decide +kernel
example : (run async1 (init 0) [.tick, .kill, .tick]).st = .killed := by decide +kernel
example : (run async1 (init 0) [.tick, .fail (.user 2), .tick]).st = .excepted (.user 2) := by decide +kernel
-- kill while paused: the stepping task, blocked on the pause, ends after one wake-up
example : (ticks async1 1 (run async1 (init 0) [.tick, .pause, .tick, .kill])).pc = .done := by decide +kernel
-- the hypotheses of `C02_stepper_returns` / `C02_paused_stepper_is_released` hold non-trivially: after kill-while-paused
-- (pause, first wake-up, kill) the process is KILLED while the stepping task is still suspended on pause future 0, released
example : let c := run async1 (init 0) [.pause, .tick, .kill]
    c.st = .killed ∧ c.pc = .awaitPaused 0 ∧ c.paused = some 0 ∧ c.pfs[0]? = some true ∧
    (ticks async1 1 c).pc = .done := by decide +kernel
-- the current pause future of a terminated process can be unreleased only when nobody awaits it: a pause requested
-- during the last step is honoured after the transition to FINISHED; the stepping task has already returned
example : let c := run async1 (init 0) [.tick, .pause, .tick]
    c.st = .finished (some 3) true ∧ c.paused = some 0 ∧ c.pfs[0]? = some false ∧ c.pc = .done := by decide +kernel
-- `C02_waiting_stepper_is_released`: fail() during a waiting step leaves the task suspended on waiting future 0 of a
-- state object that is gone; the future was completed on exit, one wake-up ends the task
private def wait1 : Prog := fun fn _ _ _ => if fn = 0 then ⟨0, .ret (.wait 1)⟩ else ⟨0, .ret (.stop none true)⟩
example : let c := run wait1 (init 0) [.tick, .fail (.user 2)]
    c.st = .excepted (.user 2) ∧ c.pc = .awaitWaiting 0 ∧ c.wfs[0]? = some (.result none) ∧
    (ticks wait1 1 c).pc = .done := by decide +kernel
-- … and while the WAITING state is still current, the task is suspended on the future that state owns
example : let c := run wait1 (init 0) [.tick]
    c.st = .waiting 1 0 none [] ∧ c.pc = .awaitWaiting 0 ∧ c.wfs[0]? = some .pending := by decide +kernel
end

/-!
## with control requests issued DURING transitions (listeners, state-event callbacks)

Model: `PMF.L` (lean/PlumpyModel/PM/Listener.lean; see the section on listeners in `Props/C04.lean`).  The exiting / entering
callbacks run exactly where the invariant is temporarily broken (the future is resolved by `on_entering` before the new state object
is assigned); the requests made there are deferred or refused and change nothing the reports of the outcome depend on.
"step_until_terminated() returns" holds with listeners as well (`C02_listener_stepper_returns` and the readable parts of the
lifted linking invariant, `PM/LProof16..18.lean`), and the `while` loop of the closing part of a step ends by itself
(`C02_listener_closing_loop_ends`).
-/
namespace L

/-- **agreement at termination, with listeners**: for every program, every plan of `pause()` / `play()` / `kill()` calls made from
inside notifications and every history of events, in every terminal configuration reached the future holds exactly the outcome of
the state object, the process is closed, the cleanups ran exactly once and listeners received exactly one terminal notification —
also when a listener's `kill()` arrived during the transition into FINISHED (it is not enacted: the process stays FINISHED with its
outputs), or during the enactment of another request. -/
theorem C02_listener_outcome_agrees (P : Prog) (nf : Nat) (plan : Plan) (evs : List Ev)
    (ht : terminal (runL P (initL nf plan) evs).c.st.label = true) :
    let c := (runL P (initL nf plan) evs).c
    outcomeOf c.st = some c.fut ∧ c.closed = true ∧ c.cleanups = 1 ∧ termCount c.notif = 1 := by
  have h := (runL_inv2 P (initL nf plan) evs (inv2_init nf)).term ht
  exact ⟨h.2.2.2, h.1, h.2.1, h.2.2.1⟩

/-- … and nothing is reported while the process is live -/
theorem C02_listener_nothing_reported_while_live (P : Prog) (nf : Nat) (plan : Plan) (evs : List Ev)
    (hl : terminal (runL P (initL nf plan) evs).c.st.label = false) :
    let c := (runL P (initL nf plan) evs).c
    (c.fut = .pending ∨ c.fut = .cancelled) ∧ c.closed = false ∧ c.cleanups = 0 ∧ termCount c.notif = 0 :=
  (runL_inv2 P (initL nf plan) evs (inv2_init nf)).live hl

/-- **step_until_terminated() returns, with listeners**: for every program, every plan of `pause()` / `play()` / `kill()` calls
made from inside notifications (listeners, state-event callbacks; during transitions, during the enactment of other requests,
during or between steps) and every history of events, if the configuration reached is terminated then finitely many further
wake-ups of the stepping task (`ticksL P n`) bring its program counter to `done`: whoever awaits `step_until_terminated()` is
released, and the task ends normally, not by an exception.  (The linking invariant `Inv10` of `PM/Proof10.lean` lifted to the
model with listeners: `PM/LProof16–18.lean`, `runL_inv10L`.) -/
theorem C02_listener_stepper_returns (P : Prog) (nf : Nat) (plan : Plan) (evs : List Ev)
    (ht : terminal (runL P (initL nf plan) evs).c.st.label = true) :
    ∃ n, (ticksL P n (runL P (initL nf plan) evs)).c.pc = .done :=
  stepperL_returns P nf plan evs ht

/-- **the stepping task never crashes, with listeners**: in no configuration reached by `runL` (any plan, terminated or not) has
the coroutine of `step_until_terminated()` ended with an exception — neither a step on a closed process nor an interrupt action
run a second time (F22 was exactly that: a `kill()` from a listener during the transition performed by a pause action). -/
theorem C02_listener_stepper_never_crashes (P : Prog) (nf : Nat) (plan : Plan) (evs : List Ev) (e : Exc) :
    (runL P (initL nf plan) evs).c.pc ≠ .crashed e :=
  (runL_inv10L P (initL nf plan) evs (inv10L_init nf plan)).s.nocrash e

/-- **a stepper awaiting a waiting future will be woken, with listeners**: the future exists and the current state object is the
WAITING state that owns it, or it is already completed — also when the state was left by a `kill()` a listener issued. -/
theorem C02_listener_waiting_stepper_is_released (P : Prog) (nf : Nat) (plan : Plan) (evs : List Ev) (wf : Nat)
    (hpc : (runL P (initL nf plan) evs).c.pc = .awaitWaiting wf) :
    let c := (runL P (initL nf plan) evs).c
    wf < c.wfs.length ∧ ((∃ fn wk aw, c.st = .waiting fn wf wk aw) ∨ c.wfs[wf]? ≠ some .pending) :=
  (runL_inv10L P (initL nf plan) evs (inv10L_init nf plan)).s.aw wf hpc

/-- **a stepper awaiting a pause future will be woken, with listeners**: the future exists and is the process's current pause
future or is released — whatever sequence of `pause()` / `play()` listeners of `on_process_paused` / `on_process_played` issued —
and if the process has terminated, the current pause future is released. -/
theorem C02_listener_paused_stepper_is_released (P : Prog) (nf : Nat) (plan : Plan) (evs : List Ev) (pf : Nat)
    (hpc : (runL P (initL nf plan) evs).c.pc = .awaitPaused pf) :
    let c := (runL P (initL nf plan) evs).c
    pf < c.pfs.length ∧ (c.paused = some pf ∨ c.pfs[pf]? = some true) ∧
    (terminal c.st.label = true → c.pfs[pf]? = some true ∧ ∀ pf', c.paused = some pf' → c.pfs[pf']? = some true) :=
  (runL_inv10L P (initL nf plan) evs (inv10L_init nf plan)).s.paused_released hpc

/-- **the closing part of a step returns**: the `while` loop of `Process.step()` (enact what a listener requested while the
previous request was being enacted) is never stopped by the model's bound: with ANY number of iterations above the number of
plan entries left it computes what it computes with `plan.length + 1` (the bound `dispatchL` uses), and it stops because nothing
is left to enact (`Quiet`: the slot is empty, or its action done, or the process terminated) — every iteration that leaves a
pending request behind has used up a plan entry. -/
theorem C02_listener_closing_loop_ends (n : Nat) (l : LCfg) (m : Nat) (hm : l.plan.length < m) :
    enactLoop (fireN n) m l = enactLoop (fireN n) (l.plan.length + 1) l ∧ Quiet (enactLoop (fireN n) m l) :=
  ⟨enactLoop_fuel (fireN_adv n) l m hm, enactLoop_quiet (fireN_adv n) m l hm⟩

-- non-vacuity: a kill from the entering phase of the transition into FINISHED; a kill from `on_process_running`
section
private def one : Prog := fun _ _ _ _ => ⟨0, .ret (.stop (some 3) true)⟩
example : (runL one (initL 0 [(.entering, 2, .kill)]) [.tick]).c.st = .finished (some 3) true ∧
    (runL one (initL 0 [(.entering, 2, .kill)]) [.tick]).c.fut = .result := by decide +kernel
example : (runL one (initL 0 [(.running, 1, .kill)]) [.tick]).c.st = .killed ∧
    (runL one (initL 0 [(.running, 1, .kill)]) [.tick]).c.fut = .exc .killedErr ∧
    (runL one (initL 0 [(.running, 1, .kill)]) [.tick]).c.cleanups = 1 := by decide +kernel
-- `C02_listener_stepper_returns` / `…_paused_stepper_is_released`, hypotheses satisfied non-trivially: the process is paused
-- between steps, the stepping task blocks on pause future 0; `play()` notifies `on_process_played`, whose listener kills: the
-- process is KILLED while the task is still suspended on pause future 0 (released); one wake-up ends it
private def async1' : Prog := fun _ _ _ _ => ⟨1, .ret (.stop (some 3) true)⟩
example : let l := runL async1' (initL 0 [(.played, 1, .kill)]) [.pause, .tick, .play]
    l.c.st = .killed ∧ l.c.pc = .awaitPaused 0 ∧ l.c.pfs[0]? = some true ∧ (ticksL async1' 1 l).c.pc = .done := by decide +kernel
-- a listener of `on_process_paused` plays, the listener of `on_process_played` pauses again and a third one kills, all inside
-- the enactment of a pause requested during a step: three iterations of the `while` loop, the step ends KILLED, the task is done
private def async2 : Prog := fun fn _ _ _ => if fn = 0 then ⟨1, .ret (.cont 1 [] [])⟩ else ⟨1, .ret (.stop (some 3) true)⟩
example : let l := runL async2 (initL 0 [(.paused, 1, .play), (.played, 1, .pause), (.paused, 2, .kill)]) [.tick, .pause, .tick]
    l.c.st = .killed ∧ l.c.pc = .done ∧ l.c.interrupt = none ∧ l.plan = [] ∧
    l.c.notif = [.killed, .paused, .played, .paused, .running, .running] ∧ l.c.paused = some 1 ∧ l.c.pfs[1]? = some true := by
  decide +kernel
end

end L

end PMF
