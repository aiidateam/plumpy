import PlumpyModel.Comms.Proof
/-!
# C16 — remote control equals direct control; each transition announced once, in order

Model: `PlumpyModel/Comms/Model.lean` (handlers, `_schedule_rpc`, subscriptions/cleanups, `on_entered` broadcasting with an
oracle per transition index) on top of the process-control model `PMF`.

Honest reading guide.  `C16_rpc_is_direct_call`, `C16_broadcast_is_direct_call`, `C16_status_is_direct_call` and
`C16_unknown_intent_rejected` are close to definitional *in the model*: the model's scheduled callback is written as "run the
direct call"; what they add is that nothing else of the configuration moves and what the reply slot holds.  Their substance is the
correspondence check, which compares the real `LoopCommunicator` path with a twin process receiving the direct call.
`C16_broadcast_log_exact`, `C16_tolerated_failure_invisible` and `C16_unsubscribed_after_termination` are invariants over every
history and rest on two facts proved about every event of `PMF` (the entered log grows only at its head; terminated ⇒ closed).
The generated tables are pinned by `C16_dispatch_tables`, `C16_tolerated_kinds`, `C16_subject_format`, `C16_status_fields`,
`C16_own_announcements_filtered`: a change of the source that changes one of them breaks that theorem.
-/
namespace Comms
open PMF

/-! ### the tables found in the source say what the property says -/

/-- the `if` chains of `message_receive` / `broadcast_receive` map each intent to the method of the same name; `status` is an
    RPC only -/
theorem C16_dispatch_tables :
    dispatch Gen.rpcDispatch "play" = some .play ∧ dispatch Gen.rpcDispatch "pause" = some .pause ∧
    dispatch Gen.rpcDispatch "kill" = some .kill ∧ dispatch Gen.rpcDispatch "status" = some .status ∧
    dispatch Gen.broadcastDispatch "play" = some .play ∧ dispatch Gen.broadcastDispatch "pause" = some .pause ∧
    dispatch Gen.broadcastDispatch "kill" = some .kill ∧ dispatch Gen.broadcastDispatch "status" = none := by
  decide +kernel

/-- the tolerated kinds are closed connection, invalid channel, timeout -/
theorem C16_tolerated_kinds :
    Gen.toleratedBroadcastFailures = ["ConnectionClosed", "ChannelInvalidStateError", "TimeoutError"] := rfl

/-- the subject is `state_changed.<from>.<to>` -/
theorem C16_subject_format (frm : Option Label) (to : Label) :
    subject frm to = "state_changed." ++ labelStr frm ++ "." ++ to.name := by
  simp [subject, Gen.stateChangedSubject, String.join]

/-- the status reply carries the state and the paused flag -/
theorem C16_status_fields : "state" ∈ Gen.statusInfoKeys ∧ "paused" ∈ Gen.statusInfoKeys := by decide

/-- the process's own broadcast subscription filters out `state_changed…` subjects, and nothing else -/
theorem C16_own_announcements_filtered :
    filterPrefix = some "state_changed" ∧ filteredOut "state_changed.running.finished" = true ∧
    filteredOut "pause" = false ∧ filteredOut "play" = false ∧ filteredOut "kill" = false := by decide +kernel

/-! ### remote control is the direct call, run as its own callback -/

/-- **RPC pause / play / kill = direct call** (clause 1).  For every configuration in which the callback scheduled by
`_schedule_rpc` for message `id` is pending: running it (`Ev.call id`) leaves the process and the process's side of the
communicator exactly as the direct call made at that point (`Ev.pm e`) does — including every state-change broadcast and the
cleanups — the handler's return value is the direct call's, and the reply slot of the message holds that return value
(read through `resolve`: a plain value at once, an action by its eventual outcome, see `C16_reply_is_unwrapped_result`). -/
theorem C16_rpc_is_direct_call (O : Oracle) (P : Prog) (c : Cfg) (id : Nat) (k : Call) (e : PMF.Ev)
    (hf : c.ch.failed = none) (hs : c.calls.find? (·.id = id) = some ⟨id, false, k⟩) (hk : evOf k = some e) :
    (step O P c (.call id)).1.p = (step O P c (.pm e)).1.p ∧
    (step O P c (.call id)).1.ch = (step O P c (.pm e)).1.ch ∧
    (step O P c (.call id)).1.inbox = c.inbox ∧
    ∃ r, (step O P c (.pm e)).2 = .ret r ∧ (step O P c (.call id)).2 = .called k r ∧
      (step O P c (.call id)).1.replies = c.replies.map (fun x => if x.1 = id then (id, .ret r) else x) := by
  rw [step_call O P hf hs, step_pm O P hf, step_evOf P hk]
  exact ⟨rfl, rfl, rfl, _, rfl, rfl, rfl⟩

/-- the reply a sender reads is the unwrapped result of the direct call: a boolean as it is; an action `True` once it ran,
    cancelled if it was superseded, pending until then; an exception of the call as an error -/
theorem C16_reply_is_unwrapped_result (p : PMF.Cfg) (r : RetV) :
    replyVal p (.ret r) = resolve p r ∧
    (∀ b, resolve p (.bool b) = .bool b) ∧
    (∀ i, actionStatus p i = .done → resolve p (.action i) = .bool true) ∧
    (∀ i, actionStatus p i = .cancelled → resolve p (.action i) = .cancelled) ∧
    (∀ i, actionStatus p i = .pending → resolve p (.action i) = .pending) := by
  refine ⟨rfl, fun _ => rfl, ?_, ?_, ?_⟩ <;> intro i h <;> simp [resolve, h]

/-- the handler itself (`message_receive` for pause/play/kill) only schedules: the process is untouched until the callback runs -/
theorem C16_handler_only_schedules (O : Oracle) (P : Prog) (c : Cfg) (id : Nat) (w : String) (k : Call)
    (hf : c.ch.failed = none) (hm : c.inbox.find? (·.id = id) = some ⟨id, false, w⟩)
    (hd : dispatch Gen.rpcDispatch w = some k) (hk : k ≠ .status) :
    (step O P c (.recv id)).1.p = c.p ∧ (step O P c (.recv id)).1.ch = c.ch ∧
    (step O P c (.recv id)).1.replies = c.replies ∧
    (step O P c (.recv id)).1.calls = c.calls ++ [⟨id, false, k⟩] ∧ (step O P c (.recv id)).2 = .scheduled k := by
  rw [step_recv O P hf hm]
  cases k with
  | status => exact absurd rfl hk
  | _ => simp [messageReceive, hd]

/-- **RPC status = direct call**: the reply is the status at the point where the handler runs, nothing changes -/
theorem C16_status_is_direct_call (O : Oracle) (P : Prog) (c : Cfg) (id : Nat)
    (hf : c.ch.failed = none) (hm : c.inbox.find? (·.id = id) = some ⟨id, false, "status"⟩) :
    (step O P c (.recv id)).1.p = c.p ∧ (step O P c (.recv id)).1.ch = c.ch ∧
    (step O P c (.recv id)).1.calls = c.calls ∧
    (step O P c (.recv id)).2 = (step O P c .status).2 ∧
    (step O P c (.recv id)).1.replies =
      c.replies.map (fun x => if x.1 = id then (id, .status c.p.st.label c.p.paused.isSome) else x) := by
  rw [step_recv O P hf hm]
  simp [step, hf, messageReceive, C16_dispatch_tables.2.2.2.1, setReply, statusObs]

/-- **broadcast pause / play / kill = direct call** (clause 1, broadcast variants): same effect as the direct call; there is no
    reply channel, so the reply table is untouched -/
theorem C16_broadcast_is_direct_call (O : Oracle) (P : Prog) (c : Cfg) (id : Nat) (k : Call) (e : PMF.Ev)
    (hf : c.ch.failed = none) (hs : c.calls.find? (·.id = id) = some ⟨id, true, k⟩) (hk : evOf k = some e) :
    (step O P c (.call id)).1.p = (step O P c (.pm e)).1.p ∧
    (step O P c (.call id)).1.ch = (step O P c (.pm e)).1.ch ∧
    (step O P c (.call id)).1.replies = c.replies ∧
    ∃ r, (step O P c (.pm e)).2 = .ret r ∧ (step O P c (.call id)).2 = .called k r := by
  rw [step_call O P hf hs, step_pm O P hf, step_evOf P hk]
  exact ⟨rfl, rfl, rfl, _, rfl, rfl⟩

/-- which broadcasts are honoured: a subject that is the wire value of `play`, `pause` or `kill` schedules that call; any other
    subject (including `status`) is ignored and changes nothing -/
theorem C16_broadcast_receive (O : Oracle) (P : Prog) (c : Cfg) (id : Nat) (w : String)
    (hf : c.ch.failed = none) (hm : c.inbox.find? (·.id = id) = some ⟨id, true, w⟩) :
    (step O P c (.recv id)).1.p = c.p ∧ (step O P c (.recv id)).1.ch = c.ch ∧
    (step O P c (.recv id)).1.replies = c.replies ∧
    ((∃ k, dispatch Gen.broadcastDispatch w = some k ∧ k ≠ .status ∧
        (step O P c (.recv id)).1.calls = c.calls ++ [⟨id, true, k⟩]) ∨
     ((dispatch Gen.broadcastDispatch w = none ∨ dispatch Gen.broadcastDispatch w = some .status) ∧
        (step O P c (.recv id)).1.calls = c.calls ∧ (step O P c (.recv id)).2 = .ignored)) := by
  rw [step_recv O P hf hm]
  simp only [if_true, broadcastReceive]
  cases hd : dispatch Gen.broadcastDispatch w with
  | none => simp
  | some k => cases k <;> simp

/-! ### each completed transition is announced exactly once, in order -/

/-- **broadcast log exact** (clause 2).  For every program, every broadcast oracle and every history of process callbacks,
direct calls, messages and their handlers, as long as no non-tolerated exception escaped `on_entered`: `on_entered` ran exactly
once per entry of the entered-states log, and the broadcasts that went out are, in order (both logs newest first), exactly
`owed pid entered` — one announcement per entry, with subject `state_changed.<entry before it>.<entry>` (`None` for the first),
sender the process id, index its position — minus those at which the oracle made `broadcast_send` fail. -/
theorem C16_broadcast_log_exact (O : Oracle) (P : Prog) (nfut : Nat) (pid : String) (evs : List Ev)
    (hf : (run O P (create O nfut pid) evs).ch.failed = none) :
    (run O P (create O nfut pid) evs).ch.announced = (run O P (create O nfut pid) evs).p.entered.length ∧
    (run O P (create O nfut pid) evs).ch.blog =
      (owed pid (run O P (create O nfut pid) evs).p.entered).filter (okAt O) := by
  obtain ⟨g, hp⟩ := reach O P nfut pid evs hf
  exact ⟨g.ann.count, by rw [g.ann.blog, hp]⟩

/-- what is owed, spelled out: per entered state one announcement, subject `state_changed.<from>.<to>`, sent by the pid -/
theorem C16_owed_spec (pid : String) (b : Label) (rest : List Label) :
    owed pid (b :: rest) =
      ⟨rest.length, "state_changed." ++ labelStr rest.head? ++ "." ++ b.name, pid⟩ :: owed pid rest := by
  simp [owed, C16_subject_format]

/-- two runs of the same events under oracles that let no exception escape differ in nothing but the broadcast log, and each log
is what is owed (the same list for both) filtered by its own oracle -/
theorem quiet_runs (O1 O2 : Oracle) (q1 : Quiet O1) (q2 : Quiet O2) (P : Prog) (nfut : Nat) (pid : String) (evs : List Ev) :
    Sim (run O1 P (create O1 nfut pid) evs) (run O2 P (create O2 nfut pid) evs) ∧
    trace O1 P (create O1 nfut pid) evs = trace O2 P (create O2 nfut pid) evs ∧
    (run O1 P (create O1 nfut pid) evs).ch.blog =
      (owed pid (run O2 P (create O2 nfut pid) evs).p.entered).filter (okAt O1) := by
  have h := run_sim O1 O2 q1 q2 P evs _ _ (create_sim O1 O2 q1 q2 nfut pid)
  exact ⟨h.1, h.2, h.1.p ▸ (C16_broadcast_log_exact O1 P nfut pid evs h.1.ok).2⟩

/-- without failures every transition is announced: the log *is* what is owed — exactly once each, in order -/
theorem C16_each_transition_announced_once (P : Prog) (nfut : Nat) (pid : String) (evs : List Ev) :
    (run allOk P (create allOk nfut pid) evs).ch.failed = none ∧
    (run allOk P (create allOk nfut pid) evs).ch.blog = owed pid (run allOk P (create allOk nfut pid) evs).p.entered := by
  have h := quiet_runs allOk allOk quiet_allOk quiet_allOk P nfut pid evs
  exact ⟨h.1.ok, h.2.2.trans (List.filter_eq_self.mpr fun _ _ => rfl)⟩

/-! ### a tolerated broadcast failure never disturbs the process -/

/-- **tolerated failure invisible** (clause 3).  For every transition index `i`, every tolerated kind (from the `except` clauses
found in the source), every program and every history: the run in which `broadcast_send` fails with that kind at transition `i`
never lets an exception escape, ends in the same process configuration, with the same messages in flight, the same replies, the
same subscriptions, and produced the same observation after every event as the failure-free run; the broadcast log is the
failure-free log without the entry of transition `i`. -/
theorem C16_tolerated_failure_invisible (i : Nat) (cls : String) (hc : cls ∈ Gen.toleratedBroadcastFailures)
    (P : Prog) (nfut : Nat) (pid : String) (evs : List Ev) :
    (run (failAt i cls) P (create (failAt i cls) nfut pid) evs).ch.failed = none ∧
    (run (failAt i cls) P (create (failAt i cls) nfut pid) evs).p = (run allOk P (create allOk nfut pid) evs).p ∧
    (run (failAt i cls) P (create (failAt i cls) nfut pid) evs).inbox = (run allOk P (create allOk nfut pid) evs).inbox ∧
    (run (failAt i cls) P (create (failAt i cls) nfut pid) evs).calls = (run allOk P (create allOk nfut pid) evs).calls ∧
    (run (failAt i cls) P (create (failAt i cls) nfut pid) evs).replies = (run allOk P (create allOk nfut pid) evs).replies ∧
    erase (run (failAt i cls) P (create (failAt i cls) nfut pid) evs).ch = erase (run allOk P (create allOk nfut pid) evs).ch ∧
    trace (failAt i cls) P (create (failAt i cls) nfut pid) evs = trace allOk P (create allOk nfut pid) evs ∧
    (run (failAt i cls) P (create (failAt i cls) nfut pid) evs).ch.blog =
      (run allOk P (create allOk nfut pid) evs).ch.blog.filter (fun b => b.idx ≠ i) := by
  obtain ⟨s, ht, hb⟩ := quiet_runs (failAt i cls) allOk (quiet_failAt i cls hc) quiet_allOk P nfut pid evs
  refine ⟨s.ok, s.p, s.inbox, s.calls, s.replies, s.ch, ht, ?_⟩
  rw [hb, (C16_each_transition_announced_once P nfut pid evs).2]
  apply List.filter_congr
  intro b _
  by_cases hbi : b.idx = i <;> simp [okAt, failAt, isOk, hbi]

/-- `erase` forgets only the broadcast log: equality of erased channels is equality of the subscriptions, the cleanups, the
    transition counter and the failure flag -/
theorem C16_erase_spec (a b : Chan) (h : erase a = erase b) :
    a.pid = b.pid ∧ a.subRpc = b.subRpc ∧ a.subBc = b.subBc ∧ a.cleanups = b.cleanups ∧ a.announced = b.announced ∧
    a.failed = b.failed :=
  erase_spec a b h

/-! ### a terminated process no longer receives messages -/

/-- **unsubscribed after termination** (clause 4).  In every reachable configuration (no escaped exception): a closed process
has no subscription left (the cleanups registered by `init` ran); a terminated process is closed; hence an RPC to it is
unroutable and a broadcast finds no subscriber, and neither changes anything. -/
theorem C16_unsubscribed_after_termination (O : Oracle) (P : Prog) (nfut : Nat) (pid : String) (evs : List Ev)
    (hf : (run O P (create O nfut pid) evs).ch.failed = none) :
    ((run O P (create O nfut pid) evs).p.closed = true →
        (run O P (create O nfut pid) evs).ch.subRpc = false ∧ (run O P (create O nfut pid) evs).ch.subBc = false) ∧
    (terminal (run O P (create O nfut pid) evs).p.st.label = true →
        (run O P (create O nfut pid) evs).p.closed = true ∧
        ∀ w, step O P (run O P (create O nfut pid) evs) (.rpc w) = (run O P (create O nfut pid) evs, .unroutable) ∧
             step O P (run O P (create O nfut pid) evs) (.bcast w) = (run O P (create O nfut pid) evs, .nosub)) := by
  have g := (reach O P nfut pid evs hf).1
  refine ⟨g.closed, fun ht => ⟨g.tc ht, fun w => ?_⟩⟩
  have hs := g.closed (g.tc ht)
  simp [step, hf, hs.1, hs.2]

/-! ### unknown intents -/

/-- **unknown intent rejected**: an RPC whose intent is none of the four wire values makes `message_receive` raise
(`RuntimeError`, the class found in the source); the error is the reply; process, communicator side and scheduled calls are
untouched. -/
theorem C16_unknown_intent_rejected (O : Oracle) (P : Prog) (c : Cfg) (id : Nat) (w : String)
    (hf : c.ch.failed = none) (hm : c.inbox.find? (·.id = id) = some ⟨id, false, w⟩)
    (h1 : w ≠ "play") (h2 : w ≠ "pause") (h3 : w ≠ "kill") (h4 : w ≠ "status") :
    (step O P c (.recv id)).2 = .rejected "RuntimeError" ∧
    (step O P c (.recv id)).1.p = c.p ∧ (step O P c (.recv id)).1.ch = c.ch ∧ (step O P c (.recv id)).1.calls = c.calls ∧
    (step O P c (.recv id)).1.replies = c.replies.map (fun x => if x.1 = id then (id, .exc "RuntimeError") else x) := by
  have wires : wireOf "PLAY" = some "play" ∧ wireOf "PAUSE" = some "pause" ∧ wireOf "KILL" = some "kill" ∧
      wireOf "STATUS" = some "status" := ⟨rfl, rfl, rfl, rfl⟩
  have ne : ∀ {x : String}, w ≠ x → decide (some x = some w) = false :=
    fun h => decide_eq_false fun e => h (Option.some.inj e).symm
  have hd : dispatch Gen.rpcDispatch w = none := by
    simp only [dispatch, Gen.rpcDispatch, List.find?, wires.1, wires.2.1, wires.2.2.1, wires.2.2.2, ne h1, ne h2, ne h3,
      ne h4]
  rw [step_recv O P hf hm]
  simp [messageReceive, hd, setReply, Gen.rpcUnknownIntentRaises]

/-! ### non-vacuity: the hypotheses are satisfiable on concrete, non-trivial histories -/

section Examples

/-- an async program; a pause RPC is sent after the first callback, its handler and its scheduled call run inside the step -/
def exEvs : List Ev := [.pm .tick, .rpc "pause", .recv 0, .call 0, .pm .tick, .pm .tick, .pm .tick]
def exCfg : Cfg := run allOk (progOf "Async2") (create allOk 0 "pid") [.pm .tick, .rpc "pause", .recv 0]

-- C16_rpc_is_direct_call applies: the scheduled call of message 0 is pending, nothing failed, and the call is a pause in a step
example : exCfg.ch.failed = none ∧ exCfg.calls.find? (·.id = 0) = some ⟨0, false, .pause⟩ ∧ evOf .pause = some .pause ∧
    exCfg.p.stepping = true := by decide +kernel
-- … and the reply is then an action whose eventual outcome is True, the process ends up paused
example : (run allOk (progOf "Async2") (create allOk 0 "pid") exEvs).p.paused.isSome = true ∧
    ((run allOk (progOf "Async2") (create allOk 0 "pid") exEvs).replies.map
      (fun e => replyVal (run allOk (progOf "Async2") (create allOk 0 "pid") exEvs).p e.2)) = [.bool true] := by
  decide +kernel
-- C16_broadcast_is_direct_call applies: a kill broadcast whose call is pending
example : (run allOk (progOf "Async2") (create allOk 0 "pid") [.pm .tick, .bcast "kill", .recv 0]).calls.find? (·.id = 0)
    = some ⟨0, true, .kill⟩ := by decide +kernel
-- C16_status_is_direct_call / C16_unknown_intent_rejected apply: such messages sit in the inbox
example : (run allOk (progOf "Waiter") (create allOk 0 "pid") [.rpc "status", .rpc "bogus"]).inbox =
    [⟨0, false, "status"⟩, ⟨1, false, "bogus"⟩] := by decide +kernel
-- C16_broadcast_log_exact on a run with four transitions, one of which fails in a tolerated way: three announcements
example : (run (failAt 2 "TimeoutError") (progOf "Sync2") (create (failAt 2 "TimeoutError") 0 "pid") [.pm .tick]).ch.failed
      = none ∧
    ((run (failAt 2 "TimeoutError") (progOf "Sync2") (create (failAt 2 "TimeoutError") 0 "pid") [.pm .tick]).ch.blog.map
      (·.subject)) = ["state_changed.running.finished", "state_changed.created.running", "state_changed.None.created"] ∧
    (run (failAt 2 "TimeoutError") (progOf "Sync2") (create (failAt 2 "TimeoutError") 0 "pid") [.pm .tick]).p.entered
      = [.finished, .running, .running, .created] := by decide +kernel
-- C16_tolerated_failure_invisible: the tolerated kinds exist
example : "ConnectionClosed" ∈ Gen.toleratedBroadcastFailures ∧ "TimeoutError" ∈ Gen.toleratedBroadcastFailures := by decide
-- a non-tolerated exception does escape (so `failed = none` is a real hypothesis, and the model stops there)
example : (run (failAt 1 "ValueError") (progOf "Sync2") (create (failAt 1 "ValueError") 0 "pid") [.pm .tick]).ch.failed
    = some 1 := by decide +kernel
-- C16_unsubscribed_after_termination: a run that terminates; before it, both subscriptions exist
example : terminal (run allOk (progOf "Sync2") (create allOk 0 "pid") [.pm .tick]).p.st.label = true ∧
    (create allOk 0 "pid").ch.subRpc = true ∧ (create allOk 0 "pid").ch.subBc = true := by decide +kernel

end Examples

end Comms
