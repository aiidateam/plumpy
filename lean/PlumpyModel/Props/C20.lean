import PlumpyModel.Futures.ProofAction
import PlumpyModel.Futures.ProofMirror
import PlumpyModel.Futures.ProofTask
import PlumpyModel.Futures.ProofUnwrap
/-!
# C20 — future adapters deliver result, error or cancellation exactly once

Model: `PlumpyModel/Futures/Model.lean` (future cells `pending | result v | exc e | cancelled` in a heap, done-callbacks,
concurrent futures invoking callbacks inline, asyncio futures scheduling them on the loop; a value is a plain value or a
reference to another future).

**Scenario of the chain theorems.**  The environment owns futures `0..n`; level `i < n` resolves to future `i+1` and level
`n` — the *innermost computation* — ends with `o`: a value, an exception or a cancellation (`chainD n o`).  This is the
reading of "every outcome at every level": a level that fails or is cancelled has nothing below it, it *is* the innermost
computation (that is also what the code does: `unwrap_kiwi_future`'s docstring, "if at any point in the chain a future
resolves to an exception then the returned future will also resolve to that exception").  The environment is an arbitrary
list of events `Ev.complete f` (complete future `f` with its designated outcome; repeated or spurious completions are
included — the futures reject them) and `Ev.tick i` (run the `i`-th ready loop callback — any of them, not only the first).
`pre` are the events before the adapter is applied, `post` those after: every order of "apply the adapter" and "complete
level j" is covered, for every depth `n` (the helper lemmas are by induction on the depth and on the event list).

`s.sets` is a ghost log of every delivery *attempt* (`set_result`, `set_exception`, `cancel`, successful or not) and
`s.errs` the exceptions that escaped from callbacks (an `InvalidStateError` of a second delivery would land there):
"exactly once" is `count = 1 ∧ errs = []`.

What the code does differently from a naive reading of the property text (modelled as the code does it, see the report):
* `plum_to_kiwi_future` does not flatten: the mirror of a loop future that resolves to a loop future resolves to the
  *mirror of that future* (`C20_mirror_faithful` states the level-by-level shape and, via `deref`, the innermost outcome);
* `CancellableAction.run` does not chain a result that is a future, it stores the future as its result (flattening is done by
  `_schedule_rpc`'s `while isfuture(result)` loop, `C20_schedule_rpc_unwraps`);
* `create_task` awaits `coro()`; a coroutine that *returns* a future resolves the task future to that future
  (`taskRef`, `.ret (.ref f)`), which `plum_to_kiwi_future` + `unwrap_kiwi_future` flatten on the communicator side;
* a `BaseException` other than `CancelledError` is not captured by `kiwipy.capture_exceptions`: the returned future of
  `create_task` stays pending (`raiseSt`), a `CancellableAction` lets it propagate out of `run()`.
-/
namespace Futures

/-- **C20, `unwrap_kiwi_future` ends with the innermost outcome and nothing else** — for every depth `n`, every innermost
outcome `o`, every order of events (`pre`: before `unwrap_kiwi_future(level 0)` is called, `post`: after), with `u` the
unwrapping future and `s3` the state after all events:
* no exception escapes from any callback and the inline recursion terminates (`errs = []`, `fuelOut = false`);
* if every level is complete, `u` holds exactly the innermost outcome and was set exactly once;
* if some level is still pending — in particular while the innermost computation is not complete — `u` is pending and no
  delivery has been attempted on it;
* a level the environment has completed stays complete (so "every level is complete" holds as soon as every
  `Ev.complete i`, `i ≤ n`, occurs in `pre ++ post`). -/
theorem C20_unwrap_innermost (n : Nat) (o : Outcome) (pre post : List Ev) (fuel : Nat) (hfuel : n + 1 ≤ fuel) :
    let d := chainD n o
    let s1 := envRun d fuel (newFutures .kiwi (n + 1) {}) pre
    let u := (unwrapKiwi s1 0).2
    let s3 := envRun d fuel (runStack fuel (unwrapKiwi s1 0).1) post
    s3.errs = [] ∧ s3.fuelOut = false ∧
    ((∀ i, i ≤ n → s3.st i ≠ .pending) → s3.st u = o.toSt ∧ s3.sets.count u = 1) ∧
    ((∃ i, i ≤ n ∧ s3.st i = .pending) → s3.st u = .pending ∧ s3.sets.count u = 0) ∧
    (∀ i, i ≤ n → Ev.complete i ∈ pre ++ post → s3.st i ≠ .pending) := by
  intro d s1 u s3
  have hpre : Pre .kiwi (n + 1) d s1 := pre_envRun (fun _ => chainD_gt) fuel pre _ (pre_init ..)
  obtain ⟨hu, hinv⟩ := unwrap_start hpre hfuel
  obtain ⟨he, p, ha, hp, hk⟩ : (unwrapMachine n o).Inv s3 :=
    (unwrapMachine n o).envRun (fun _ => chainD_gt) (by show 0 + (n + 1) ≤ fuel; omega) post _ hinv
  have hdone : ∀ i, i ≤ n → Ev.complete i ∈ pre ++ post → s3.st i ≠ .pending := fun i =>
    chain_complete_done fuel pre post ((mono_unwrapKiwi s1 0).trans (mono_runStack fuel _))
  rw [show u = n + 1 from hu]
  change UPriv n o p s3 at hp
  cases p with
  | hot r => exact absurd rfl (hk rfl r)
  | wait k =>
    exact ⟨he.errs, he.fuel, fun hall => absurd ha.1.2.1 (hall k hp.hj), fun _ => ⟨hp.own.pend, hp.own.unset⟩, hdone⟩
  | gone =>
    obtain ⟨hall, hst, hcnt⟩ := hp
    exact ⟨he.errs, he.fuel, fun _ => ⟨hst, hcnt⟩,
      fun ⟨i, hi, hp⟩ => absurd hp (by rw [hall i hi]; exact chainD_ne_pending hi), hdone⟩

/-- **C20, `plum_to_kiwi_future` is a faithful communicator-side mirror** — for every depth `n`, outcome `o` and order of
completions and loop callbacks, with `k` the kiwi future returned for level 0:
* no exception escapes, nothing is set twice;
* *level by level*: there is a frontier `m ≤ n` such that levels `i < m` of the chain are resolved and their mirrors
  `k+i` are resolved (exactly once) to the next mirror `k+i+1`; mirror `k+m` is either pending and untouched (level `m` is
  pending or its `on_done` callback is still scheduled), or `m = n` and it holds the innermost outcome, set exactly once;
* *innermost*: following results that are futures from `k` (`deref`) yields `pending` or the innermost outcome and nothing
  else; `pending` as long as the innermost computation is not complete; the innermost outcome once every level is complete
  and the loop has nothing ready. -/
theorem C20_mirror_faithful (n : Nat) (o : Outcome) (pre post : List Ev) (fuel : Nat) :
    let d := chainD n o
    let s1 := envRun d fuel (newFutures .aio (n + 1) {}) pre
    let k := (plumToKiwi s1 0).2
    let s3 := envRun d fuel (runStack fuel (plumToKiwi s1 0).1) post
    s3.errs = [] ∧ s3.fuelOut = false ∧
    (∃ m, m ≤ n ∧
      (∀ i, i < m → s3.st i = .result (.ref (i + 1)) ∧ s3.st (k + i) = .result (.ref (k + i + 1)) ∧
        s3.sets.count (k + i) = 1) ∧
      ((s3.st (k + m) = .pending ∧ s3.sets.count (k + m) = 0 ∧ (s3.st m = .pending ∨ s3.ready ≠ [])) ∨
       (m = n ∧ s3.st n = o.toSt ∧ s3.st (k + n) = o.toSt ∧ s3.sets.count (k + n) = 1))) ∧
    (deref s3 (n + 1) k = .pending ∨ deref s3 (n + 1) k = o.toSt) ∧
    (s3.st n = .pending → deref s3 (n + 1) k = .pending) ∧
    ((∀ i, i ≤ n → s3.st i ≠ .pending) → s3.ready = [] → deref s3 (n + 1) k = o.toSt) ∧
    (∀ i, i ≤ n → Ev.complete i ∈ pre ++ post → s3.st i ≠ .pending) := by
  intro d s1 k s3
  have hpre : Pre .aio (n + 1) d s1 := pre_envRun (fun _ => chainD_gt) fuel pre _ (pre_init ..)
  obtain ⟨hk, hq2⟩ := mirror_start hpre fuel
  obtain ⟨he, p, ha, hp, _⟩ : (mirrorMachine n o).Inv s3 :=
    (mirrorMachine n o).envRun (fun _ => chainD_gt) (Nat.zero_le _) post _ hq2
  have hdone : ∀ i, i ≤ n → Ev.complete i ∈ pre ++ post → s3.st i ≠ .pending := fun i =>
    chain_complete_done fuel pre post ((mono_plumToKiwi s1 0).trans (mono_runStack fuel _))
  rw [show k = n + 1 from hk]
  change MPriv n o p s3 at hp
  -- either mirror `m` is untouched (level `m` is pending, or its closure is on the loop) or all is delivered
  have key : (∃ m, MOwn n o m s3 ∧ (s3.st m = .pending ∨ s3.ready ≠ [])) ∨ MPriv n o .gone s3 := by
    cases p with
    | wait m => exact .inl ⟨m, hp, .inl ha.1.2.1⟩
    | gone => exact .inr hp
    | hot r =>
      cases r with
      | start t => exact absurd hp id
      | call c m => exact .inl ⟨m, hp.2.1, .inr (by rw [ha.2.2]; simp)⟩
  rcases key with ⟨m, ho, hw⟩ | hp
  · obtain ⟨hbelow, hderef⟩ := mirror_chain ho.hm ho.below ho.levels
    have hd := hderef (by rw [ho.pend]; simp)
    rw [ho.pend] at hd
    refine ⟨he.errs, he.fuel, ⟨m, ho.hm, hbelow, .inl ⟨ho.pend, ho.fresh _ (Nat.le_refl _), hw⟩⟩, .inl hd, fun _ => hd,
      fun hall hr => ?_, hdone⟩
    rcases hw with hw | hw
    · exact absurd hw (hall m ho.hm)
    · exact absurd hr hw
  · obtain ⟨hb, hall, hst, hcnt⟩ := hp
    obtain ⟨hbelow, hderef⟩ := mirror_chain (Nat.le_refl n) hb (fun i hi => hall i (Nat.le_of_lt hi))
    have hd := hderef (by rw [hst]; exact Outcome.toSt_ne_ref o)
    rw [hst] at hd
    have hn : s3.st n = o.toSt := chainD_last ▸ hall n (Nat.le_refl n)
    exact ⟨he.errs, he.fuel, ⟨n, Nat.le_refl n, hbelow, .inr ⟨rfl, hn, hst, hcnt⟩⟩, .inr hd,
      fun hp => by rw [hn] at hp; exact absurd hp (Outcome.toSt_ne_pending o), fun _ _ => hd, hdone⟩

/-- **C20, a cancellable action runs its function at most once**: after any history of `run()` and `cancel()` calls
(from any state `s0` of the rest of the world) the function has been called at most once. -/
theorem C20_action_runs_at_most_once (s0 : State) (fn : ActFn) (evs : List AEv) :
    let a := (newAction s0 fn).2
    let s := actRun a (newAction s0 fn).1 evs
    ∃ act, s.acts a = some act ∧ act.calls ≤ 1 :=
  (actRun_inv evs _ (newAction_inv s0 fn)).calls_le

/-- **C20, a cancellable action refuses to run again or after cancellation**: after any history, (1) once the action
is cancelled `run()` raises `InvalidStateError`, does not call the function and changes nothing; (2) the same after a
`run()` that returned normally; (3) the same whenever the action is done. -/
theorem C20_action_refuses_rerun_and_after_cancel (s0 : State) (fn : ActFn) (evs : List AEv) :
    let a := (newAction s0 fn).2
    let s := actRun a (newAction s0 fn).1 evs
    (runAction (actStep a s .cancel) a = (actStep a s .cancel, some .actionInvalid)) ∧
    ((runAction s a).2 = none → runAction (actStep a s .run) a = (actStep a s .run, some .actionInvalid)) ∧
    (s.st a ≠ .pending → runAction s a = (s, some .actionInvalid)) := by
  intro a s
  have h : AInv fn a s := actRun_inv evs _ (newAction_inv s0 fn)
  obtain ⟨act, hact, _⟩ := h.calls_le
  refine ⟨?_, fun hn => ?_, fun hd => runAction_refuses s a act hact hd⟩
  · obtain ⟨act', hact', _⟩ := (actStep_inv h .cancel).calls_le
    exact runAction_refuses _ a act' hact' (cancelFut_st_self s a)
  · obtain ⟨act', hact', _⟩ := (actStep_inv h .run).calls_le
    exact runAction_refuses _ a act' hact' (run_none_done h hn)

/-- **C20, a cancellable action reports its outcome through itself**: the first `run()` calls the function exactly once
and drops it, and nothing is logged.  If the function does not get its own action cancelled while it runs: a returned value
(a plain value or a future — it is *not* chained, the future is the result) becomes the action's result and an `Exception`
becomes the action's exception, while `run()` itself returns normally; only a `BaseException` propagates out of `run()`
(the action stays pending).  If the action is cancelled while its function runs (superseded by another request) it stays
cancelled, a returned value is dropped and an `Exception` is logged — there is no one left to report to, and the caller of `run()`
still has to serve the request that superseded the action (repair e94edb5, finding F28); only a `BaseException` propagates. -/
theorem C20_action_reports_through_itself (s0 : State) (fn : ActFn) :
    let a := (newAction s0 fn).2
    let r := runAction (newAction s0 fn).1 a
    r.1.acts a = some { fn := none, calls := 1 } ∧ r.1.errs = s0.errs ∧
    (fn.cancels = false →
      match fn.out with
      | .ret v => r.2 = none ∧ r.1.st a = .result v
      | .raise e => (e.isException = true → r.2 = none ∧ r.1.st a = .exc e) ∧
                    (e.isException = false → r.2 = some e ∧ r.1.st a = .pending)) ∧
    (fn.cancels = true → r.1.st a = .cancelled ∧
      r.2 = match fn.out with | .ret _ => none | .raise e => if e.isException then none else some e) := by
  intro a r
  have h1 : (newAction s0 fn).1.st a = .pending := by simp [a, newAction, alloc, State.setAct, State.st]
  have h2 : (newAction s0 fn).1.acts a = some { fn := some fn, calls := 0 } := by simp [a, newAction, alloc, State.setAct]
  have he : (newAction s0 fn).1.errs = s0.errs := by simp [newAction, alloc, State.setAct]
  have := run_fresh h1 h2
  exact ⟨this.1, by rw [← he]; exact this.2.1, this.2.2.1, this.2.2.2⟩

/-- **C20, `create_task` captures the coroutine's outcome** — `N` loop futures with arbitrary designated outcomes `d`
(values, futures, exceptions, cancellation, or never completed), any coroutine `c` awaiting some of them (`Coro`: awaits,
then `return v` / `return await f` / `raise e`), any order of completions and loop callbacks.  `taskRef st c` is the
reference semantics of the coroutine given the states `st` of the futures it awaits: its result, its exception, `cancelled`
if it ends with `CancelledError` (awaiting a cancelled future — the repaired behaviour, finding F20), `pending` while it is
blocked.  The returned future `fut` is pending or holds exactly `taskRef`; it holds `taskRef` whenever the loop has nothing
ready; it is set exactly once (never while pending). -/
theorem C20_create_task_captures (N : Nat) (d : FId → St) (hd : ∀ f, N ≤ f → d f = .pending) (c : Coro) (hc : c.wf N)
    (pre post : List Ev) (fuel : Nat) :
    let s1 := envRun d fuel (newFutures .aio N {}) pre
    let fut := (createTask s1 c).2
    let s3 := envRun d fuel (createTask s1 c).1 post
    s3.errs = [] ∧ s3.fuelOut = false ∧
    (s3.st fut = .pending ∨ s3.st fut = taskRef s3.st c) ∧
    (s3.ready = [] → s3.st fut = taskRef s3.st c) ∧
    (s3.st fut = .pending → s3.sets.count fut = 0) ∧ (s3.st fut ≠ .pending → s3.sets.count fut = 1) := by
  intro s1 fut s3
  have hpre : Pre .aio N d s1 := pre_envRun hd fuel pre _ (pre_init ..)
  obtain ⟨hf, hinv⟩ := task_start c hc hpre
  obtain ⟨he, p, ha, hp, _⟩ : (taskMachine N d c hc).Inv s3 := (taskMachine N d c hc).envRun hd (Nat.zero_le _) post _ hinv
  rw [show fut = N from hf]
  change TPriv N c p s3 at hp
  -- while `run_task` is alive only the fourth clause depends on where it is
  have live : ∀ {k}, TLive N c k s3 → (s3.ready = [] → s3.st N = taskRef s3.st c) → s3.errs = [] ∧ s3.fuelOut = false ∧
      (s3.st N = .pending ∨ s3.st N = taskRef s3.st c) ∧ (s3.ready = [] → s3.st N = taskRef s3.st c) ∧
      (s3.st N = .pending → s3.sets.count N = 0) ∧ (s3.st N ≠ .pending → s3.sets.count N = 1) := fun hl h =>
    ⟨he.errs, he.fuel, .inl hl.fpend, h, fun _ => List.count_eq_zero.mpr hl.unset, fun h => absurd hl.fpend h⟩
  cases p with
  | wait f =>
    obtain ⟨_, k, hl, haw⟩ := hp
    have hp : taskRef s3.st c = .pending := by rw [hl.passed.taskRef_eq]; exact taskRef_awaiting haw ha.1.2.1
    exact live hl fun _ => by rw [hp]; exact hl.fpend
  | hot r =>
    have hr : s3.ready ≠ [] := by rw [ha.2.2]; simp
    cases r with
    | start t => exact live hp.2.2 fun h => absurd h hr
    | call c' f => obtain ⟨_, _, k, hl⟩ := hp; exact live hl fun h => absurd h hr
  | gone =>
    obtain ⟨_, _, hst, hu1, hu2⟩ := hp
    exact ⟨he.errs, he.fuel, .inr hst, fun _ => hst, hu1, hu2⟩

/-- **C20, the reply future of `Process._schedule_rpc` ends with the innermost outcome** — the callback returns level 0 of
a chain of loop futures (e.g. the `CancellableAction` returned by `pause()`/`kill()`); for every depth, outcome and order:
the reply future `kf` is pending or holds the innermost outcome and nothing else; it is pending while the innermost
computation is pending; once every level is complete and the loop has nothing ready it holds the innermost outcome —
value, exception or cancellation (finding F20: before commit 93ed834 a cancellation left it pending for ever);
it is set exactly once. -/
theorem C20_schedule_rpc_unwraps (n : Nat) (o : Outcome) (pre post : List Ev) (fuel : Nat) (hfuel : n + 2 ≤ fuel) :
    let d := chainD n o
    let s1 := envRun d fuel (newFutures .aio (n + 1) {}) pre
    let kf := (scheduleRpc s1 (.ret (.ref 0))).2
    let s3 := envRun d fuel (scheduleRpc s1 (.ret (.ref 0))).1 post
    s3.errs = [] ∧ s3.fuelOut = false ∧
    (s3.st kf = .pending ∨ s3.st kf = o.toSt) ∧
    (s3.st n = .pending → s3.st kf = .pending) ∧
    ((∀ i, i ≤ n → s3.st i ≠ .pending) → s3.ready = [] → s3.st kf = o.toSt) ∧
    (s3.st kf = .pending → s3.sets.count kf = 0) ∧ (s3.st kf ≠ .pending → s3.sets.count kf = 1) ∧
    (∀ i, i ≤ n → Ev.complete i ∈ pre ++ post → s3.st i ≠ .pending) := by
  intro d s1 kf s3
  have hpre : Pre .aio (n + 1) d s1 := pre_envRun (fun _ => chainD_gt) fuel pre _ (pre_init ..)
  obtain ⟨hk, hinv⟩ := rpc_start hpre
  obtain ⟨he, p, ha, hp, _⟩ : (rpcMachine n o).Inv s3 :=
    (rpcMachine n o).envRun (fun _ => chainD_gt) hfuel post _ hinv
  have hdone : ∀ i, i ≤ n → Ev.complete i ∈ pre ++ post → s3.st i ≠ .pending := fun i =>
    chain_complete_done fuel pre post (mono_scheduleRpc s1 _)
  rw [show kf = n + 1 from hk]
  change RPriv n o p s3 at hp
  -- while the reply is not delivered only the fifth clause depends on where `run_callback` is
  have live : ∀ {P : Prop}, Own .kiwi (n + 1) s3 → P → s3.errs = [] ∧ s3.fuelOut = false ∧
      (s3.st (n + 1) = .pending ∨ s3.st (n + 1) = o.toSt) ∧ (s3.st n = .pending → s3.st (n + 1) = .pending) ∧ P ∧
      (s3.st (n + 1) = .pending → s3.sets.count (n + 1) = 0) ∧ (s3.st (n + 1) ≠ .pending → s3.sets.count (n + 1) = 1) ∧
      (∀ i, i ≤ n → Ev.complete i ∈ pre ++ post → s3.st i ≠ .pending) := fun ho h =>
    ⟨he.errs, he.fuel, .inl ho.pend, fun _ => ho.pend, h, fun _ => ho.unset, fun h => absurd ho.pend h, hdone⟩
  cases p with
  | wait j => exact live hp.1.own fun hall _ => absurd ha.1.2.1 (hall j hp.1.hj)
  | hot r =>
    have hr : s3.ready ≠ [] := by rw [ha.2.2]; simp
    cases r with
    | start t => exact live hp.2.1 fun _ h => absurd h hr
    | call c j => exact live hp.2.1.own fun _ h => absurd h hr
  | gone =>
    obtain ⟨⟨hall, hst, hcnt⟩, _⟩ := hp
    have hnp : s3.st (n + 1) ≠ .pending := by rw [hst]; exact Outcome.toSt_ne_pending o
    refine ⟨he.errs, he.fuel, .inr hst, fun hp => ?_, fun _ _ => hst, fun h => absurd h hnp, fun _ => hcnt, hdone⟩
    exact absurd hp (by rw [hall n (Nat.le_refl _)]; exact chainD_ne_pending (Nat.le_refl _))

/-- **C20, a future that is done is final** (the substrate of "exactly once"): no operation of the model — a delivery by
anyone, applying any adapter, running an action, any loop callback, any inline callback, a whole loop run — changes the
state of a future that is already done. -/
theorem C20_done_is_final (s : State) (f : Nat) (hf : f < s.next) (hd : s.st f ≠ .pending) :
    (∀ g o, (setOutcome s g o).1.st f = s.st f) ∧ (∀ g, (cancelFut s g).st f = s.st f) ∧
    (∀ g, (unwrapKiwi s g).1.st f = s.st f) ∧ (∀ g, (plumToKiwi s g).1.st f = s.st f) ∧
    (∀ c, (createTask s c).1.st f = s.st f) ∧ (∀ c, (scheduleRpc s c).1.st f = s.st f) ∧
    (∀ c, (newAction s c).1.st f = s.st f) ∧ (∀ a, (runAction s a).1.st f = s.st f) ∧
    (∀ fuel i, (tick s fuel i).st f = s.st f) ∧ (∀ fuel, (runStack fuel s).st f = s.st f) ∧
    (∀ fuel n, (drain fuel n s).st f = s.st f) ∧ (∀ d fuel evs, (envRun d fuel s evs).st f = s.st f) :=
  ⟨fun g o => (mono_setOutcome s g o).2 f hf hd, fun g => (mono_cancelFut s g).2 f hf hd,
   fun g => (mono_unwrapKiwi s g).2 f hf hd, fun g => (mono_plumToKiwi s g).2 f hf hd,
   fun c => (mono_createTask s c).2 f hf hd, fun c => (mono_scheduleRpc s c).2 f hf hd,
   fun c => (mono_newAction s c).2 f hf hd, fun a => (mono_runAction s a).2 f hf hd,
   fun fuel i => (mono_tick s fuel i).2 f hf hd, fun fuel => (mono_runStack fuel s).2 f hf hd,
   fun fuel n => (mono_drain fuel n s).2 f hf hd, fun d fuel evs => (mono_envRun d fuel evs s).2 f hf hd⟩

/-! ## Non-vacuity: the hypotheses are satisfiable and the conclusions are reached on concrete runs -/

/-- depth 2, level 1 completes before the adapter is applied, then the innermost, then level 0: the value arrives -/
example :
    let d := chainD 2 (.value 7)
    let s1 := envRun d 10 (newFutures .kiwi 3 {}) [.complete 1]
    let s3 := envRun d 10 (runStack 10 (unwrapKiwi s1 0).1) [.complete 2, .complete 0]
    (unwrapKiwi s1 0).2 = 3 ∧ s3.st 3 = .result (.plain 7) ∧ s3.sets.count 3 = 1 ∧ s3.errs = [] ∧
      (∀ i, i ≤ 2 → s3.st i ≠ .pending) := by decide

/-- the innermost computation is cancelled first; the unwrapping future stays pending until the outer levels complete -/
example :
    let d := chainD 2 .cancelled
    let s1 := envRun d 10 (newFutures .kiwi 3 {}) [.complete 2]
    let s2 := envRun d 10 (runStack 10 (unwrapKiwi s1 0).1) [.complete 1]
    let s3 := envRun d 10 s2 [.complete 0]
    s2.st 2 = .cancelled ∧ s2.st 3 = .pending ∧ s3.st 3 = .cancelled := by decide

/-- mirror of a depth-1 chain ending with an exception: two mirrors, level by level, after two loop callbacks -/
example :
    let d := chainD 1 (.error 3)
    let s1 := envRun d 10 (newFutures .aio 2 {}) []
    let s3 := envRun d 10 (runStack 10 (plumToKiwi s1 0).1) [.complete 1, .complete 0, .tick 0, .tick 0]
    (plumToKiwi s1 0).2 = 2 ∧ s3.st 2 = .result (.ref 3) ∧ s3.st 3 = .exc (.user 3) ∧ s3.ready = [] ∧
      deref s3 2 2 = .exc (.user 3) := by decide

/-- before the loop runs the callback the mirror is still pending (the `ready ≠ []` alternative of the theorem) -/
example :
    let d := chainD 0 (.value 1)
    let s3 := envRun d 10 (runStack 10 (plumToKiwi (newFutures .aio 1 {}) 0).1) [.complete 0]
    s3.st 0 = .result (.plain 1) ∧ s3.st 1 = .pending ∧ s3.ready ≠ [] := by decide

/-- `create_task`: a coroutine awaits future 0 (a value) and returns the result of future 1, which gets cancelled -/
example :
    let d : FId → St := fun f => if f = 0 then .result (.plain 1) else if f = 1 then .cancelled else .pending
    let c : Coro := .await 0 (.retAwait 1)
    let s1 := newFutures .aio 2 {}
    let s3 := envRun d 10 (createTask s1 c).1 [.tick 0, .complete 1, .complete 0, .tick 0]
    c.wf 2 ∧ (createTask s1 c).2 = 2 ∧ s3.st 2 = .cancelled ∧ taskRef s3.st c = .cancelled ∧ s3.ready = [] := by
  refine ⟨⟨by decide, show (1 : Nat) < 2 by decide⟩, ?_⟩; decide

/-- `_schedule_rpc`: the awaited action (level 0) is cancelled: the reply is cancelled (finding F20) -/
example :
    let d := chainD 0 .cancelled
    let s1 := newFutures .aio 1 {}
    let s3 := envRun d 10 (scheduleRpc s1 (.ret (.ref 0))).1 [.tick 0, .complete 0, .tick 0]
    (scheduleRpc s1 (.ret (.ref 0))).2 = 1 ∧ s3.st 1 = .cancelled ∧ s3.ready = [] ∧ s3.sets.count 1 = 1 := by decide

/-- an action whose function returns 5: run, run again, cancel, run -/
example :
    let a := (newAction {} { out := .ret (.plain 5) }).2
    let s := actRun a (newAction {} { out := .ret (.plain 5) }).1 [.run, .run, .cancel, .run]
    s.st a = .result (.plain 5) ∧ (s.acts a).map (·.calls) = some 1 ∧ (runAction s a).2 = some .actionInvalid := by decide

/-- an action cancelled before it ran never calls its function -/
example :
    let a := (newAction {} { out := .raise (.user 2) }).2
    let s := actRun a (newAction {} { out := .raise (.user 2) }).1 [.cancel, .run]
    s.st a = .cancelled ∧ (s.acts a).map (·.calls) = some 0 := by decide

/-- an action superseded (cancelled) while its function runs stays cancelled; the exception of its function does not leave `run()` -/
example :
    let a := (newAction {} { cancels := true, out := .raise (.user 2) }).2
    let r := runAction (newAction {} { cancels := true, out := .raise (.user 2) }).1 a
    r.1.st a = .cancelled ∧ r.2 = none ∧ (r.1.acts a).map (·.calls) = some 1 := by decide

end Futures
