import PlumpyModel.Outline.Proof
/-!
# C09 — a WorkChain executes its outline as the structured program it denotes

Model: `Outline.stepI/stepB` (the steppers), `Outline.doStep` (`WorkChain._do_step`), `Outline.runChain`
(the chain of `_do_step` calls).  Specification: the textbook small-step semantics `Outline.ref1` of structured
programs on a continuation (`call`: call and continue; `ite`: predicates in order up to the first true one, no later
one; `while_`: predicate before every iteration; `ret` / empty continuation: halt).

The world `σ` and the oracle `W` (results of every step function and predicate as a function of the whole world so
far) are universally quantified; instantiating `σ` with the call history makes equality of worlds equality of call
traces, which is how the driver and the harness use it.
-/
namespace Outline

/-- reference configuration after `n` steps, forgetting the value register -/
def refCfg {σ} (W : World σ) (n : Nat) (k : Block) (w : σ) : Block × σ :=
  ((refIter W n k w .none).1, (refIter W n k w .none).2.1)

theorem refIter_cfg_indep {σ} (W : World σ) (n : Nat) (k : Block) (w : σ) (r r' : Ret) :
    (refIter W n k w r).1 = (refIter W n k w r').1 ∧ (refIter W n k w r).2.1 = (refIter W n k w r').2.1 := by
  induction n generalizing k w r r' with
  | zero => simp [refIter]
  | succ n ih =>
    simp only [refIter]
    cases h : ref1 W k w with
    | halt => simp
    | next k' w' ro => simp only; exact ih ..

/-- `n` reference steps (of one `_do_step` call), then `m` more: the value register the first `n` leave does not matter -/
theorem refCfg_after {σ} (W : World σ) {n : Nat} {k k' : Block} {w w' : σ} {r : Ret}
    (h : refIter W n k w .none = (k', w', r)) (m : Nat) : refCfg W (n + m) k w = refCfg W m k' w' := by
  unfold refCfg
  rw [refIter_add, h]
  have := refIter_cfg_indep W m k' w' r .none
  simp only [this.1, this.2]

/-- how a chain may end, in terms of the reference configuration `k'` it stopped at, the value register `r` of the
last `_do_step` call (the value of the step function it called, `.none` if it called none), and the result -/
def Final (k' : Block) (r res : Ret) : Prop :=
  (k' = [] ∧ res = r)                                         -- ran off the end of the outline
  ∨ (∃ c k'', k' = .ret c :: k'' ∧ res = retOfCode c)         -- reached a `return_`
  ∨ (∃ v, r = .val v ∧ res = .val v)                           -- a step returned a value: stop at once

/-- **C09, one `_do_step`**: a call of `_do_step` in a live stepper state performs finitely many steps of the
reference semantics on the remaining program `absB is s`; if it asks to be continued, the new stepper state is live and
denotes the reference's remaining program (so the statement applies again — also along non-terminating chains). -/
theorem C09_doStep_refines {σ} (W : World σ) (is : Block) (hwf : wfB is = true) (s : St) (w : σ)
    (hinv : invB is s) :
    match doStep W is s w with
    | .cont s' w' r => ∃ n, refIter W n (absB is s) w .none = (absB is s', w', r) ∧ invB is s' ∧ isCtxOrNone r = true
    | .done res w' => ∃ n k' r, refIter W n (absB is s) w .none = (k', w', r) ∧ Final k' r res
    | .error _ => False := by
  have hs := stepper_refines W is hwf s w [] hinv
  unfold doStep
  cases hst : stepB W is s w with
  | error w' => rw [hst] at hs; simp [Sim] at hs
  | propagate c w' =>
    rw [hst] at hs
    obtain ⟨n, k', h1, h2⟩ := hs
    simp only [List.append_nil] at h1 h2
    refine ⟨n, .ret c :: k', (refIter W n (absB is s) w .none).2.2, ?_, Or.inr (Or.inl ⟨c, k', rfl, rfl⟩)⟩
    rw [← h1, ← h2]
  | ok fin r s' w' =>
    rw [hst] at hs
    obtain ⟨n, h1, h2⟩ := hs
    simp only [List.append_nil] at h1
    cases fin with
    | true => exact ⟨n, [], r, h1, .inl ⟨rfl, rfl⟩⟩
    | false =>
      dsimp only
      cases hr : isCtxOrNone r with
      | true => exact ⟨n, h1, h2 rfl, hr⟩
      | false =>
        refine ⟨n, absB is s', r, h1, .inr (.inr ?_)⟩
        cases r with
        | val v => exact ⟨v, rfl, rfl⟩
        | _ => cases hr

/-- **C09, whole chain**: if the chain of `_do_step` calls started in a live stepper state ends with result `res` in
world `w'`, then the reference semantics, started on the remaining program in the same world, reaches world `w'`
(the same history of step and predicate calls, in the same order, and nothing after it) by `n₁` steps (the earlier
calls) followed by the `n₂` steps of the last call, and the result is classified by `Final`: the `return_` code, the
stopping value, or the value of the step called last (`None` when the last call only evaluated predicates). -/
theorem C09_chain_refines {σ} (W : World σ) (is : Block) (hwf : wfB is = true) (fuel : Nat) (s : St) (w : σ)
    (hinv : invB is s) (res : Ret) (w' : σ) (h : runChain W is fuel s w = some (res, w')) :
    ∃ n₁ k₁ w₁ n₂ k' r, refCfg W n₁ (absB is s) w = (k₁, w₁) ∧ refIter W n₂ k₁ w₁ .none = (k', w', r) ∧
      Final k' r res := by
  induction fuel generalizing s w with
  | zero => simp [runChain] at h
  | succ fuel ih =>
    have hd := C09_doStep_refines W is hwf s w hinv
    simp only [runChain] at h
    cases hdo : doStep W is s w with
    | error w2 => rw [hdo] at hd; exact hd.elim
    | done r2 w2 =>
      rw [hdo] at hd h
      simp only [Option.some.injEq, Prod.mk.injEq] at h
      obtain ⟨rfl, rfl⟩ := h
      obtain ⟨n, k', r, h1, h2⟩ := hd
      exact ⟨0, absB is s, w, n, k', r, by simp [refCfg, refIter], h1, h2⟩
    | cont s2 w2 r2 =>
      rw [hdo] at hd h
      obtain ⟨n, h1, h2, _⟩ := hd
      obtain ⟨n₁, k₁, w₁, n₂, k', r, g1, g2, g3⟩ := ih s2 w2 h2 h
      exact ⟨n + n₁, k₁, w₁, n₂, k', r, (refCfg_after W h1 n₁).trans g1, g2, g3⟩

/-- the chain started on a whole well-formed outline: specialisation to the initial stepper -/
theorem C09_outline_refines {σ} (W : World σ) (is : Block) (hwf : wfB is = true) (fuel : Nat) (w : σ)
    (res : Ret) (w' : σ) (h : runChain W is fuel (createBlock is) w = some (res, w')) :
    ∃ n₁ k₁ w₁ n₂ k' r, refCfg W n₁ is w = (k₁, w₁) ∧ refIter W n₂ k₁ w₁ .none = (k', w', r) ∧ Final k' r res := by
  have hi := initial_stepper is hwf
  have := C09_chain_refines W is hwf fuel (createBlock is) w hi.2 res w' h
  rwa [hi.1] at this

/-! The clauses of the property about `if_`/`elif_`/`else_` and `while_` are properties of the specification `ref1`;
they are stated here so that the specification itself is pinned down. -/

/-- `if_`: a true predicate selects its body and no later predicate is evaluated (the world only records `p`) -/
theorem C09_if_first_true {σ} (W : World σ) (p : Nat) (b : Block) (rest : List Branch) (k : Block) (w : σ)
    (ht : (W.pred w p).2 = true) :
    ref1 W (.ite ((some p, b) :: rest) :: k) w = .next (b ++ k) (W.pred w p).1 none := by
  simp [ref1, ht]

/-- `if_`: a false predicate moves on to the next branch, `else_` is taken unconditionally, no branch: skip -/
theorem C09_if_false_next {σ} (W : World σ) (p : Nat) (b : Block) (rest : List Branch) (k : Block) (w : σ)
    (hf : (W.pred w p).2 = false) :
    ref1 W (.ite ((some p, b) :: rest) :: k) w = .next (.ite rest :: k) (W.pred w p).1 none := by
  simp [ref1, hf]

theorem C09_else_taken {σ} (W : World σ) (b : Block) (rest : List Branch) (k : Block) (w : σ) :
    ref1 W (.ite ((none, b) :: rest) :: k) w = .next (b ++ k) w none := by
  simp [ref1]

/-- `while_` evaluates its predicate before every iteration: after the body the loop itself is next -/
theorem C09_while_reevaluates {σ} (W : World σ) (p : Nat) (b : Block) (k : Block) (w : σ) :
    ref1 W (.while_ p b :: k) w =
      if (W.pred w p).2 then .next (b ++ .while_ p b :: k) (W.pred w p).1 none else .next k (W.pred w p).1 none := by
  simp [ref1]

/-- `return_` halts the reference: nothing after it is executed -/
theorem C09_return_halts {σ} (W : World σ) (c : Option Int) (k : Block) (w : σ) (n : Nat) (r : Ret) :
    refIter W n (.ret c :: k) w r = (.ret c :: k, w, r) := by
  cases n <;> simp [refIter, ref1]

-- non-vacuity: a concrete nested outline is well formed and its chain terminates with a `return_` code
section
private def demoW : World (List Nat) where
  stepFn w f := (f :: w, .none)
  pred w p := ((100 + p) :: w, w.length < 4)
private def demo : Block := [.call 1, .while_ 0 [.call 2, .ite [(some 1, [.ret (some 7)])]], .call 3]
example : wfB demo = true := by decide
example : runChain demoW demo 10 (createBlock demo) [] = some (.val 7, [101, 2, 100, 1]) := by decide +kernel
end

end Outline
