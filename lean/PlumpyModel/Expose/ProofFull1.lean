import PlumpyModel.Expose.Full
/-!
Helper lemmas for the full expose model (C15): the port dict (`lookup` / `setPort`), identities, and the
decomposition of the `absorb` loop into "make the copies" and "assign them into the dict".
-/
namespace Expose
namespace Full

@[simp] theorem keys_nil : keys ([] : Ports) = [] := rfl
@[simp] theorem keys_cons (e : Name × Obj) (ps : Ports) : keys (e :: ps) = e.1 :: keys ps := rfl

theorem lookup_setPort_same (n : Name) (v : Obj) (ps : Ports) : lookup n (setPort n v ps) = some v := by
  fun_induction setPort n v ps <;> simp_all [lookup]

theorem lookup_setPort_ne {m n : Name} (v : Obj) (h : m ≠ n) (ps : Ports) :
    lookup m (setPort n v ps) = lookup m ps := by
  fun_induction setPort n v ps <;> simp_all [lookup, Ne.symm h]

theorem lookup_none_iff {n : Name} {ps : Ports} : lookup n ps = none ↔ n ∉ keys ps := by
  fun_induction lookup n ps <;> simp_all [eq_comm]

theorem mem_of_lookup {n : Name} {o : Obj} {ps : Ports} (h : lookup n ps = some o) : (n, o) ∈ ps := by
  fun_induction lookup n ps <;> simp_all

theorem lookup_of_mem {n : Name} {o : Obj} {ps : Ports} (hd : (keys ps).Nodup) (h : (n, o) ∈ ps) :
    lookup n ps = some o := by
  fun_induction lookup n ps
  case case1 => simp at h
  case case2 p rest =>
    simp only [keys_cons, List.nodup_cons] at hd
    rcases List.mem_cons.mp h with h | h
    · simp_all
    · exact absurd (List.mem_map.mpr ⟨_, h, rfl⟩) hd.1
  case case3 m p rest hm ih =>
    simp only [keys_cons, List.nodup_cons] at hd
    rcases List.mem_cons.mp h with h | h
    · exact absurd (Prod.mk.inj h).1.symm hm
    · exact ih hd.2 h

theorem keys_setPort (n : Name) (v : Obj) (ps : Ports) :
    keys (setPort n v ps) = if n ∈ keys ps then keys ps else keys ps ++ [n] := by
  fun_induction setPort n v ps
  case case3 m o rest hm ih => simp only [keys_cons, ih, List.mem_cons, Ne.symm hm, false_or]; split <;> rfl
  all_goals simp_all

theorem keys_setPort_prefix (n : Name) (v : Obj) (ps : Ports) : ∃ extra, keys (setPort n v ps) = keys ps ++ extra := by
  rw [keys_setPort]; split
  · exact ⟨[], by simp⟩
  · exact ⟨[n], rfl⟩

theorem setPort_append_new {n : Name} (v : Obj) {ps : Ports} (h : n ∉ keys ps) : setPort n v ps = ps ++ [(n, v)] := by
  fun_induction setPort n v ps <;> simp_all

/-- the identities of one object and everything below it -/
def oids : Obj → List Nat
  | .leaf i _ => [i]
  | .ns i _ sub => i :: ids sub

theorem ids_cons (n : Name) (o : Obj) (rest : Ports) : ids ((n, o) :: rest) = oids o ++ ids rest := by
  cases o <;> simp [ids, oids]

theorem ids_append : ∀ (a b : Ports), ids (a ++ b) = ids a ++ ids b
  | [], b => by simp [ids]
  | (n, o) :: rest, b => by
    have := ids_append rest b
    simp [ids_cons, this]

theorem ids_of_mem {n : Name} {o : Obj} {i : Nat} {ps : Ports} (h : (n, o) ∈ ps) (hi : i ∈ oids o) : i ∈ ids ps := by
  induction ps with
  | nil => simp at h
  | cons e rest ih =>
    rw [ids_cons, List.mem_append]
    rcases List.mem_cons.mp h with h | h
    · exact Or.inl (by rw [← h]; exact hi)
    · exact Or.inr (ih h)

theorem ids_setPort {n : Name} {v : Obj} {i : Nat} {ps : Ports} (h : i ∈ ids (setPort n v ps)) :
    i ∈ ids ps ∨ i ∈ oids v := by
  fun_induction setPort n v ps
  case case1 => simpa [ids_cons, ids] using h
  case case2 o rest =>
    rw [ids_cons, List.mem_append] at h ⊢
    exact h.elim Or.inr (Or.inl ∘ Or.inr)
  case case3 m o rest _ ih =>
    rw [ids_cons, List.mem_append] at h ⊢
    exact h.elim (Or.inl ∘ Or.inl) fun h => (ih h).imp_left Or.inr

/-- `for (name, v) in l: self[name] = v` -/
def assignAll (sp : Ports) (l : Ports) : Ports := l.foldl (fun acc e => setPort e.1 e.2 acc) sp

@[simp] theorem assignAll_nil (sp : Ports) : assignAll sp [] = sp := rfl
@[simp] theorem assignAll_cons (sp : Ports) (e : Name × Obj) (l : Ports) :
    assignAll sp (e :: l) = assignAll (setPort e.1 e.2 sp) l := rfl

/-- the copies that the loop of `absorb` makes of the selected source ports, in iteration order, and the counter afterwards
(the ports below a copied namespace are the result of the recursive `absorb` into its emptied dict) -/
def copies (ex inc : Option (List Rule)) : Ports → Nat → Ports × Nat
  | [], c => ([], c)
  | (name, p) :: rest, c =>
      if truthy ex && mentions ex name then copies ex inc rest c
      else match p with
        | .leaf _ a =>
            if truthy inc && !mentions inc name then copies ex inc rest c
            else ((name, .leaf c a) :: (copies ex inc rest (c + 1)).1, (copies ex inc rest (c + 1)).2)
        | .ns _ pr sub =>
            if truthy inc && !touches inc name then copies ex inc rest c
            else
              let inner := absorbLoop (strip name ex) (strip name inc) sub [] (c + 1)
              ((name, .ns c (overload pr [] pr).1 inner.1) :: (copies ex inc rest inner.2.1).1, (copies ex inc rest inner.2.1).2)

theorem absorbLoop_eq (ex inc : Option (List Rule)) (src sp : Ports) (c : Nat) :
    absorbLoop ex inc src sp c
      = (assignAll sp (copies ex inc src c).1, (copies ex inc src c).2, keys (copies ex inc src c).1) := by
  fun_induction copies ex inc src c generalizing sp
  case case2 name p rest c h ih => cases p <;> simp only [absorbLoop, h, ↓reduceIte, ih]
  all_goals simp +zetaDelta only [absorbLoop, *, Bool.false_eq_true, ↓reduceIte, keys_cons, keys_nil, assignAll_cons,
    assignAll_nil]

theorem lookup_assignAll_not_mem {n : Name} (l sp : Ports) (h : n ∉ keys l) :
    lookup n (assignAll sp l) = lookup n sp := by
  induction l generalizing sp with
  | nil => rfl
  | cons e l ih =>
    simp only [keys_cons, List.mem_cons, not_or] at h
    rw [assignAll_cons, ih _ h.2, lookup_setPort_ne _ h.1]

theorem lookup_assignAll_mem {n : Name} (l sp : Ports) (hd : (keys l).Nodup) (h : n ∈ keys l) :
    lookup n (assignAll sp l) = lookup n l := by
  induction l generalizing sp with
  | nil => simp at h
  | cons e l ih =>
    simp only [keys_cons, List.nodup_cons] at hd
    rw [assignAll_cons]
    by_cases hm : e.1 = n
    · rw [lookup_assignAll_not_mem l _ (hm ▸ hd.1), ← hm, lookup_setPort_same]
      simp [lookup]
    · rw [ih _ hd.2 ((List.mem_cons.mp h).resolve_left (Ne.symm hm))]
      simp [lookup, hm]

theorem mem_of_lookup_assignAll {n : Name} {o : Obj} (l sp : Ports) (h : n ∈ keys l)
    (hl : lookup n (assignAll sp l) = some o) : (n, o) ∈ l := by
  induction l generalizing sp with
  | nil => simp at h
  | cons e l ih =>
    rw [assignAll_cons] at hl
    by_cases hin : n ∈ keys l
    · exact List.mem_cons_of_mem _ (ih _ hin hl)
    · have he : n = e.1 := (List.mem_cons.mp h).resolve_right hin
      rw [lookup_assignAll_not_mem _ _ hin, he, lookup_setPort_same, Option.some.injEq] at hl
      rw [he, ← hl]
      exact List.mem_cons_self

theorem keys_assignAll_prefix (l sp : Ports) : ∃ extra, keys (assignAll sp l) = keys sp ++ extra := by
  induction l generalizing sp with
  | nil => exact ⟨[], by simp⟩
  | cons e l ih =>
    obtain ⟨e1, h1⟩ := ih (setPort e.1 e.2 sp)
    obtain ⟨e2, h2⟩ := keys_setPort_prefix e.1 e.2 sp
    exact ⟨e2 ++ e1, by rw [assignAll_cons, h1, h2, List.append_assoc]⟩

theorem ids_assignAll {i : Nat} (l sp : Ports) (h : i ∈ ids (assignAll sp l)) : i ∈ ids sp ∨ i ∈ ids l := by
  induction l generalizing sp with
  | nil => exact Or.inl h
  | cons e l ih =>
    rw [show e = (e.1, e.2) from rfl, ids_cons, List.mem_append]
    rcases ih _ h with h | h
    · rcases ids_setPort h with h | h
      · exact Or.inl h
      · exact Or.inr (Or.inl h)
    · exact Or.inr (Or.inr h)

theorem assignAll_append (l sp : Ports) (hd : (keys l).Nodup) (hdis : ∀ n ∈ keys l, n ∉ keys sp) :
    assignAll sp l = sp ++ l := by
  induction l generalizing sp with
  | nil => simp
  | cons e l ih =>
    simp only [keys_cons, List.nodup_cons, List.forall_mem_cons] at hd hdis
    rw [assignAll_cons, setPort_append_new _ hdis.1, ih _ hd.2, List.append_assoc]; rfl
    intro n hn hc
    simp only [keys, List.map_append, List.mem_append, List.map_cons, List.map_nil, List.mem_singleton] at hc
    rcases hc with hc | hc
    · exact hdis.2 n hn hc
    · exact hd.1 (hc ▸ hn)

end Full
end Expose
