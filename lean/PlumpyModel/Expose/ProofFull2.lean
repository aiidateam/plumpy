import PlumpyModel.Expose.ProofFull1
/-!
Helper lemmas for the full expose model (C15): the copies that the loop of `absorb` makes — their names, what they
are copies of, that read as a tree they are the selection of `Expose/Model.lean`, and that their identities are fresh.

The proofs follow the definition of `copies` (`fun_induction`); its cases, in order: 1 no port left, 2 the port is excluded,
3 a leaf that is not included, 4 a leaf that is copied, 5 a namespace no include rule touches, 6 a namespace that is copied.
`copies` does not recurse into nested namespaces (it calls `absorbLoop` for them), so the facts that need an induction
hypothesis for the nested namespaces are proved by the induction principle of `absorbLoop`, which does and has the same cases.
-/
namespace Expose
namespace Full

/-- the names that `absorb` returns (`expose_memory`): the top-level names of the selection of `Expose/Model.lean` -/
def absorbedNames (ex inc : Option (List Rule)) (src : Ports) : List Name := (absorbPorts ex inc (toPT src)).map (·.1)

section
variable (ex inc : Option (List Rule))

theorem keys_copies (src : Ports) (c : Nat) :
    keys (copies ex inc src c).1 = absorbedNames ex inc src := by
  unfold absorbedNames
  fun_induction copies ex inc src c
  case case2 name p rest c h ih => cases p <;> simpa only [toPT, absorbPorts, h, ↓reduceIte] using ih
  all_goals simp only [toPT, absorbPorts, *, Bool.false_eq_true, ↓reduceIte, keys_cons, keys_nil, List.map_cons,
    List.map_nil]

theorem keys_copies_sublist (src : Ports) (c : Nat) :
    (keys (copies ex inc src c).1).Sublist (keys src) := by
  fun_induction copies ex inc src c
  case case1 => exact .slnil
  case case4 ih => exact ih.cons_cons _
  case case6 ih => exact ih.cons_cons _
  all_goals exact .cons _ ‹_›

theorem nodup_keys_copies {src : Ports} (c : Nat) (h : (keys src).Nodup) :
    (keys (copies ex inc src c).1).Nodup :=
  (keys_copies_sublist ex inc src c).nodup h

theorem absorbLoop_empty (src : Ports) (c : Nat) (h : (keys src).Nodup) :
    (absorbLoop ex inc src [] c).1 = (copies ex inc src c).1 := by
  rw [absorbLoop_eq, assignAll_append _ _ (nodup_keys_copies ex inc c h) (by simp)]
  rfl

theorem copies_entry (src : Ports) (c : Nat) (n : Name) (o : Obj)
    (h : (n, o) ∈ (copies ex inc src c).1) :
    ∃ p c1, (n, p) ∈ src ∧
      ((∃ j a, p = .leaf j a ∧ o = .leaf c1 a) ∨
       (∃ j pr sub, p = .ns j pr sub ∧
          o = .ns c1 (overload pr [] pr).1 (absorbLoop (strip n ex) (strip n inc) sub [] (c1 + 1)).1)) := by
  fun_induction copies ex inc src c
  case case1 => cases h
  case case4 name rest c _ j a _ ih =>
    rcases List.mem_cons.mp h with h | h
    · cases h; exact ⟨_, c, List.mem_cons_self, Or.inl ⟨j, a, rfl, rfl⟩⟩
    · exact (ih h).imp fun _ => Exists.imp fun _ => And.imp_left (List.mem_cons_of_mem _)
  case case6 name rest c _ j pr sub _ _ ih =>
    rcases List.mem_cons.mp h with h | h
    · cases h; exact ⟨_, c, List.mem_cons_self, Or.inr ⟨j, pr, sub, rfl, rfl⟩⟩
    · exact (ih h).imp fun _ => Exists.imp fun _ => And.imp_left (List.mem_cons_of_mem _)
  -- a port that is passed over: the entry comes from the rest of the source
  all_goals rename_i ih; exact (ih h).imp fun _ => Exists.imp fun _ => And.imp_left (List.mem_cons_of_mem _)

end

/-- the representation invariant of a port tree: `_ports` is a dict, so the keys of every namespace are distinct -/
def DK : Ports → Prop
  | [] => True
  | (n, .leaf _ _) :: rest => n ∉ keys rest ∧ DK rest
  | (n, .ns _ _ sub) :: rest => n ∉ keys rest ∧ DK sub ∧ DK rest

theorem DK_nodup {src : Ports} (h : DK src) : (keys src).Nodup := by
  fun_induction DK src <;> simp_all

theorem DK_of_mem {n : Name} {j : Nat} {pr : Props} {sub src : Ports} (h : DK src) (hm : (n, .ns j pr sub) ∈ src) :
    DK sub := by
  fun_induction DK src
  case case1 => cases hm
  case case2 ih => exact ih h.2 ((List.mem_cons.mp hm).resolve_left (by simp))
  case case3 ih =>
    rcases List.mem_cons.mp hm with hm | hm
    · cases hm; exact h.2.1
    · exact ih h.2.2 hm

theorem toPT_copies (src : Ports) (ex inc : Option (List Rule)) (c : Nat) (h : DK src) :
    toPT (copies ex inc src c).1 = absorbPorts ex inc (toPT src) := by
  fun_induction absorbLoop ex inc src [] c
  case case1 => simp only [copies, toPT, absorbPorts]
  case case2 p _ _ _ h1 ih => cases p <;> simp_all only [DK, copies, toPT, absorbPorts, ↓reduceIte]
  case case6 name rest _ c h1 _ pr sub h2 inner _ ihs ih =>
    simp only [DK] at h
    simp only [inner] at ih
    simp only [copies, toPT, absorbPorts, h1, h2, Bool.false_eq_true, ↓reduceIte,
      absorbLoop_empty _ _ _ _ (DK_nodup h.2.1), ihs h.2.1, ih h.2.2]
  all_goals simp_all only [DK, copies, toPT, absorbPorts, Bool.false_eq_true, ↓reduceIte]

theorem absorbLoop_fresh_of {ex inc : Option (List Rule)} {src : Ports} {c : Nat}
    (h : c ≤ (copies ex inc src c).2 ∧ ∀ i ∈ ids (copies ex inc src c).1, c ≤ i ∧ i < (copies ex inc src c).2)
    (sp : Ports) :
    c ≤ (absorbLoop ex inc src sp c).2.1 ∧
    ∀ i ∈ ids (absorbLoop ex inc src sp c).1, i ∈ ids sp ∨ (c ≤ i ∧ i < (absorbLoop ex inc src sp c).2.1) := by
  rw [absorbLoop_eq]
  exact ⟨h.1, fun i hi => (ids_assignAll _ _ hi).imp_right (h.2 i)⟩

theorem copies_fresh (src : Ports) (ex inc : Option (List Rule)) (c : Nat) :
    c ≤ (copies ex inc src c).2 ∧ ∀ i ∈ ids (copies ex inc src c).1, c ≤ i ∧ i < (copies ex inc src c).2 := by
  fun_induction absorbLoop ex inc src [] c
  case case1 => simp [copies, ids]
  case case2 p _ _ _ h ih => cases p <;> simpa only [copies, h, ↓reduceIte] using ih
  case case3 h1 _ _ h2 ih => simpa only [copies, h1, h2, Bool.false_eq_true, ↓reduceIte] using ih
  case case5 h1 _ _ _ h2 ih => simpa only [copies, h1, h2, Bool.false_eq_true, ↓reduceIte] using ih
  case case4 name rest _ c h1 _ a h2 _ ih =>
    simp only [copies, h1, h2, Bool.false_eq_true, ↓reduceIte, ids_cons, oids, List.singleton_append, List.mem_cons,
      forall_eq_or_imp]
    exact ⟨Nat.le_of_succ_le ih.1, ⟨Nat.le_refl _, ih.1⟩, fun i hi => (ih.2 i hi).imp_left Nat.le_of_succ_le⟩
  case case6 name rest _ c h1 _ pr sub h2 inner _ ihs ih =>
    -- the identities below the copied namespace: `c + 1 ≤ · < inner.2.1`; those of the later copies: `inner.2.1 ≤ ·`
    have hin := absorbLoop_fresh_of ihs []
    simp only [inner] at ih
    simp only [copies, h1, h2, Bool.false_eq_true, ↓reduceIte, ids_cons, oids, List.cons_append, List.mem_cons,
      List.mem_append, forall_eq_or_imp]
    have hc := Nat.le_of_succ_le hin.1
    refine ⟨Nat.le_trans hc ih.1, ⟨Nat.le_refl _, Nat.le_trans hin.1 ih.1⟩, fun i hi => ?_⟩
    rcases hi with hi | hi
    · have h := (hin.2 i hi).resolve_left (by simp [ids])
      exact ⟨Nat.le_of_succ_le h.1, Nat.lt_of_lt_of_le h.2 ih.1⟩
    · exact (ih.2 i hi).imp_left (Nat.le_trans hc)

end Full
end Expose
