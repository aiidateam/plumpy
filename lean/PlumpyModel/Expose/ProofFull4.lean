import PlumpyModel.Expose.ProofFull3
/-!
Helper lemmas for the full expose model (C15): the overload loop (the properties it sets, the options it leaves
over), and identities over sequences of calls.
-/
namespace Expose
namespace Full

theorem optGet_optDel_ne {i j : Nat} (h : i ≠ j) (o : Opts) : optGet i (optDel j o) = optGet i o := by
  fun_induction optDel j o <;> simp_all [optGet, Ne.symm h]

/-- the value a property gets from the overload loop when setters have no side effect: the override, else the source's -/
def effProp (src : Props) (opts : Opts) (j : Nat) : Nat := (optGet j opts).getD (src.getD j 0)

/-- the properties after the overload loop: override or source's value; `dynamic` is `True` whenever the `valid_type` that
is set (later in the enumeration) is not `None` -/
def expectedProps (src : Props) (opts : Opts) : Props :=
  (List.range nProps).map fun j =>
    if j = dynIdx ∧ effProp src opts vtIdx ≠ noneAtom then trueAtom else effProp src opts j

theorem expectedProps_eq (s0 s1 s2 s3 s4 s5 s6 : Nat) (opts : Opts) :
    expectedProps [s0, s1, s2, s3, s4, s5, s6] opts =
      [(optGet 0 opts).getD s0, if (optGet 5 opts).getD s5 ≠ 0 then 1 else (optGet 1 opts).getD s1,
        (optGet 2 opts).getD s2, (optGet 3 opts).getD s3, (optGet 4 opts).getD s4, (optGet 5 opts).getD s5,
        (optGet 6 opts).getD s6] := by
  have h : List.range nProps = [0, 1, 2, 3, 4, 5, 6] := rfl
  simp only [expectedProps, h, List.map, dynIdx, vtIdx, noneAtom, trueAtom, effProp]
  simp (config := { decide := true }) only [true_and, false_and, if_false, List.getD_cons_zero, List.getD_cons_succ]

theorem eq_seven {l : List Nat} (h : l.length = nProps) : ∃ a b c d e f g, l = [a, b, c, d, e, f, g] := by
  rcases l with _ | ⟨a, _ | ⟨b, _ | ⟨c, _ | ⟨d, _ | ⟨e, _ | ⟨f, _ | ⟨g, _ | ⟨x, l⟩⟩⟩⟩⟩⟩⟩⟩
  case cons.cons.cons.cons.cons.cons.cons.nil => exact ⟨a, b, c, d, e, f, g, rfl⟩
  all_goals cases h

theorem overload_props (src self : Props) (opts : Opts) (hs : src.length = nProps) (hd : self.length = nProps) :
    (overload src opts self).1 = expectedProps src opts := by
  obtain ⟨s0, s1, s2, s3, s4, s5, s6, rfl⟩ := eq_seven hs
  obtain ⟨d0, d1, d2, d3, d4, d5, d6, rfl⟩ := eq_seven hd
  rw [expectedProps_eq]
  simp only [overload, overloadFrom, setProp, vtIdx, dynIdx, noneAtom, trueAtom]
  -- an option is looked up after the options of the earlier properties have been deleted: that changes nothing
  simp (config := { decide := true }) only [optGet_optDel_ne, ne_eq, List.set_cons_zero, List.set_cons_succ, false_and,
    if_false, true_and, Nat.reduceAdd]
  split <;> rfl

theorem mem_optDel {i : Nat} {kv : Nat × Nat} {o : Opts} : kv ∈ optDel i o ↔ kv ∈ o ∧ kv.1 ≠ i := by
  fun_induction optDel i o
  case case1 => simp
  case case2 v rest ih =>
    rw [ih, List.mem_cons]
    exact ⟨fun h => ⟨Or.inr h.1, h.2⟩, fun h => ⟨h.1.resolve_left fun he => h.2 (he ▸ rfl), h.2⟩⟩
  case case3 k v rest hk ih =>
    rw [List.mem_cons, ih, List.mem_cons]
    exact ⟨fun h => h.elim (fun he => ⟨Or.inl he, he ▸ hk⟩) fun h => ⟨Or.inr h.1, h.2⟩,
      fun h => h.1.imp_right fun h' => ⟨h', h.2⟩⟩

theorem mem_overloadFrom_left {kv : Nat × Nat} (src : Props) (i : Nat) (opts : Opts) (self : Props) :
    kv ∈ (overloadFrom i src opts self).2 ↔ kv ∈ opts ∧ ¬ (i ≤ kv.1 ∧ kv.1 < i + src.length) := by
  fun_induction overloadFrom i src opts self
  case case1 => simp
  case case2 ih =>
    rw [ih, mem_optDel, List.length_cons]
    exact ⟨fun ⟨⟨h1, h2⟩, h3⟩ => ⟨h1, by omega⟩, fun ⟨h1, h2⟩ => ⟨⟨h1, by omega⟩, by omega⟩⟩

theorem exposeSeq_idsOK (calls : List Call) (dst : Ns) (c : Nat) :
    IdsOK dst c (exposeSeq calls dst c).1 (exposeSeq calls dst c).2 := by
  fun_induction exposeSeq calls dst c
  case case1 => exact .rfl
  case case2 k rest dst c r ih => exact (exposePorts_idsOK ..).trans ih

end Full
end Expose
