import PlumpyModel.Expose.Model
namespace Expose

def rulesOf (rs : Option (List Rule)) : List Rule := rs.getD []

/-- rules come from splitting non-empty strings: no rule is the empty list -/
def WF (rs : Option (List Rule)) : Prop := ∀ r ∈ rulesOf rs, r ≠ []
/-- the property's side condition: no rule is an ancestor of another rule of the same set -/
def NoAnc (rs : Option (List Rule)) : Prop := ∀ r1 ∈ rulesOf rs, ∀ r2 ∈ rulesOf rs, isPrefix r1 r2 = true → r1 = r2

theorem mem_strip {name : Name} {rs : Option (List Rule)} {q : Rule} :
    q ∈ rulesOf (strip name rs) ↔ q ≠ [] ∧ (name :: q) ∈ rulesOf rs := by
  cases rs with
  | none => simp [strip, rulesOf]
  | some l =>
    simp only [strip, rulesOf, Option.getD_some, List.mem_filterMap]
    constructor
    · rintro ⟨r, hr, hq⟩
      cases r with
      | nil => simp at hq
      | cons n rest =>
        simp only at hq
        split at hq
        · rename_i hc; cases hq; exact ⟨hc.2, by rw [← hc.1]; exact hr⟩
        · simp at hq
    · rintro ⟨hne, hm⟩
      exact ⟨name :: q, hm, by simp [hne]⟩

theorem WF_strip {name : Name} {rs} : WF (strip name rs) :=
  fun _ hr => (mem_strip.mp hr).1

theorem NoAnc_strip {name : Name} {rs} (h : NoAnc rs) : NoAnc (strip name rs) := by
  intro r1 h1 r2 h2 hp
  have := h (name :: r1) (mem_strip.mp h1).2 (name :: r2) (mem_strip.mp h2).2 (by simp [isPrefix, hp])
  simpa using this

theorem anyPrefix_iff {rs : Option (List Rule)} {path : List Name} :
    anyPrefix rs path = true ↔ ∃ r ∈ rulesOf rs, r ≠ [] ∧ isPrefix r path = true := by
  cases rs with
  | none => simp [anyPrefix, rulesOf]
  | some l => simp [anyPrefix, rulesOf, List.any_eq_true]

theorem truthy_iff {rs : Option (List Rule)} : truthy rs = true ↔ rulesOf rs ≠ [] := by
  cases rs with
  | none => simp [truthy, rulesOf]
  | some l => cases l <;> simp [truthy, rulesOf]

theorem mentions_iff {rs : Option (List Rule)} {name : Name} : mentions rs name = true ↔ [name] ∈ rulesOf rs := by
  cases rs with
  | none => simp [mentions, rulesOf]
  | some l => simp [mentions, rulesOf]

theorem touches_iff {rs : Option (List Rule)} {name : Name} :
    touches rs name = true ↔ ∃ r ∈ rulesOf rs, r.head? = some name := by
  cases rs with
  | none => simp [touches, rulesOf]
  | some l => simp [touches, rulesOf, List.any_eq_true]

theorem truthy_of_mem {rs : Option (List Rule)} {r : Rule} (h : r ∈ rulesOf rs) : truthy rs = true :=
  truthy_iff.mpr (List.ne_nil_of_mem h)

/-- the test `exclude and port_name in exclude` is the membership test alone -/
theorem truthy_and_mentions (rs : Option (List Rule)) (name : Name) :
    (truthy rs && mentions rs name) = mentions rs name := by
  cases hm : mentions rs name
  · simp
  · simp [truthy_of_mem (mentions_iff.mp hm)]

theorem touches_eq (rs : Option (List Rule)) (name : Name) :
    touches rs name = (mentions rs name || truthy (strip name rs)) := by
  apply Bool.eq_iff_iff.mpr
  simp only [Bool.or_eq_true, touches_iff, mentions_iff, truthy_iff]
  constructor
  · rintro ⟨r, hr, hh⟩
    match r, hh with
    | [_], rfl => exact Or.inl hr
    | _ :: a :: as, rfl => exact Or.inr (List.ne_nil_of_mem (mem_strip.mpr ⟨List.cons_ne_nil a as, hr⟩))
  · rintro (h | h)
    · exact ⟨_, h, rfl⟩
    · have ⟨q, hq⟩ := List.exists_mem_of_ne_nil _ h
      exact ⟨_, (mem_strip.mp hq).2, rfl⟩

theorem anyPrefix_cons {rs : Option (List Rule)} {name : Name} {q : List Name} :
    anyPrefix rs (name :: q) = (mentions rs name || anyPrefix (strip name rs) q) := by
  apply Bool.eq_iff_iff.mpr
  simp only [Bool.or_eq_true, anyPrefix_iff, mentions_iff]
  constructor
  · rintro ⟨r, hr, hne, hp⟩
    cases r with
    | nil => exact absurd rfl hne
    | cons n rest =>
      simp [isPrefix] at hp
      obtain ⟨rfl, hp⟩ := hp
      cases rest with
      | nil => exact Or.inl hr
      | cons a as => exact Or.inr ⟨a :: as, mem_strip.mpr ⟨by simp, hr⟩, by simp, hp⟩
  · rintro (hm | ⟨r, hr, hne, hp⟩)
    · exact ⟨[name], hm, by simp, by simp [isPrefix]⟩
    · exact ⟨name :: r, (mem_strip.mp hr).2, by simp, by simp [isPrefix, hp]⟩

theorem anyPrefix_nil (rs : Option (List Rule)) : anyPrefix rs [] = false := by
  apply Bool.eq_false_iff.mpr
  intro h
  obtain ⟨r, _, hne, hp⟩ := anyPrefix_iff.mp h
  cases r with
  | nil => exact hne rfl
  | cons a as => simp [isPrefix] at hp

theorem selected_leaf {ex inc : Option (List Rule)} {name : Name} :
    selected ex inc [name] = (!(truthy ex && mentions ex name) && !(truthy inc && !mentions inc name)) := by
  simp [selected, anyPrefix_cons, anyPrefix_nil, truthy_and_mentions]

theorem include_below {inc : Option (List Rule)} {name : Name} {q : List Name} (hna : NoAnc inc) :
    (!(truthy inc) || anyPrefix inc (name :: q))
      = (!(truthy inc && !touches inc name) && (!(truthy (strip name inc)) || anyPrefix (strip name inc) q)) := by
  have h1 : mentions inc name = true → truthy inc = true := fun h => truthy_of_mem (mentions_iff.mp h)
  have h2 : truthy (strip name inc) = true → truthy inc = true := fun h =>
    have ⟨_, hr⟩ := List.exists_mem_of_ne_nil _ (truthy_iff.mp h)
    truthy_of_mem (mem_strip.mp hr).2
  have h3 : anyPrefix (strip name inc) q = true → truthy (strip name inc) = true := fun h =>
    have ⟨_, hr, _⟩ := anyPrefix_iff.mp h
    truthy_of_mem hr
  -- the rule `name` itself is present: by `NoAnc` no rule goes deeper below it
  have h4 : mentions inc name = true → truthy (strip name inc) = false := fun hm =>
    Bool.eq_false_iff.mpr fun h =>
      have ⟨r, hr⟩ := List.exists_mem_of_ne_nil _ (truthy_iff.mp h)
      have hmem := mem_strip.mp hr
      hmem.1 (by simpa using (hna [name] (mentions_iff.mp hm) (name :: r) hmem.2 (by simp [isPrefix])).symm)
  rw [anyPrefix_cons, touches_eq]
  generalize truthy inc = t, mentions inc name = m, truthy (strip name inc) = s, anyPrefix (strip name inc) q = a
    at h1 h2 h3 h4 ⊢
  cases s
  · cases a
    · cases m
      · simp
      · simp [h1 rfl]
    · cases h3 rfl
  · cases m
    · simp [h2 rfl]
    · cases h4 rfl

/-- below a namespace the reference rule follows the tests of `absorb`: nothing is selected below an excluded namespace
or one that no given include rule touches; otherwise selection continues with the stripped rule sets -/
theorem selected_below {ex inc : Option (List Rule)} {name : Name} {q : List Name} (hna : NoAnc inc) :
    selected ex inc (name :: q) = (!(truthy ex && mentions ex name) && !(truthy inc && !touches inc name) &&
      selected (strip name ex) (strip name inc) q) := by
  rw [selected, include_below hna, anyPrefix_cons, Bool.not_or, truthy_and_mentions, selected]
  ac_rfl

/-- the selection needs only the side condition on the include rules -/
theorem absorbPorts_leafPaths {ex inc : Option (List Rule)} (ports : List (Name × PT)) (hna : NoAnc inc) :
    leafPaths (absorbPorts ex inc ports) = (leafPaths ports).filter (selected ex inc) := by
  -- the cases of `absorbPorts`: 1 no port left, 2 the port is excluded, 3 / 4 a leaf that is not / is included,
  -- 5 / 6 a namespace that no include rule touches / that is entered with the stripped rules
  fun_induction absorbPorts ex inc ports
  case case1 => simp [leafPaths]
  case case2 name p rest tail hm ih =>
    cases p <;> simp [tail, leafPaths, List.filter_map, Function.comp_def, selected_below hna, hm, ih hna]
  case case3 name rest tail hm a ht ih => simp [tail, leafPaths, selected_leaf, hm, ht, ih hna]
  case case4 name rest tail hm a ht ih => simp [tail, leafPaths, selected_leaf, hm, ht, ih hna]
  case case5 name rest tail hm a ps ht ih =>
    simp [tail, leafPaths, List.filter_map, Function.comp_def, selected_below hna, hm, ht, ih hna]
  case case6 name rest tail hm a ps ht ih ihs =>
    simp [tail, leafPaths, List.filter_map, Function.comp_def, selected_below hna, hm, ht, ih hna, ihs (NoAnc_strip hna)]

/-- **C15 (model level), selection**: the leaf ports that `absorb` copies are exactly the source leaves selected
by the rules under component-wise path matching, in source order, for every port tree and every rule sets
(exclude arbitrary; include without a rule that is an ancestor of another). -/
theorem selection_exact : ∀ (ports : List (Name × PT)) (ex inc : Option (List Rule)),
    WF ex → WF inc → NoAnc inc →
    leafPaths (absorbPorts ex inc ports) = (leafPaths ports).filter (selected ex inc) :=
  fun ports _ _ _ _ hna => absorbPorts_leafPaths ports hna

end Expose

#print axioms Expose.selection_exact
