import PlumpyModel.Expose.ProofFull2
/-!
Helper lemmas for the full expose model (C15): the outcomes of `absorb`, and the walk `exposeAt`
(`create_port_namespace` + the call on the namespace it returns): its target, what it keeps (the root, the frame, the
identities) and what a raising call keeps.
-/
namespace Expose
namespace Full

theorem absorbTop_exclusive {src : Ns} {ex inc : Option (List Rule)} {opts : Opts} {self : Ns} {c : Nat}
    (h : (ex.isSome && inc.isSome) = true) : absorbTop src ex inc opts self c = (self, c, .error .exclusive) := by
  simp [absorbTop, h]

theorem absorbTop_unknown {src : Ns} {ex inc : Option (List Rule)} {opts : Opts} {self : Ns} {c : Nat}
    (h1 : (ex.isSome && inc.isSome) = false) (h2 : (overload src.props opts self.props).2 ≠ []) :
    absorbTop src ex inc opts self c
      = ({ self with props := (overload src.props opts self.props).1 }, c, .error .unknownOption) := by
  simp [absorbTop, h1, h2]

theorem absorbTop_ok {src : Ns} {ex inc : Option (List Rule)} {opts : Opts} {self : Ns} {c : Nat}
    (h1 : (ex.isSome && inc.isSome) = false) (h2 : (overload src.props opts self.props).2 = []) :
    absorbTop src ex inc opts self c
      = ({ self with props := (overload src.props opts self.props).1, ports := assignAll self.ports (copies ex inc src.ports c).1 },
         (copies ex inc src.ports c).2, .ok (keys (copies ex inc src.ports c).1)) := by
  simp [absorbTop, h1, h2, absorbLoop_eq]

theorem absorbTop_cases (src : Ns) (ex inc : Option (List Rule)) (opts : Opts) (self : Ns) (c : Nat) :
    (∃ props e, absorbTop src ex inc opts self c = ({ self with props := props }, c, .error e)) ∨
    ∃ props, absorbTop src ex inc opts self c =
      ({ self with props := props, ports := assignAll self.ports (copies ex inc src.ports c).1 },
        (copies ex inc src.ports c).2, .ok (keys (copies ex inc src.ports c).1)) := by
  cases h1 : (ex.isSome && inc.isSome) with
  | true => exact Or.inl ⟨self.props, _, absorbTop_exclusive h1⟩
  | false =>
    by_cases h2 : (overload src.props opts self.props).2 = []
    · exact Or.inr ⟨_, absorbTop_ok h1 h2⟩
    · exact Or.inl ⟨_, _, absorbTop_unknown h1 h2⟩

/-! The proofs about the walk follow the definition of `exposeAt` (`fun_induction`); its cases, in order: 1 the path is used up
(the call `k` is made), 2 the empty last name `'a.'`, 3 a leaf port in the way, 4 an existing namespace is entered, 5 a new
namespace is created and entered.  `targetOf` has the same five. -/

theorem exposeAt_target {k : Ns → Nat → Res} (t : List Name) (self : Ns) (c : Nat) (tgt0 : Ns) (c0 : Nat)
    (h : targetOf t self c = some (tgt0, c0)) :
    (exposeAt k t self c).2 = (k tgt0 c0).2 ∧ nsAt t (exposeAt k t self c).1 = some (k tgt0 c0).1 := by
  fun_induction exposeAt k t self c
  case case1 => cases h; exact ⟨rfl, rfl⟩
  case case2 hc => simp [targetOf, hc] at h
  case case3 hne _ _ hl => simp [targetOf, hne, hl] at h
  case case4 hne _ _ _ hl r ih =>
    simp only [targetOf, hne, hl, ↓reduceIte] at h
    exact ⟨(ih h).1, by simp only [nsAt, lookup_setPort_same, Ns.toObj]; exact (ih h).2⟩
  case case5 hne hl r ih =>
    simp only [targetOf, hne, hl, ↓reduceIte] at h
    exact ⟨(ih h).1, by simp only [nsAt, lookup_setPort_same, Ns.toObj]; exact (ih h).2⟩

theorem exposeAt_no_target {k : Ns → Nat → Res} (t : List Name) (self : Ns) (c : Nat) (h : targetOf t self c = none) :
    (exposeAt k t self c).2.2 = .error .occupied ∨ (exposeAt k t self c).2.2 = .error .emptyName := by
  fun_induction exposeAt k t self c
  case case1 => cases h
  case case2 => exact Or.inr rfl
  case case3 => exact Or.inl rfl
  case case4 hne _ _ _ hl r ih => simp only [targetOf, hne, hl, ↓reduceIte] at h; exact ih h
  case case5 hne hl r ih => simp only [targetOf, hne, hl, ↓reduceIte] at h; exact ih h

theorem exposePorts_target (src : Ns) (nsp : Option (List Name)) {ex inc : Option (List Rule)} (opts : Option Opts)
    {dst : Ns} {c : Nat} {tgt0 : Ns} {c0 : Nat} (hguard : (truthy ex && inc.isSome) = false)
    (ht : targetOf (nsPath nsp) dst c = some (tgt0, c0)) :
    (exposePorts src nsp ex inc opts dst c).2 = (absorbTop src ex inc (opts.getD []) tgt0 c0).2 ∧
    nsAt (nsPath nsp) (exposePorts src nsp ex inc opts dst c).1 = some (absorbTop src ex inc (opts.getD []) tgt0 c0).1 := by
  simp only [exposePorts, hguard, Bool.false_eq_true, if_false]
  exact exposeAt_target _ _ _ _ _ ht

/-- what passes the guard of `absorb` passes the guard of `_expose_ports` -/
theorem guard_of_rules {ex inc : Option (List Rule)} (h : (ex.isSome && inc.isSome) = false) :
    (truthy ex && inc.isSome) = false := by
  cases ex <;> cases inc <;> simp_all [truthy]

theorem targetOf_spec (t : List Name) (self : Ns) (c : Nat) (tgt0 : Ns) (c0 : Nat)
    (h : targetOf t self c = some (tgt0, c0)) :
    (nsAt t self = some tgt0 ∧ c0 = c) ∨
    (nsAt t self = none ∧ tgt0.props = defaultProps ∧ tgt0.ports = [] ∧ c ≤ tgt0.id ∧ tgt0.id < c0) := by
  fun_induction targetOf t self c
  case case1 => cases h; exact Or.inl ⟨rfl, rfl⟩
  case case2 => cases h
  case case3 => cases h
  case case4 hl ih => simpa only [nsAt, hl] using ih h
  case case5 n rest self c _ hl ih =>
    -- below a namespace the walk has just created nothing exists: the second alternative holds there, and so here
    rcases ih h with ⟨h1, rfl⟩ | h1
    · cases rest with
      | nil => cases h1; exact Or.inr ⟨by simp only [nsAt, hl], rfl, rfl, Nat.le_refl _, Nat.lt_succ_self _⟩
      | cons => simp [nsAt, lookup] at h1
    · exact Or.inr ⟨by simp only [nsAt, hl], h1.2.1, h1.2.2.1, Nat.le_of_succ_le h1.2.2.2.1, h1.2.2.2.2⟩

theorem exposeAt_root {k : Ns → Nat → Res}
    (hk : ∀ self c, (k self c).1.id = self.id ∧ ∃ extra, keys (k self c).1.ports = keys self.ports ++ extra)
    (t : List Name) (self : Ns) (c : Nat) :
    (exposeAt k t self c).1.id = self.id ∧ (∃ extra, keys (exposeAt k t self c).1.ports = keys self.ports ++ extra) ∧
    (t ≠ [] → (exposeAt k t self c).1.props = self.props) := by
  fun_cases exposeAt k t self c
  case case1 => exact ⟨(hk self c).1, (hk self c).2, fun h => absurd rfl h⟩
  case case2 => exact ⟨rfl, ⟨[], by simp⟩, fun _ => rfl⟩
  case case3 => exact ⟨rfl, ⟨[], by simp⟩, fun _ => rfl⟩
  case case4 => exact ⟨rfl, keys_setPort_prefix _ _ _, fun _ => rfl⟩
  case case5 => exact ⟨rfl, keys_setPort_prefix _ _ _, fun _ => rfl⟩

theorem absorbTop_root (src : Ns) (ex inc : Option (List Rule)) (opts : Opts) (self : Ns) (c : Nat) :
    (absorbTop src ex inc opts self c).1.id = self.id ∧
    ∃ extra, keys (absorbTop src ex inc opts self c).1.ports = keys self.ports ++ extra := by
  rcases absorbTop_cases src ex inc opts self c with ⟨_, _, h⟩ | ⟨_, h⟩ <;> rw [h]
  · exact ⟨rfl, [], by simp⟩
  · exact ⟨rfl, keys_assignAll_prefix _ _⟩

/-- `q` (a path below the destination) is NOT affected by an expose into the namespace at `t` that absorbs `names`: it
leaves the path to the target at some component, or it lies inside the target below a name that is not absorbed -/
def untouched (names : List Name) : List Name → List Name → Bool
  | _, [] => false
  | [], n :: _ => !names.contains n
  | m :: t, n :: r => if n = m then untouched names t r else true

theorem getAt_congr {n : Name} {r : List Name} {ps ps' : Ports} (h : lookup n ps = lookup n ps') :
    getAt (n :: r) ps = getAt (n :: r) ps' := by
  simp only [getAt, h]

theorem exposeAt_frame {names : List Name} {k : Ns → Nat → Res}
    (hk : ∀ self c n, n ∉ names → lookup n (k self c).1.ports = lookup n self.ports)
    (t q : List Name) (self : Ns) (c : Nat) (h : untouched names t q = true) :
    getAt q (exposeAt k t self c).1.ports = getAt q self.ports := by
  fun_induction untouched names t q generalizing self c
  case case1 => cases h
  case case2 n _ => exact getAt_congr (hk self c n (by simpa using h))
  case case3 t n r ih =>
    -- the path continues below the component `n` of the target's path, so `r ≠ []`
    have hr : r ≠ [] := by rintro rfl; cases t <;> cases h
    simp only [exposeAt]
    split
    · rfl
    split
    · rfl
    · rename_i hl
      simp only [getAt, lookup_setPort_same, hl, hr, ↓reduceIte, Ns.toObj]
      exact ih _ c h
    · rename_i hl
      simp only [getAt, lookup_setPort_same, hl, hr, ↓reduceIte, Ns.toObj, ih _ _ h]
      cases r with
      | nil => exact absurd rfl hr
      | cons => rfl
  case case4 m t n r hnm =>
    simp only [exposeAt]
    split
    · rfl
    split
    · rfl
    · exact getAt_congr (lookup_setPort_ne _ hnm _)
    · exact getAt_congr (lookup_setPort_ne _ hnm _)

theorem absorbTop_frame (src : Ns) (ex inc : Option (List Rule)) (opts : Opts) (self : Ns) (c : Nat) (n : Name)
    (hn : n ∉ absorbedNames ex inc src.ports) :
    lookup n (absorbTop src ex inc opts self c).1.ports = lookup n self.ports := by
  rcases absorbTop_cases src ex inc opts self c with ⟨_, _, h⟩ | ⟨_, h⟩ <;> rw [h]
  exact lookup_assignAll_not_mem _ _ (by rwa [keys_copies])

/-- what a call keeps as far as identities go: the counter only grows, and every identity of the namespace afterwards was
there before or has been allocated by this call -/
def IdsOK (self : Ns) (c : Nat) (self' : Ns) (c' : Nat) : Prop :=
  c ≤ c' ∧ ∀ i ∈ self'.ids, i ∈ self.ids ∨ (c ≤ i ∧ i < c')

theorem IdsOK.rfl {self : Ns} {c : Nat} : IdsOK self c self c :=
  ⟨Nat.le_refl _, fun _ => Or.inl⟩

theorem IdsOK.trans {a b d : Ns} {c c' c'' : Nat} (h1 : IdsOK a c b c') (h2 : IdsOK b c' d c'') : IdsOK a c d c'' :=
  ⟨Nat.le_trans h1.1 h2.1, fun i hi => (h2.2 i hi).elim
    (fun h => (h1.2 i h).imp_right fun h' => ⟨h'.1, Nat.lt_of_lt_of_le h'.2 h2.1⟩)
    fun h => .inr ⟨Nat.le_trans h1.1 h.1, h.2⟩⟩

/-- all identities of a namespace are below the allocation counter -/
def Below (c : Nat) (n : Ns) : Prop := ∀ i ∈ n.ids, i < c

theorem IdsOK.below {dst dst' : Ns} {c c' : Nat} (h : IdsOK dst c dst' c') (hd : Below c dst) : Below c' dst' :=
  fun i hi => (h.2 i hi).elim (fun h' => Nat.lt_of_lt_of_le (hd i h') h.1) (·.2)

theorem IdsOK.sep {dst dst' src : Ns} {c c' : Nat} (h : IdsOK dst c dst' c') (hs : Below c src)
    (hsep : ∀ i ∈ dst.ids, i ∉ src.ids) : (∀ i ∈ dst'.ids, i ∉ src.ids) ∧ Below c' src :=
  ⟨fun i hi hsrc => (h.2 i hi).elim (fun h' => hsep i h' hsrc) fun h' => Nat.lt_irrefl _ (Nat.lt_of_lt_of_le (hs i hsrc) h'.1),
    fun i hi => Nat.lt_of_lt_of_le (hs i hi) h.1⟩

theorem absorbTop_idsOK (src : Ns) (ex inc : Option (List Rule)) (opts : Opts) (self : Ns) (c : Nat) :
    IdsOK self c (absorbTop src ex inc opts self c).1 (absorbTop src ex inc opts self c).2.1 := by
  rcases absorbTop_cases src ex inc opts self c with ⟨_, _, h⟩ | ⟨_, h⟩ <;> rw [h]
  · exact .rfl
  · refine ⟨(copies_fresh ..).1, fun i hi => ?_⟩
    rcases List.mem_cons.mp hi with hi | hi
    · exact Or.inl (hi ▸ List.mem_cons_self)
    · exact (ids_assignAll _ _ hi).imp (List.mem_cons_of_mem _) ((copies_fresh ..).2 i)

theorem ids_step {self r : Ns} {n : Name} {i : Nat} (h : i ∈ ({ self with ports := setPort n r.toObj self.ports } : Ns).ids) :
    i ∈ self.ids ∨ i ∈ r.ids := by
  rcases List.mem_cons.mp h with h | h
  · exact Or.inl (h ▸ List.mem_cons_self)
  · exact (ids_setPort h).imp_left (List.mem_cons_of_mem _)

theorem exposeAt_idsOK {k : Ns → Nat → Res} (hk : ∀ self c, IdsOK self c (k self c).1 (k self c).2.1) (t : List Name)
    (self : Ns) (c : Nat) : IdsOK self c (exposeAt k t self c).1 (exposeAt k t self c).2.1 := by
  fun_induction exposeAt k t self c
  case case1 => exact hk ..
  case case2 => exact .rfl
  case case3 => exact .rfl
  case case4 hl r ih =>
    refine ⟨ih.1, fun j hj => (ids_step hj).elim Or.inl fun h => (ih.2 j h).imp_left fun h' => ?_⟩
    exact List.mem_cons_of_mem _ (ids_of_mem (mem_of_lookup hl) h')
  case case5 c _ _ r ih =>
    refine ⟨Nat.le_of_succ_le ih.1, fun j hj => (ids_step hj).imp_right fun h => ?_⟩
    rcases ih.2 j h with h' | h'
    · rw [Ns.ids, ids, List.mem_singleton] at h'
      exact h' ▸ ⟨Nat.le_refl _, ih.1⟩
    · exact h'.imp_left Nat.le_of_succ_le

theorem exposePorts_idsOK (src : Ns) (nsp : Option (List Name)) (ex inc : Option (List Rule)) (opts : Option Opts)
    (dst : Ns) (c : Nat) :
    IdsOK dst c (exposePorts src nsp ex inc opts dst c).1 (exposePorts src nsp ex inc opts dst c).2.1 := by
  unfold exposePorts
  split
  · exact .rfl
  · exact exposeAt_idsOK (absorbTop_idsOK src ex inc _) _ dst c

theorem leafPathsF_setPort_ns {n : Name} {i' : Nat} {p' : Props} {sub sub' : Ports} (ps : Ports)
    (hl : (∃ i p, lookup n ps = some (.ns i p sub)) ∨ (lookup n ps = none ∧ sub = []))
    (hs : leafPathsF sub' = leafPathsF sub) :
    leafPathsF (setPort n (.ns i' p' sub') ps) = leafPathsF ps := by
  simp only [leafPathsF] at hs ⊢
  fun_induction setPort n (.ns i' p' sub') ps
  case case1 =>
    obtain ⟨_, rfl⟩ := hl.resolve_left (by simp only [lookup, reduceCtorEq, exists_false, not_false_eq_true])
    simp only [toPT, leafPaths, hs, List.map_nil, List.append_nil]
  case case2 o rest =>
    simp only [lookup, ↓reduceIte, Option.some.injEq, reduceCtorEq, false_and, or_false] at hl
    obtain ⟨i, p, rfl⟩ := hl
    simp only [toPT, leafPaths, hs]
  case case3 m o rest hm ih =>
    simp only [lookup, hm, ↓reduceIte] at hl
    cases o <;> simp only [toPT, leafPaths, ih hl]

/-- a raising call at the end of the walk that adds no port: the whole walk adds no port (it may have created empty
namespaces) -/
theorem exposeAt_error_leafPaths {k : Ns → Nat → Res}
    (hk : ∀ self c e, (k self c).2.2 = .error e → leafPathsF (k self c).1.ports = leafPathsF self.ports)
    (t : List Name) (self : Ns) (c : Nat) (e : Err) (h : (exposeAt k t self c).2.2 = .error e) :
    leafPathsF (exposeAt k t self c).1.ports = leafPathsF self.ports := by
  fun_induction exposeAt k t self c
  case case1 => exact hk _ _ e h
  case case2 => rfl
  case case3 => rfl
  case case4 hl r ih => exact leafPathsF_setPort_ns _ (.inl ⟨_, _, hl⟩) (ih h)
  case case5 hl r ih => exact leafPathsF_setPort_ns _ (.inr ⟨hl, rfl⟩) (ih h)

theorem absorbTop_error_ports (src : Ns) (ex inc : Option (List Rule)) (opts : Opts) (self : Ns) (c : Nat) (e : Err)
    (h : (absorbTop src ex inc opts self c).2.2 = .error e) : (absorbTop src ex inc opts self c).1.ports = self.ports := by
  rcases absorbTop_cases src ex inc opts self c with ⟨_, _, h'⟩ | ⟨_, h'⟩ <;> rw [h'] at h ⊢
  cases h

end Full
end Expose
