import PlumpyModel.PM.Proof1
import PlumpyModel.PM.Proof6
/-!
Two facts about the process-control model `PMF` that the communication layer rests on, for every event:

* the entered log only ever grows at its head (`Grow`) — so "the entries a piece of code added" is well defined;
* a process that has reached a terminal state has been closed (`TC`), hence has run its cleanups: a part of the invariant
  `Inv2` of `PM/Proof6.lean` (`TC.of_inv2`).

`Grow c₀` is closed under a transition (`transitionTo_grow`) and under every update that `Same` of `PM/Proof1.lean` relates,
which is what `StepClosed.of_same` asks for.
-/
namespace PMF

def TC (c : Cfg) : Prop := terminal c.st.label = true → c.closed = true

theorem TC.of_inv2 {c : Cfg} (h : Inv2 c) : TC c := fun ht => (h.term ht).1

def Grow (c c' : Cfg) : Prop := ∃ new, c'.entered = new ++ c.entered

theorem Grow.rfl' (c : Cfg) : Grow c c := ⟨[], rfl⟩
theorem Grow.trans {a b c : Cfg} : Grow a b → Grow b c → Grow a c
  | ⟨n1, e1⟩, ⟨n2, e2⟩ => ⟨n2 ++ n1, by rw [e2, e1, List.append_assoc]⟩
theorem Grow.of_same {c c' : Cfg} (s : Same c c') : Grow c c' := ⟨[], by rw [s.2.1]; rfl⟩

/-- only `setState` writes the log -/
theorem setState_grow (c : Cfg) (s : SObj) : Grow c (setState c s) := ⟨[s.label], rfl⟩

theorem Grow.of_entered {c c' : Cfg} (h : c'.entered = c.entered) : Grow c c' := ⟨[], by rw [h]; rfl⟩

theorem enterNext_grow (c : Cfg) (s : SObj) : Grow c (enterNext c s) := by
  unfold enterNext
  have h : Grow c (enteredHooks (setState (enterState c s) s) s) :=
    ((Grow.of_entered (enterState_off c s).entered).trans (setState_grow _ _)).trans (.of_entered (enteredHooks_off _ _).entered)
  dsimp only
  split
  · exact h.trans (.of_entered (onTerminated_off _).entered)
  · exact h

theorem transitionTo_grow (c : Cfg) (s : SObj) : Grow c (transitionTo c s) :=
  transitionTo_elim (Q := Grow c) c s (fun _ d s' he => .of_entered he.off.entered)
    fun _ d s' c2 he hok => (Grow.of_entered (he.off.trans (enteringHooks_off _ hok)).entered).trans (enterNext_grow c2 s')

theorem grow_closed (c₀ : Cfg) : StepClosed (Grow c₀) :=
  .of_same (fun h s => h.trans (.of_same s)) fun c s _ h => h.trans (transitionTo_grow c s)

theorem step_grow (P : Prog) (c : Cfg) (ev : Ev) : Grow c (step P c ev).1 := (grow_closed c).step P c ev (Grow.rfl' c)

end PMF
