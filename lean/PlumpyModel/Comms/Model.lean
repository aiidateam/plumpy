import PlumpyModel.Gen.Comms
import PlumpyModel.Gen.Misc
import PlumpyModel.PM.Model
/-!
# Remote control of a process through a communicator (C16)

Hand-written executable model of `Process.init` (subscriptions + their removal registered as cleanups),
`Process.message_receive`, `Process.broadcast_receive`, `Process._schedule_rpc`, the communicator part of
`Process.on_entered` and of `Process.close`, layered on the process-control model `PMF` (which is imported, not
re-modelled).  Core Lean only.

Tables taken from the source (regenerated on every check): `Gen.intents`, `Gen.rpcDispatch`, `Gen.broadcastDispatch`
(the `if` chains of the two handlers, in branch order, with the method each branch runs), `Gen.rpcUnknownIntentRaises`,
`Gen.toleratedBroadcastFailures` (the `except` clauses of `on_entered`), `Gen.stateChangedSubject` (the f-string of the
subject), `Gen.broadcastSubjectFilter`, `Label.name`.

Assumed contracts of what is *not* plumpy (DESIGN.md section 3), exercised through the real libraries by the correspondence check:

* communicator (`kiwipy.LocalCommunicator` behind plumpy's `LoopCommunicator`): `rpc_send` to an identifier without
  subscriber raises `UnroutableError` and does nothing else; otherwise the subscriber is *scheduled* on the process's loop
  (`convert_to_comm` → `create_task`), i.e. it runs as a later callback (`Ev.recv`); `broadcast_send` reaches every broadcast
  subscriber the same way, except that a `BroadcastFilter` match is evaluated at once and schedules nothing;
* asyncio: `run_coroutine_threadsafe` runs the coroutine as a later callback (`Ev.call` for `_schedule_rpc`'s `run_callback`);
  hops that only copy results between futures are not events (they touch nothing of the process);
* the reply future of `_schedule_rpc` resolves to the *unwrapped* result of the callback: a plain value at once, a
  `CancellableAction` by its eventual outcome (`True` when run, cancelled when superseded); `resolve` below.

How `on_entered` is attached to `PMF`: `PMF` logs every entered state in `Cfg.entered` (newest first) exactly where
`transition_to` fires the ENTERED hook, and fires no hook once the process is closed.  After each piece of process-control
code (`PMF.step`, or a direct call) `settle` runs the communicator part of `on_entered` once for every entry the piece added,
oldest first, with `from` = the entry before it, and then the cleanups if the piece closed the process.  A broadcast that
succeeds or fails in a tolerated way does not feed back into process control, which is what makes this layering exact;
a non-tolerated exception *does* (it propagates into `transition_to` as a failing hook, C03's territory): the model then
stops with `failed := some index` and every later event is `disabled`.
-/
namespace Comms
open PMF

/-! ### dispatch tables -/

/-- the methods a control message can be dispatched to -/
inductive Call | play | pause | kill | status
deriving DecidableEq, Repr, Inhabited

/-- method names as they appear in the generated dispatch tables -/
def callOfName : String → Option Call
  | "play" => some .play
  | "pause" => some .pause
  | "kill" => some .kill
  | "get_status_info" => some .status
  | _ => none

/-- wire value of an `Intent` constant -/
def wireOf (const : String) : Option String := (Gen.intents.find? (·.1 = const)).map (·.2)

/-- an `if x == Intent.A: … if x == Intent.B: …` chain: the first branch whose constant equals `x` -/
def dispatch (table : List (String × String)) (x : String) : Option Call :=
  match table.find? (fun row => wireOf row.1 = some x) with
  | some row => callOfName row.2
  | none => none

/-! ### broadcasts of state changes -/

/-- what `communicator.broadcast_send` does at a given transition index -/
inductive BOut | ok | raises (cls : String)
deriving DecidableEq, Repr, Inhabited

abbrev Oracle := Nat → BOut

/-- the `except` clauses of `on_entered` -/
def tolerated (cls : String) : Bool := Gen.toleratedBroadcastFailures.contains cls

def labelStr : Option Label → String
  | none => "None"
  | some l => l.name

/-- `f'state_changed.{from_label}.{self.state.value}'`, assembled from the pieces found in the source -/
def subject (frm : Option Label) (to : Label) : String :=
  String.join (Gen.stateChangedSubject.map fun piece =>
    if piece = "<from>" then labelStr frm else if piece = "<to>" then to.name else piece)

/-- a recorded broadcast: transition index, subject, sender -/
structure Bc where
  idx : Nat
  subject : String
  sender : String
deriving DecidableEq, Repr, Inhabited

inductive Cleanup | removeRpc | removeBc
deriving DecidableEq, Repr, Inhabited

/-- the process's side of the communicator -/
structure Chan where
  pid : String := "pid"
  subRpc : Bool := false              -- RPC subscriber registered under str(pid)
  subBc : Bool := false               -- broadcast subscriber registered under str(pid)
  cleanups : List Cleanup := []       -- registered with add_cleanup, run by close()
  blog : List Bc := []                -- broadcasts that went out, newest first
  announced : Nat := 0                -- number of `on_entered` calls so far = next transition index
  failed : Option Nat := none         -- a non-tolerated exception left `on_entered` at this index
deriving DecidableEq, Repr, Inhabited

/-- communicator part of `Process.on_entered(from_state)` for the transition `cur.head? → to` -/
def onEntered (O : Oracle) (ch : Chan) (frm : Option Label) (to : Label) : Chan :=
  let i := ch.announced
  let ch := { ch with announced := i + 1 }
  match O i with
  | .ok => { ch with blog := ⟨i, subject frm to, ch.pid⟩ :: ch.blog }
  | .raises cls => if tolerated cls then ch else { ch with failed := some i }

/-- `on_entered` for each newly entered state (`news`, oldest first); `cur` is the entered log so far (newest first).
    A propagating exception aborts the transition, so nothing further is announced. -/
def announce (O : Oracle) : Chan → List Label → List Label → Chan
  | ch, _, [] => ch
  | ch, cur, to :: rest =>
      let ch' := onEntered O ch cur.head? to
      if ch'.failed.isSome then ch' else announce O ch' (to :: cur) rest

def runCleanup (ch : Chan) : Cleanup → Chan
  | .removeRpc => { ch with subRpc := false }
  | .removeBc => { ch with subBc := false }

/-- `Process.on_close`: run the cleanups, then `self._cleanups = None` -/
def runCleanups (ch : Chan) : Chan := { ch.cleanups.foldl runCleanup ch with cleanups := [] }

/-- entries of `new` that are not in `old` (both newest first), oldest first -/
def newSince (old new : List Label) : List Label := (new.take (new.length - old.length)).reverse

/-- the communicator side effects of a piece of process-control code that took the process from entered log `old` to `p'` -/
def settle (O : Oracle) (old : List Label) (ch : Chan) (p' : PMF.Cfg) : Chan :=
  let ch := announce O ch old (newSince old p'.entered)
  if ch.failed.isSome then ch else if p'.closed then runCleanups ch else ch

/-! ### messages in flight and replies -/

/-- a routed message whose subscriber callback has not run yet -/
structure Pend where
  id : Nat
  bcast : Bool
  wire : String          -- the message's intent (RPC) or the broadcast's subject
deriving DecidableEq, Repr, Inhabited

/-- a callback scheduled by `_schedule_rpc` that has not run yet -/
structure Sched where
  id : Nat
  bcast : Bool
  callee : Call
deriving DecidableEq, Repr, Inhabited

inductive Reply
  | none                                   -- handler not run yet
  | ret (r : RetV)                         -- `_schedule_rpc`: the return value of the direct call (resolved lazily)
  | status (l : Label) (paused : Bool)     -- the dictionary of `get_status_info`
  | exc (cls : String)                     -- the handler raised
deriving DecidableEq, Repr, Inhabited

structure Cfg where
  p : PMF.Cfg := {}
  ch : Chan := {}
  inbox : List Pend := []                  -- FIFO, oldest first
  calls : List Sched := []                 -- FIFO, oldest first
  replies : List (Nat × Reply) := []       -- one entry per RPC sent, newest first
  nextId : Nat := 0
deriving Repr, Inhabited

/-- what the sender of an RPC eventually reads from the reply future -/
inductive RVal | pending | bool (b : Bool) | cancelled | exc (cls : String) | status (l : Label) (paused : Bool) | none
deriving DecidableEq, Repr, Inhabited

/-- `while isfuture(result): result = await result` of `_schedule_rpc`, evaluated against the action table of `p`:
    `_do_pause` and `do_kill` return `True`; a cancelled action cancels the reply; an exception of the callback is
    wrapped in a `RuntimeError` -/
def resolve (p : PMF.Cfg) : RetV → RVal
  | .bool b => .bool b
  | .action i =>
      match actionStatus p i with
      | .pending => .pending
      | .cancelled => .cancelled
      | .done => .bool true
      | .failed _ => .exc "Exception"
  | .raised _ => .exc "RuntimeError"
  | .none => .none

def replyVal (p : PMF.Cfg) : Reply → RVal
  | .none => .pending
  | .ret r => resolve p r
  | .status l b => .status l b
  | .exc cls => .exc cls

def setReply (c : Cfg) (id : Nat) (r : Reply) : Cfg :=
  { c with replies := c.replies.map fun e => if e.1 = id then (id, r) else e }

def replyOf (c : Cfg) (id : Nat) : Option Reply := (c.replies.find? (·.1 = id)).map (·.2)

/-! ### construction: `__init__`, the initial transition, `init` -/

/-- `Process.init`: subscribe under `str(pid)` and register the removal of both subscriptions as cleanups -/
def subscribe (ch : Chan) : Chan :=
  { ch with subRpc := true, subBc := true, cleanups := ch.cleanups ++ [.removeRpc, .removeBc] }

/-- `StateMachineMeta.__call__`: enter the initial state (announced as `state_changed.None.created`), then `init()`.
    `nfut` is the number of external awaitables of the process-control model's initial configuration.
    When the first broadcast raises a non-tolerated exception the constructor raises (`failed = some 0`). -/
def create (O : Oracle) (nfut : Nat) (pid : String := "pid") : Cfg :=
  let p := PMF.init nfut
  let ch := announce O { pid := pid } [] p.entered.reverse
  { p := p, ch := if ch.failed.isSome then ch else subscribe ch }

/-! ### the handlers -/

/-- the direct call a dispatched message stands for -/
def direct (k : Call) (p : PMF.Cfg) : PMF.Cfg × RetV :=
  match k with
  | .play => PMF.play p
  | .pause => PMF.pause p
  | .kill => PMF.kill p
  | .status => (p, .none)

/-- the same call as an event of the process-control model -/
def evOf : Call → Option PMF.Ev
  | .play => some .play
  | .pause => some .pause
  | .kill => some .kill
  | .status => none

inductive Obs
  | ret (r : RetV)                       -- a process event / direct call returned
  | status (l : Label) (paused : Bool)   -- `get_status_info`
  | sent (id : Nat)                      -- routed, subscriber scheduled
  | unroutable                           -- `UnroutableError`
  | nosub                                -- broadcast with nobody subscribed
  | filtered                             -- broadcast stopped by the subject filter
  | scheduled (k : Call)                 -- handler ran: `_schedule_rpc(k)`
  | ignored                              -- `broadcast_receive` did not recognise the subject
  | rejected (cls : String)              -- `message_receive` raised
  | called (k : Call) (r : RetV)         -- the scheduled callback ran the direct call `k`
  | disabled
deriving DecidableEq, Repr, Inhabited

def statusObs (p : PMF.Cfg) : Obs := .status p.st.label p.paused.isSome

/-- `Process.message_receive(msg)` -/
def messageReceive (c : Cfg) (m : Pend) : Cfg × Obs :=
  match dispatch Gen.rpcDispatch m.wire with
  | some .status => (setReply c m.id (.status c.p.st.label c.p.paused.isSome), statusObs c.p)
  | some k => ({ c with calls := c.calls ++ [⟨m.id, false, k⟩] }, .scheduled k)
  | none => (setReply c m.id (.exc Gen.rpcUnknownIntentRaises), .rejected Gen.rpcUnknownIntentRaises)

/-- `Process.broadcast_receive(msg, sender, subject, correlation_id)`; no reply goes anywhere -/
def broadcastReceive (c : Cfg) (m : Pend) : Cfg × Obs :=
  match dispatch Gen.broadcastDispatch m.wire with
  | some .status => (c, .ignored)
  | some k => ({ c with calls := c.calls ++ [⟨m.id, true, k⟩] }, .scheduled k)
  | none => (c, .ignored)

/-- the one filter the model interprets: a negative look-ahead on a literal prefix, `^(?!<prefix>).*` -/
def filterPrefix : Option String :=
  let f := Gen.broadcastSubjectFilter
  if f.startsWith "^(?!" && f.endsWith ").*" then some ((f.drop 4).dropEnd 3).toString else none

def filteredOut (subject : String) : Bool :=
  match filterPrefix with
  | some pre => subject.startsWith pre
  | none => false

/-! ### events -/

inductive Ev
  | pm (e : PMF.Ev)            -- a callback of the process or a direct call (`PMF.Ev`: tick, pause, play, kill, resume, …)
  | status                     -- direct `get_status_info`
  | rpc (wire : String)        -- `communicator.rpc_send(str(pid), {intent: wire, …})`
  | bcast (subject : String)   -- `communicator.broadcast_send(body, subject=subject)` by somebody else
  | recv (id : Nat)            -- the scheduled subscriber callback of message `id` runs
  | call (id : Nat)            -- the callback scheduled by `_schedule_rpc` for message `id` runs
deriving Repr, Inhabited, DecidableEq

def enqueue (c : Cfg) (bcast : Bool) (wire : String) : Cfg × Obs :=
  ({ c with inbox := c.inbox ++ [⟨c.nextId, bcast, wire⟩], nextId := c.nextId + 1,
            replies := if bcast then c.replies else (c.nextId, .none) :: c.replies }, .sent c.nextId)

/-- run process-control code `f` and let the communicator see its consequences -/
def runPM (O : Oracle) (c : Cfg) (r : PMF.Cfg × RetV) : Cfg :=
  { c with p := r.1, ch := settle O c.p.entered c.ch r.1 }

def step (O : Oracle) (P : Prog) (c : Cfg) (ev : Ev) : Cfg × Obs :=
  if c.ch.failed.isSome then (c, .disabled) else
  match ev with
  | .pm e => let r := PMF.step P c.p e; (runPM O c r, .ret r.2)
  | .status => (c, statusObs c.p)
  | .rpc wire => if c.ch.subRpc then enqueue c false wire else (c, .unroutable)
  | .bcast subject =>
      if !c.ch.subBc then (c, .nosub)
      else if filteredOut subject then (c, .filtered)
      else enqueue c true subject
  | .recv id =>
      match c.inbox.find? (·.id = id) with
      | none => (c, .disabled)
      | some m =>
          let c := { c with inbox := c.inbox.filter (·.id ≠ id) }
          if m.bcast then broadcastReceive c m else messageReceive c m
  | .call id =>
      match c.calls.find? (·.id = id) with
      | none => (c, .disabled)
      | some s =>
          let c := { c with calls := c.calls.filter (·.id ≠ id) }
          let r := direct s.callee c.p
          let c := runPM O c r
          (if s.bcast then c else setReply c id (.ret r.2), .called s.callee r.2)

def run (O : Oracle) (P : Prog) (c0 : Cfg) (evs : List Ev) : Cfg := evs.foldl (fun c e => (step O P c e).1) c0

/-! ### oracles used by the theorems and the driver -/

def allOk : Oracle := fun _ => .ok
/-- `broadcast_send` raises `cls` at transition index `i` and works otherwise -/
def failAt (i : Nat) (cls : String) : Oracle := fun j => if j = i then .raises cls else .ok

/-- the announcements owed for an entered log (newest first): one per entry, `from` = the entry before it -/
def owed (pid : String) : List Label → List Bc
  | [] => []
  | b :: rest => ⟨rest.length, subject rest.head? b, pid⟩ :: owed pid rest

def isOk : BOut → Bool
  | .ok => true
  | _ => false

/-! ### the program corpus of this component (sync chains, async steps, wait/resume, failing steps) -/
def progOf : String → Prog
  | "Sync2" => fun fn _ _ _ => if fn = 0 then ⟨0, .ret (.cont 1 [1] [(0, 2)])⟩ else ⟨0, .ret (.stop (some 3) true)⟩
  | "Sync4" => fun fn _ _ _ => if fn < 3 then ⟨0, .ret (.cont (fn + 1) [] [])⟩ else ⟨0, .ret (.stop (some 3) true)⟩
  | "Async2" => fun fn _ _ _ => if fn = 0 then ⟨2, .ret (.cont 1 [] [])⟩ else ⟨1, .ret (.stop (some 3) true)⟩
  | "Async6" => fun fn _ _ _ => if fn = 0 then ⟨5, .ret (.cont 1 [] [])⟩ else ⟨4, .ret (.stop (some 3) true)⟩
  | "Waiter" => fun fn _ _ _ => if fn = 0 then ⟨0, .ret (.wait 1)⟩ else ⟨0, .ret (.stop (some 7) true)⟩
  | "WaitAsync" => fun fn _ _ _ => if fn = 0 then ⟨1, .ret (.wait 1)⟩ else ⟨1, .ret (.stop (some 7) true)⟩
  | "WaitAsync4" => fun fn _ _ _ => if fn = 0 then ⟨4, .ret (.wait 1)⟩ else ⟨4, .ret (.stop (some 7) true)⟩
  | "Failing" => fun _ _ _ _ => ⟨1, .raise (.user 0)⟩
  | "Failing5" => fun _ _ _ _ => ⟨5, .raise (.user 0)⟩
  | _ => fun _ _ _ _ => ⟨0, .ret (.stop none true)⟩

end Comms
