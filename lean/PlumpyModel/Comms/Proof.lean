import PlumpyModel.Comms.Model
import PlumpyModel.Comms.ProofPM
/-!
Helper lemmas for `Props/C16.lean`: the broadcast log as a function of the entered log (`Ann`), what a step does with the
channel (`step_chan`), the reachable-state invariant (`Good`, `reach`), and the simulation between runs under two oracles that
never let an exception escape (`Sim`).
-/
namespace Comms
open PMF

theorem newSince_append (old new : List Label) : newSince old (new ++ old) = new.reverse := by
  simp [newSince]

def okAt (O : Oracle) (b : Bc) : Bool := isOk (O b.idx)

/-- the channel has announced exactly the entered log `cur` (newest first) -/
structure Ann (O : Oracle) (ch : Chan) (cur : List Label) : Prop where
  blog : ch.blog = (owed ch.pid cur).filter (okAt O)
  count : ch.announced = cur.length

/-- the oracle lets an exception escape `on_entered` at index `i` -/
def esc (O : Oracle) (i : Nat) : Bool :=
  match O i with
  | .raises cls => !tolerated cls
  | .ok => false

theorem onEntered_eq (O : Oracle) (ch : Chan) (frm : Option Label) (to : Label) :
    onEntered O ch frm to =
      { ch with announced := ch.announced + 1,
                blog := if isOk (O ch.announced) then ⟨ch.announced, subject frm to, ch.pid⟩ :: ch.blog else ch.blog,
                failed := if esc O ch.announced then some ch.announced else ch.failed } := by
  unfold onEntered esc
  dsimp only
  cases O ch.announced with
  | ok => rfl
  | raises cls => cases h : tolerated cls <;> simp [isOk, h]

theorem announce_shape (O : Oracle) (news : List Label) (ch : Chan) (cur : List Label) :
    ∃ n b f, announce O ch cur news = { ch with announced := n, blog := b, failed := f } := by
  induction news generalizing ch cur with
  | nil => exact ⟨_, _, _, rfl⟩
  | cons to rest ih =>
    rw [announce]; split
    · exact ⟨_, _, _, onEntered_eq O ch cur.head? to⟩
    · obtain ⟨n', b', f', h2⟩ := ih (onEntered O ch cur.head? to) (to :: cur)
      exact ⟨n', b', f', by rw [h2, onEntered_eq]⟩

/-- an escaping exception leaves the log as it was, and the filter drops the entry it owed -/
theorem onEntered_ann (O : Oracle) (ch : Chan) (cur : List Label) (to : Label) (h : Ann O ch cur) :
    Ann O (onEntered O ch cur.head? to) (to :: cur) := by
  rw [onEntered_eq]
  exact ⟨by simp [owed, List.filter_cons, okAt, ← h.count, ← h.blog], by simp [h.count]⟩

/-- once an exception has escaped, nothing more is announced, so `failed = none` afterwards means it never happened -/
theorem announce_ann (O : Oracle) (news : List Label) : ∀ (ch : Chan) (cur : List Label), Ann O ch cur →
    (announce O ch cur news).failed = none → Ann O (announce O ch cur news) (news.reverse ++ cur) := by
  induction news with
  | nil => intro ch cur h _; simpa [announce] using h
  | cons to rest ih =>
    intro ch cur h hf
    simp only [announce] at hf ⊢
    split at hf
    · rename_i hs; simp [hf] at hs
    · rename_i hs
      simp only [hs]
      simpa using ih _ (to :: cur) (onEntered_ann O ch cur to h) hf

theorem foldl_runCleanup (l : List Cleanup) (ch : Chan) : l.foldl runCleanup ch =
    { ch with subRpc := ch.subRpc && !l.contains .removeRpc, subBc := ch.subBc && !l.contains .removeBc } := by
  induction l generalizing ch with
  | nil => simp
  | cons a l ih => rw [List.foldl_cons, ih]; cases a <;> simp [runCleanup]

theorem runCleanups_eq (ch : Chan) : runCleanups ch =
    { ch with subRpc := ch.subRpc && !ch.cleanups.contains .removeRpc,
              subBc := ch.subBc && !ch.cleanups.contains .removeBc, cleanups := [] } := by
  rw [runCleanups, foldl_runCleanup]

/-- a subscription whose removal is registered does not survive `close()` -/
theorem unsub_of_registered {b : Bool} {l : List Cleanup} {r : Cleanup} (h : b = true → r ∈ l) :
    (b && !l.contains r) = false := by
  cases b
  · rfl
  · simp [h rfl]

/-- what holds of every configuration reached from `create` in which no exception has escaped `on_entered` -/
structure Good (O : Oracle) (c : Cfg) : Prop where
  ann : Ann O c.ch c.p.entered
  regRpc : c.ch.subRpc = true → Cleanup.removeRpc ∈ c.ch.cleanups
  regBc : c.ch.subBc = true → Cleanup.removeBc ∈ c.ch.cleanups
  closed : c.p.closed = true → c.ch.subRpc = false ∧ c.ch.subBc = false
  tc : TC c.p

theorem settle_good (O : Oracle) (c : Cfg) (p' : PMF.Cfg) (g : Good O c) (hg : Grow c.p p') (ht : TC p')
    (hf : (settle O c.p.entered c.ch p').failed = none) :
    Good O { c with p := p', ch := settle O c.p.entered c.ch p' } ∧ (settle O c.p.entered c.ch p').pid = c.ch.pid := by
  obtain ⟨new, hnew⟩ := hg
  have hns : newSince c.p.entered p'.entered = new.reverse := by rw [hnew]; exact newSince_append _ _
  unfold settle at hf ⊢
  rw [hns] at hf ⊢
  have ha := announce_ann O new.reverse c.ch c.p.entered g.ann
  rw [List.reverse_reverse, ← hnew] at ha
  obtain ⟨n, b, f, e⟩ := announce_shape O new.reverse c.ch c.p.entered
  rw [e] at hf ha ⊢
  cases f with
  | some v => cases p'.closed <;> cases hf
  | none =>
    replace ha := ha rfl
    cases hc : p'.closed with
    | false => exact ⟨⟨ha, g.regRpc, g.regBc, fun h => absurd h (by simp [hc]), ht⟩, rfl⟩
    | true =>
      -- closing: both subscriptions go, because `init` registered their removal
      simp only [Option.isSome_none, Bool.false_eq_true, if_false, if_true, runCleanups_eq,
        unsub_of_registered g.regRpc, unsub_of_registered g.regBc]
      exact ⟨⟨⟨ha.blog, ha.count⟩, nofun, nofun, fun _ => ⟨rfl, rfl⟩, ht⟩, trivial⟩

theorem Good.of_eq {O : Oracle} {c c' : Cfg} (g : Good O c) (h1 : c'.p = c.p) (h2 : c'.ch = c.ch) : Good O c' :=
  ⟨by rw [h1, h2]; exact g.ann, by rw [h2]; exact g.regRpc, by rw [h2]; exact g.regBc, by rw [h1, h2]; exact g.closed,
   by rw [h1]; exact g.tc⟩

/-- remote control is direct control: what a scheduled call does to the process is what the event of the process-control model does -/
theorem direct_is_step (P : Prog) (k : Call) (p : PMF.Cfg) : (direct k p).1 = p ∨ ∃ e, (direct k p).1 = (PMF.step P p e).1 := by
  cases k
  · exact .inr ⟨.play, rfl⟩
  · exact .inr ⟨.pause, rfl⟩
  · exact .inr ⟨.kill, rfl⟩
  · exact .inl rfl

/-- the two facts about the process-control model that this layer rests on, for every event -/
theorem pm_facts {P : Prog} {p p' : PMF.Cfg} (h : p' = p ∨ ∃ e, p' = (PMF.step P p e).1) (hi : Inv2 p) : Grow p p' ∧ Inv2 p' := by
  rcases h with rfl | ⟨e, rfl⟩
  · exact ⟨Grow.rfl' _, hi⟩
  · exact ⟨step_grow P p e, inv2_closed.step P p e hi⟩

theorem step_of_failed (O : Oracle) (P : Prog) (c : Cfg) (ev : Ev) (h : c.ch.failed.isSome = true) :
    step O P c ev = (c, .disabled) := by
  simp [step, h]

/-- a failure is final, so a step that ends without one started without one, and so does a run -/
theorem ok_of_step_ok {O : Oracle} {P : Prog} {c : Cfg} {ev : Ev} (hf : (step O P c ev).1.ch.failed = none) :
    c.ch.failed = none := by
  cases hx : c.ch.failed with
  | none => rfl
  | some v => rw [step_of_failed O P c ev (by simp [hx]), hx] at hf; cases hf

theorem ok_of_run_ok {O : Oracle} {P : Prog} : ∀ {evs : List Ev} {c : Cfg}, (run O P c evs).ch.failed = none →
    c.ch.failed = none
  | [], _, hf => hf
  | _ :: es, _, hf => ok_of_step_ok (ok_of_run_ok (evs := es) hf)

theorem run_induction {O : Oracle} {P : Prog} {I : Cfg → Prop}
    (hI : ∀ c ev, I c → (step O P c ev).1.ch.failed = none → I (step O P c ev).1) :
    ∀ (evs : List Ev) (c : Cfg), I c → (run O P c evs).ch.failed = none → I (run O P c evs)
  | [], _, h, _ => h
  | e :: es, c, h, hf => run_induction hI es _ (hI c e h (ok_of_run_ok (evs := es) hf)) hf

theorem setReply_p (c : Cfg) (id : Nat) (r : Reply) : (setReply c id r).p = c.p ∧ (setReply c id r).ch = c.ch ∧
    (setReply c id r).inbox = c.inbox ∧ (setReply c id r).calls = c.calls ∧ (setReply c id r).nextId = c.nextId :=
  ⟨rfl, rfl, rfl, rfl, rfl⟩

theorem step_pm (O : Oracle) (P : Prog) {c : Cfg} (hf : c.ch.failed = none) (e : PMF.Ev) :
    step O P c (.pm e) = (runPM O c (PMF.step P c.p e), .ret (PMF.step P c.p e).2) := by
  simp [step, hf]

theorem step_recv (O : Oracle) (P : Prog) {c : Cfg} {id : Nat} {m : Pend} (hf : c.ch.failed = none)
    (hm : c.inbox.find? (·.id = id) = some m) :
    step O P c (.recv id) =
      if m.bcast then broadcastReceive { c with inbox := c.inbox.filter (·.id ≠ id) } m
      else messageReceive { c with inbox := c.inbox.filter (·.id ≠ id) } m := by
  simp [step, hf, hm]

theorem step_call (O : Oracle) (P : Prog) {c : Cfg} {id : Nat} {s : Sched} (hf : c.ch.failed = none)
    (hs : c.calls.find? (·.id = id) = some s) :
    step O P c (.call id) =
      (if s.bcast then runPM O { c with calls := c.calls.filter (·.id ≠ id) } (direct s.callee c.p)
        else setReply (runPM O { c with calls := c.calls.filter (·.id ≠ id) } (direct s.callee c.p)) id
          (.ret (direct s.callee c.p).2),
       .called s.callee (direct s.callee c.p).2) := by
  simp [step, hf, hs]

theorem step_evOf (P : Prog) {k : Call} {e : PMF.Ev} (hk : evOf k = some e) (p : PMF.Cfg) : PMF.step P p e = direct k p := by
  cases k <;> cases hk <;> rfl

/-- A step reads the channel only through `failed` and the two subscription flags, and writes it only through `settle`: so the
same event with any other channel `ch'` (same flags) under any other oracle `O'` does the same to everything else, and either
leaves both channels alone or settles both towards the same process configuration. -/
theorem step_chan (O O' : Oracle) (P : Prog) (c : Cfg) (ch' : Chan) (ev : Ev)
    (hf : c.ch.failed = none) (hf' : ch'.failed = none) (hr : c.ch.subRpc = ch'.subRpc) (hb : c.ch.subBc = ch'.subBc) :
    ((step O P c ev).1.p = c.p ∧ (step O P c ev).1.ch = c.ch ∧
      step O' P { c with ch := ch' } ev = ({ (step O P c ev).1 with ch := ch' }, (step O P c ev).2)) ∨
    (((step O P c ev).1.p = c.p ∨ ∃ e, (step O P c ev).1.p = (PMF.step P c.p e).1) ∧ (step O P c ev).1.ch = settle O c.p.entered c.ch (step O P c ev).1.p ∧
      step O' P { c with ch := ch' } ev =
        ({ (step O P c ev).1 with ch := settle O' c.p.entered ch' (step O P c ev).1.p }, (step O P c ev).2)) := by
  unfold step
  rw [if_neg (by simp [hf]), if_neg (by simp [hf'])]
  cases ev with
  | pm e => exact .inr ⟨.inr ⟨e, rfl⟩, rfl, rfl⟩
  | status => exact .inl ⟨rfl, rfl, rfl⟩
  | rpc w => dsimp only; rw [hr]; split <;> exact .inl ⟨rfl, rfl, rfl⟩
  | bcast s =>
    dsimp only; rw [hb]
    split
    · exact .inl ⟨rfl, rfl, rfl⟩
    · split <;> exact .inl ⟨rfl, rfl, rfl⟩
  | recv id =>
    dsimp only
    split
    · exact .inl ⟨rfl, rfl, rfl⟩
    · split
      · unfold broadcastReceive; dsimp only; split <;> exact .inl ⟨rfl, rfl, rfl⟩
      · unfold messageReceive; dsimp only; split <;> exact .inl ⟨rfl, rfl, rfl⟩
  | call id =>
    dsimp only
    split
    · exact .inl ⟨rfl, rfl, rfl⟩
    · rename_i s _
      refine .inr ⟨?_, ?_, ?_⟩
      · split <;> exact direct_is_step P s.callee c.p
      · split <;> rfl
      · split <;> rfl

theorem step_good (O : Oracle) (P : Prog) (c : Cfg) (ev : Ev) (g : Good O c) (hi : Inv2 c.p)
    (hf : (step O P c ev).1.ch.failed = none) :
    Good O (step O P c ev).1 ∧ Inv2 (step O P c ev).1.p ∧ (step O P c ev).1.ch.pid = c.ch.pid := by
  have h0 : c.ch.failed = none := ok_of_step_ok hf
  rcases step_chan O O P c c.ch ev h0 h0 rfl rfl with ⟨hp, hch, _⟩ | ⟨hpm, hch, _⟩
  · exact ⟨g.of_eq hp hch, hp ▸ hi, by rw [hch]⟩
  · obtain ⟨hg, hi'⟩ := pm_facts hpm hi
    have := settle_good O c _ g hg (.of_inv2 hi') (hch ▸ hf)
    exact ⟨this.1.of_eq rfl hch, hi', by rw [hch, this.2]⟩

theorem create_good (O : Oracle) (nfut : Nat) (pid : String) (hf : (create O nfut pid).ch.failed = none) :
    Good O (create O nfut pid) ∧ Inv2 (create O nfut pid).p ∧ (create O nfut pid).ch.pid = pid := by
  unfold create at hf ⊢
  dsimp only at hf ⊢
  have ha := announce_ann O (PMF.init nfut).entered.reverse { pid := pid } [] ⟨rfl, rfl⟩
  rw [List.reverse_reverse, List.append_nil] at ha
  obtain ⟨n, b, f, e⟩ := announce_shape O (PMF.init nfut).entered.reverse { pid := pid } []
  rw [e] at hf ha ⊢
  cases f with
  | some v => cases hf
  | none =>
    replace ha := ha rfl
    exact ⟨⟨⟨ha.blog, ha.count⟩, fun _ => .head _, fun _ => .tail _ (.head _), nofun, .of_inv2 (inv2_init nfut)⟩, inv2_init nfut, rfl⟩

theorem reach (O : Oracle) (P : Prog) (nfut : Nat) (pid : String) (evs : List Ev)
    (hf : (run O P (create O nfut pid) evs).ch.failed = none) :
    Good O (run O P (create O nfut pid) evs) ∧ (run O P (create O nfut pid) evs).ch.pid = pid := by
  have := run_induction (I := fun c => Good O c ∧ Inv2 c.p ∧ c.ch.pid = pid)
    (fun c ev g hf => have s := step_good O P c ev g.1 g.2.1 hf; ⟨s.1, s.2.1, s.2.2.trans g.2.2⟩) evs _
    (create_good O nfut pid (ok_of_run_ok hf)) hf
  exact ⟨this.1, this.2.2⟩

/-- an oracle that never lets an exception escape `on_entered` -/
def Quiet (O : Oracle) : Prop := ∀ i, O i = .ok ∨ ∃ cls, O i = .raises cls ∧ tolerated cls = true

def erase (ch : Chan) : Chan := { ch with blog := [] }

theorem erase_spec (a b : Chan) (h : erase a = erase b) :
    a.pid = b.pid ∧ a.subRpc = b.subRpc ∧ a.subBc = b.subBc ∧ a.cleanups = b.cleanups ∧ a.announced = b.announced ∧
    a.failed = b.failed :=
  ⟨(congrArg Chan.pid h :), (congrArg Chan.subRpc h :), (congrArg Chan.subBc h :), (congrArg Chan.cleanups h :),
    (congrArg Chan.announced h :), (congrArg Chan.failed h :)⟩

theorem quiet_esc {O : Oracle} (hq : Quiet O) (i : Nat) : esc O i = false := by
  unfold esc
  rcases hq i with h | ⟨cls, h, ht⟩ <;> simp [*]

theorem onEntered_quiet (O : Oracle) (hq : Quiet O) (ch : Chan) (frm : Option Label) (to : Label) (h0 : ch.failed = none) :
    (onEntered O ch frm to).failed = none ∧
    erase (onEntered O ch frm to) = { erase ch with announced := ch.announced + 1 } := by
  rw [onEntered_eq]
  simp [quiet_esc hq, erase, h0]

theorem announce_quiet (O : Oracle) (hq : Quiet O) (news : List Label) : ∀ (ch : Chan) (cur : List Label), ch.failed = none →
    (announce O ch cur news).failed = none ∧
    erase (announce O ch cur news) = { erase ch with announced := ch.announced + news.length } := by
  induction news with
  | nil => intro ch cur h0; exact ⟨h0, rfl⟩
  | cons to rest ih =>
    intro ch cur h0
    have h1 := onEntered_quiet O hq ch cur.head? to h0
    have ha : (onEntered O ch cur.head? to).announced = ch.announced + 1 := by
      have := congrArg Chan.announced h1.2; simpa [erase] using this
    simp only [announce, h1.1, Option.isSome_none, Bool.false_eq_true, if_false]
    have h2 := ih (onEntered O ch cur.head? to) (to :: cur) h1.1
    refine ⟨h2.1, ?_⟩
    rw [h2.2, h1.2, ha]
    simp [Nat.add_assoc, Nat.add_comm 1]

theorem erase_runCleanups (ch : Chan) : erase (runCleanups ch) = runCleanups (erase ch) := by
  rw [runCleanups_eq, runCleanups_eq]; rfl

theorem settle_quiet (O1 O2 : Oracle) (q1 : Quiet O1) (q2 : Quiet O2) (old : List Label) (ch1 ch2 : Chan) (p' : PMF.Cfg)
    (he : erase ch1 = erase ch2) (h1 : ch1.failed = none) :
    (settle O1 old ch1 p').failed = none ∧ erase (settle O1 old ch1 p') = erase (settle O2 old ch2 p') := by
  obtain ⟨_, _, _, _, ha, hfl⟩ := erase_spec ch1 ch2 he
  have h2 : ch2.failed = none := hfl ▸ h1
  have a1 := announce_quiet O1 q1 (newSince old p'.entered) ch1 old h1
  have a2 := announce_quiet O2 q2 (newSince old p'.entered) ch2 old h2
  unfold settle
  simp only [a1.1, a2.1, Option.isSome_none, Bool.false_eq_true, if_false]
  by_cases hc : p'.closed = true
  · simp only [hc, if_true]
    refine ⟨by rw [runCleanups_eq]; exact a1.1, ?_⟩
    rw [erase_runCleanups, erase_runCleanups, a1.2, a2.2, he, ha]
  · simp only [hc, Bool.false_eq_true, if_false]
    exact ⟨a1.1, by rw [a1.2, a2.2, he, ha]⟩

/-- the two configurations agree on everything but the broadcast log -/
structure Sim (c1 c2 : Cfg) : Prop where
  p : c1.p = c2.p
  ch : erase c1.ch = erase c2.ch
  inbox : c1.inbox = c2.inbox
  calls : c1.calls = c2.calls
  replies : c1.replies = c2.replies
  nextId : c1.nextId = c2.nextId
  ok : c1.ch.failed = none

theorem step_sim (O1 O2 : Oracle) (q1 : Quiet O1) (q2 : Quiet O2) (P : Prog) (c1 c2 : Cfg) (ev : Ev) (s : Sim c1 c2) :
    Sim (step O1 P c1 ev).1 (step O2 P c2 ev).1 ∧ (step O1 P c1 ev).2 = (step O2 P c2 ev).2 := by
  obtain ⟨hp, he, hi, hc, hr, hn, h1⟩ := s
  obtain ⟨_, hsr, hsb, _, _, hfl⟩ := erase_spec c1.ch c2.ch he
  have e2 : c2 = { c1 with ch := c2.ch } := by cases c1; cases c2; simp only at hp hi hc hr hn; subst hp hi hc hr hn; rfl
  rw [e2]
  rcases step_chan O1 O2 P c1 c2.ch ev h1 (hfl ▸ h1) hsr hsb with ⟨_, hch, h2⟩ | ⟨_, hch, h2⟩ <;> rw [h2]
  · exact ⟨⟨rfl, hch ▸ he, rfl, rfl, rfl, rfl, hch ▸ h1⟩, rfl⟩
  · have := settle_quiet O1 O2 q1 q2 c1.p.entered c1.ch c2.ch (step O1 P c1 ev).1.p he h1
    exact ⟨⟨rfl, hch ▸ this.2, rfl, rfl, rfl, rfl, hch ▸ this.1⟩, rfl⟩

/-- observations of a run, oldest first -/
def trace (O : Oracle) (P : Prog) : Cfg → List Ev → List Obs
  | _, [] => []
  | c, e :: es => (step O P c e).2 :: trace O P (step O P c e).1 es

theorem run_sim (O1 O2 : Oracle) (q1 : Quiet O1) (q2 : Quiet O2) (P : Prog) (evs : List Ev) : ∀ c1 c2 : Cfg, Sim c1 c2 →
    Sim (run O1 P c1 evs) (run O2 P c2 evs) ∧ trace O1 P c1 evs = trace O2 P c2 evs := by
  induction evs with
  | nil => intro c1 c2 s; exact ⟨s, rfl⟩
  | cons e es ih =>
    intro c1 c2 s
    have h := step_sim O1 O2 q1 q2 P c1 c2 e s
    have h' := ih _ _ h.1
    simp only [run, List.foldl, trace] at h' ⊢
    exact ⟨h'.1, by rw [h.2, h'.2]⟩

theorem create_sim (O1 O2 : Oracle) (q1 : Quiet O1) (q2 : Quiet O2) (nfut : Nat) (pid : String) :
    Sim (create O1 nfut pid) (create O2 nfut pid) := by
  have a1 := announce_quiet O1 q1 (PMF.init nfut).entered.reverse { pid := pid } [] rfl
  have a2 := announce_quiet O2 q2 (PMF.init nfut).entered.reverse { pid := pid } [] rfl
  unfold create
  simp only [a1.1, a2.1, Option.isSome_none, Bool.false_eq_true, if_false]
  refine ⟨rfl, ?_, rfl, rfl, rfl, rfl, ?_⟩
  · have e1 : erase (subscribe (announce O1 { pid := pid } [] (PMF.init nfut).entered.reverse)) =
        subscribe (erase (announce O1 { pid := pid } [] (PMF.init nfut).entered.reverse)) := rfl
    have e2 : erase (subscribe (announce O2 { pid := pid } [] (PMF.init nfut).entered.reverse)) =
        subscribe (erase (announce O2 { pid := pid } [] (PMF.init nfut).entered.reverse)) := rfl
    rw [e1, e2, a1.2, a2.2]
  · simpa [subscribe] using a1.1

theorem quiet_failAt (i : Nat) (cls : String) (hc : cls ∈ Gen.toleratedBroadcastFailures) : Quiet (failAt i cls) := by
  intro j
  by_cases h : j = i
  · exact Or.inr ⟨cls, by simp [failAt, h], by simpa [tolerated] using hc⟩
  · exact Or.inl (by simp [failAt, h])

theorem quiet_allOk : Quiet allOk := fun _ => Or.inl rfl

end Comms
