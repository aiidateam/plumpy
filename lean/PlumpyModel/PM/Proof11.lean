import PlumpyModel.PM.Steps
/-!
# Frames of the stepping coroutine's bookkeeping and the end of a step (namespace `PMF.H6`, for C06 and C10)

`Core c d`: `d` agrees with `c` on the stepping coroutine's bookkeeping (program counter, `stepping`, the interrupt
action, the action table, the pause alias, the pause future in use, the user-call trace); no transition touches these.
`Closes c next d`: what `runAction / dispatch` can make of `c` — at most one transition, around it only the bookkeeping of the
enacted request.  `dispatch` is traversed once, for `dispatch_closes`; what is said of the end of a step is read off that.
-/
namespace PMF.H6

structure Core (c d : Cfg) : Prop where
  pc : d.pc = c.pc
  stepping : d.stepping = c.stepping
  interrupt : d.interrupt = c.interrupt
  actions : d.actions = c.actions
  pausing : d.pausing = c.pausing
  paused : d.paused = c.paused
  trace : d.trace = c.trace

theorem Core.of_off {W : List Fld} {c d : Cfg} (o : Off W c d)
    (hW : ∀ f ∈ [Fld.pc, .stepping, .interrupt, .actions, .pausing, .paused, .trace], f ∉ W := by decide) : Core c d :=
  ⟨o.pc (hW _ (by decide)), o.stepping (hW _ (by decide)), o.interrupt (hW _ (by decide)),
   o.actions (hW _ (by decide)), o.pausing (hW _ (by decide)), o.paused (hW _ (by decide)),
   o.trace (hW _ (by decide))⟩

theorem transitionTo_core (c : Cfg) (s) : Core c (transitionTo c s) := .of_off (transitionTo_off c s)

/-- `d` agrees with `c` on everything except (possibly) the action table and the interrupt action -/
structure Rest (c d : Cfg) : Prop where
  st : d.st = c.st
  wfs : d.wfs = c.wfs
  pc : d.pc = c.pc
  stepping : d.stepping = c.stepping
  pausing : d.pausing = c.pausing
  killing : d.killing = c.killing
  paused : d.paused = c.paused
  pfs : d.pfs = c.pfs
  trace : d.trace = c.trace
  closed : d.closed = c.closed

theorem Rest.of_off {W : List Fld} {c d : Cfg} (o : Off W c d)
    (hW : ∀ f ∈ [Fld.st, .wfs, .pc, .stepping, .pausing, .killing, .paused, .pfs, .trace, .closed], f ∉ W := by decide) :
    Rest c d :=
  ⟨o.st (hW _ (by decide)), o.wfs (hW _ (by decide)), o.pc (hW _ (by decide)), o.stepping (hW _ (by decide)),
   o.pausing (hW _ (by decide)), o.killing (hW _ (by decide)), o.paused (hW _ (by decide)), o.pfs (hW _ (by decide)),
   o.trace (hW _ (by decide)), o.closed (hW _ (by decide))⟩

theorem setActionStatus_rest (c : Cfg) (i s) : Rest c (setActionStatus c i s) ∧ (setActionStatus c i s).interrupt = c.interrupt :=
  ⟨.of_off (setActionStatus_off c i s), (setActionStatus_off c i s).interrupt⟩
theorem cancelAction_rest (c : Cfg) (i) : Rest c (cancelAction c i) ∧ (cancelAction c i).interrupt = c.interrupt :=
  ⟨.of_off (cancelAction_off c i), (cancelAction_off c i).interrupt⟩
theorem setInterrupt_rest (c : Cfg) (n) : Rest c (setInterrupt c n) ∧ (setInterrupt c n).interrupt = n :=
  ⟨.of_off (setInterrupt_off c n), rfl⟩
theorem setInterruptFromExc_rest (c : Cfg) (k n) : Rest c (setInterruptFromExc c k n) := .of_off (setInterruptFromExc_off c k n)
theorem prepare_rest (c : Cfg) (r : StepEnd) : Rest c (prepare c r).1 := .of_off (prepare_off c r)

theorem prepare_snd (c : Cfg) (r : StepEnd) :
    (prepare c r).2 = (match r with | .next s => s | .interruption _ => none | .exception e => some (.excepted e)) := by
  unfold prepare
  split
  · rfl
  · rfl
  · split <;> rfl
  · rfl

/-- the interrupt action is still runnable: pending, or cancelled by a `play()` -/
def ActOk (c : Cfg) : Prop := ∀ i, c.interrupt = some i → actionStatus c i = .pending ∨ actionStatus c i = .cancelled

theorem prepare_actOk (c : Cfg) (r : StepEnd) (h : ActOk c) : ActOk (prepare c r).1 :=
  prepare_elim (Q := fun p => ActOk p.1) c r (fun _ _ hi => nomatch hi) (fun _ _ => h) (fun _ _ _ _ => h) fun k _ _ i hi => by
    obtain ⟨h1, _, h2⟩ := setInterruptFromExc_new c (kindOfCookie c k) k
    cases h1.symm.trans hi
    exact Or.inl h2

/-- the results of the end of a step: the old state object, a terminal one, or the one the step asked for -/
def StepRes (c d : Cfg) (next : Option SObj) : Prop :=
  (d.st = c.st ∧ d.wfs = c.wfs) ∨ terminal d.st.label = true ∨
  (∃ s, next = some s ∧ d.st = s ∧ d.wfs = (exitState c).wfs)

/-- what the enactment of a request writes besides its transition: the pause hooks, the outcome of the action, `_killing` -/
def enactW : List Fld := [.pausing, .paused, .pfs, .notif, .actions, .killing]

/-- what `dispatch` can do: it writes `enactW` at most; or it makes one transition — to the state the step asked for, or to
KILLED — and then writes `enactW` at most; or it finds in the slot an action that already ran, and the stepping task crashes -/
inductive Closes (c : Cfg) (next : Option SObj) (d : Cfg) : Prop
  | stay (o : Off enactW c d)
  | trans (s : SObj) (hl : terminal c.st.label = false) (hs : s = .killed ∨ next = some s) (o : Off enactW (transitionTo c s) d)
  | rerun (i : Nat) (hi : c.interrupt = some i) (hr : actionStatus c i ≠ .pending ∧ actionStatus c i ≠ .cancelled)
      (e : d = { c with pc := .crashed .alreadyRan })

theorem dispatch_closes (c : Cfg) (next : Option SObj) : Closes c next (dispatch c next) := by
  unfold dispatch
  refine ite_of (fun _ => .stay (Off.rfl' c)) fun hl => ?_
  have hl := eq_false_of_ne_true hl
  have nominal : Closes c next (match (generalizing := false) next with | some s => transitionTo c s | none => c) := by
    cases next with
    | none => exact .stay (Off.rfl' c)
    | some s => exact .trans s hl (.inr rfl) (Off.rfl' _)
  split
  · rename_i i hi
    refine ite_of (fun hnc => ?_) fun _ => nominal
    unfold runAction
    split
    · exact .stay (Off.rfl' c)
    · rename_i a ha
      have hst : actionStatus c i = a.status := by unfold actionStatus; rw [ha]
      refine ite_of (fun hnp => .rerun i hi ⟨hst ▸ hnp, hnc⟩ rfl) fun _ => ?_
      have od (d : Cfg) : Off enactW d (setActionStatus (doPauseHooks d) i .done) :=
        ((doPauseHooks_off d).trans (setActionStatus_off ..)).mono (by decide)
      split
      · cases next with
        | none => exact .stay (od c)
        | some s => exact .trans s hl (.inr rfl) (od _)
      · exact .trans .killed hl (.inl rfl) (((Off.set _ .killing none).trans (setActionStatus_off ..)).mono (by decide))
  · exact nominal

theorem finally_rest (c : Cfg) : Rest { c with stepping := false } (finally_ c) ∧ (finally_ c).interrupt = none :=
  ⟨.of_off (setInterrupt_off _ none), rfl⟩

theorem exitState_wfs_congr (c d : Cfg) (h1 : d.st = c.st) (h2 : d.wfs = c.wfs) : (exitState d).wfs = (exitState c).wfs := by
  unfold exitState
  rw [h1]
  split
  · dsimp only; rw [h2]; split <;> simp [h2]
  · exact h2

/-- the end of a step: `prepare`, then what `dispatch` can do, then `finally` -/
theorem endOfStep_closes (c : Cfg) (r : StepEnd) :
    ∃ d, Closes (prepare c r).1 (prepare c r).2 d ∧ Off [.stepping, .actions, .interrupt] d (endOfStep c r) :=
  ⟨_, dispatch_closes _ _, finally_off _⟩

/-- the end of a step, for a runnable interrupt action (which is what every reachable configuration has) -/
theorem endOfStep_spec (c : Cfg) (r : StepEnd) (hact : ActOk c) :
    (endOfStep c r).stepping = false ∧ (endOfStep c r).interrupt = none ∧ (endOfStep c r).pc = c.pc ∧
    (endOfStep c r).trace = c.trace ∧
    StepRes c (endOfStep c r) (match r with | .next s => s | .interruption _ => none | .exception e => some (.excepted e)) := by
  have hr := prepare_off c r
  obtain ⟨d, hc, hf⟩ := endOfStep_closes c r
  rw [← prepare_snd c r]
  refine ⟨finally_stepping _, rfl, ?_⟩
  cases hc with
  | stay o => exact have q := hr.trans (o.trans hf); ⟨q.pc, q.trace, .inl ⟨q.st, q.wfs⟩⟩
  | rerun i hi hn _ => exact absurd (prepare_actOk c r hact i hi) (not_or.mpr hn)
  | trans s hl hs o =>
    have q := o.trans hf
    refine ⟨(q.pc.trans (transitionTo_core _ s).pc).trans hr.pc, (endOfStep_off c r).trace, .inr ?_⟩
    rcases transitionTo_res (prepare c r).1 s with ⟨e, he⟩ | ⟨a, b, _⟩
    · exact .inl (by rw [q.st, he]; rfl)
    · rcases hs with rfl | hs
      · exact .inl (by rw [q.st, a]; rfl)
      · exact .inr ⟨s, hs, q.st.trans a, (q.wfs.trans b).trans (exitState_wfs_congr c _ hr.st hr.wfs)⟩

end PMF.H6
