import PlumpyModel.PM.Proof2
import PlumpyModel.PM.Proof6
import PlumpyModel.PM.LProof1
import PlumpyModel.PM.Proof3
/-!
# `PMF.L` — the invariants of the base model with listeners: `Inv` and `Fix` (C01), `InvP` (C05), `Inv2` (C02)

Each is closed under the leaves of the base model (`inv_closed`, `fix_closed`, `invP_closed`, `inv2_closed`), so with listeners only a
transition needs an argument of its own (`StepLeaves.of_base_fireN`): the exiting / entering callbacks run while the invariant is
broken, and the requests made there are deferred or refused.  The argument is the traversal in phases (`Phases.transitionToL`) with
an instance of `Phases` (for `Inv` and `Inv2` the one that already serves `transitionTo`) and a frame of the notifications:

* `Inv` (the entered log stays a path of the lifecycle graph): the requests made in the exiting / entering phase leave state object,
  log and closedness alone (`FHkPhase`).
* `Fix l₀.c` (on a terminated process nothing changes the state object or the log; `C01_listener_terminal_states_final`,
  Props/C01.lean): no transition is reached.
* `InvP` (no user code is started while paused): the exiting / entering callbacks leave the state object alone, so the process is
  still live when the new state object is assigned.
* `Inv2` (all reports of the outcome agree): the future is resolved by `on_entering` before the state object is assigned; the
  requests made there touch nothing `Inv2` looks at (`S2`: `Same2` while stepping and in the exiting / entering phase).
-/
namespace PMF

namespace L

theorem Hk.same {l l' : LCfg} (h : Hk l l') : Same l.c l'.c := ⟨by rw [h.c.st], h.c.entered, h.c.closed⟩

def FInv (F : Hook → LCfg → LCfg) : Prop := ∀ h l, Inv l.c → Inv (F h l).c

structure FG1 (F : Hook → LCfg → LCfg) : Prop where
  inv : FInv F
  phase : FHkPhase F

section
variable {F : Hook → LCfg → LCfg}

theorem transitionToL_inv (hF : FG1 F) (l : LCfg) (s : SObj) (h : Inv l.c) (hl : terminal l.c.st.label = false) :
    Inv (transitionToL F l s).c :=
  (inv_phases l.c s h hl).transitionToL (fun d a => a.trans (hF.phase .exiting d rfl).same)
    (fun _ d r =>
      have k := (hF.phase .entering d rfl).same
      ⟨r.1.same k, by rw [k.1]; exact r.2.1, by rw [k.2.2]; exact r.2.2⟩)
    hF.inv

theorem FG1.closed (hF : FG1 F) : StepLeaves F fun l => Inv l.c :=
  .of_base inv_closed hF.inv fun l s hl h => transitionToL_inv hF l s h hl
end

theorem fireN_inv : ∀ n, StepLeaves (fireN n) fun l => Inv l.c :=
  StepLeaves.of_base_fireN inv_closed fireN_fhkPhase fun _ hP hI l s hl h => transitionToL_inv ⟨hI, hP⟩ l s h hl

theorem fireN_g1 (n : Nat) : FG1 (fireN n) := ⟨(fireN_inv n).hook, fireN_fhkPhase n⟩

theorem runL_inv (P : Prog) (l0 : LCfg) (evs : List Ev) (h : Inv l0.c) : Inv (runL P l0 evs).c :=
  StepLeaves.runL fireN_inv P l0 evs h

section
variable {F : Hook → LCfg → LCfg}

/-- on a terminated process the closing part of a step reaches no notification (`endOfStepL_terminal_c`), hence the whole stepping
task leaves it as it is, with no hypothesis on `F` -/
theorem fix_task {l₀ : LCfg} (ht : terminal l₀.c.st.label = true) : TaskLeaves F fun l => Fix l₀.c l.c :=
  have E := EventLeaves.of_base (fix_closed ht).toBodyClosed
  { endOfStep := fun l r h => by
      rw [endOfStepL_terminal_c F l r (h.terminal ht)]; exact (fix_closed ht).endOfStep l.c r h
    setPc := fun l _ h => h.trans (.of_off (Off.set l.c .pc _))
    start := fun l h => h.trans (.of_off (Off.set l.c .stepping true))
    activate := E.activate
    alloc := E.alloc
    rearm := E.rearm }
end

theorem enterNext_invP (c : Cfg) (s : SObj) (h : InvP c) (hl : terminal c.st.label = false) : InvP (enterNext c s) := by
  have o := enterNext_off c s
  refine ⟨by rw [o.trace]; exact h.traceOk, fun ht pf hp => ?_⟩
  rw [enterNext_st] at ht
  rw [(H6.enterNext_live c s ht).2.2.1]
  exact h.pausedPending hl pf (o.paused ▸ hp)

/-- the process stays live and open until the new state object is assigned -/
theorem invP_phases (c₀ : Cfg) (s : SObj) (h : InvP c₀) (hl : terminal c₀.st.label = false) (hc : c₀.closed = false) :
    Phases c₀ s (fun c => InvP c ∧ HkC c₀ c) (fun c => InvP c ∧ HkC c₀ c)
      (fun _ c => InvP c ∧ terminal c.st.label = false) InvP :=
  have exc : ∀ c e, InvP c ∧ HkC c₀ c → InvP (setFutExc c e) ∧ terminal (setFutExc c e).st.label = false := fun c e a =>
    have o := setFutExc_off c e
    ⟨a.1.off o, by rw [o.st, a.2.st]; exact hl⟩
  { start := ⟨h, .rfl' _⟩
    opn := fun c a => a.2.closed.trans hc
    exit := fun c a => ⟨a.1.off (exitState_off c), a.2.trans (.of_off (exitState_off c))⟩
    again := fun _ b => b
    entering := fun _ c c2 b hok =>
      have o := enteringHooks_off c hok
      ⟨b.1.off o, by rw [o.st, b.2.st]; exact hl⟩
    failed := fun _ c e b => exc c e b
    refused := fun _ e => exc c₀ e ⟨h, .rfl' _⟩
    enter := fun s' c r => enterNext_invP c s' r.1 r.2 }

section
variable {F : Hook → LCfg → LCfg}

theorem transitionToL_invP (hI : ∀ h l, InvP l.c → InvP (F h l).c) (hP : FHkPhase F) (l : LCfg) (s : SObj) (h : InvP l.c) (hl : terminal l.c.st.label = false) :
    InvP (transitionToL F l s).c := by
  by_cases hc : l.c.closed = true
  · -- reachable only without `Inv`
    rw [transitionToL_closed F l s hc]
    exact invP_closed.trans l.c s hl h
  · exact (invP_phases l.c s h hl (eq_false_of_ne_true hc)).transitionToL
      (fun d a => ⟨hI _ _ a.1, a.2.trans (hP .exiting d rfl).c⟩)
      (fun _ d r => ⟨hI _ _ r.1, by rw [(hP .entering d rfl).c.st]; exact r.2⟩) hI

end

theorem fireN_invP : ∀ n, StepLeaves (fireN n) fun l => InvP l.c :=
  StepLeaves.of_base_fireN invP_closed fireN_fhkPhase fun _ hP hI l s hl h => transitionToL_invP hI hP l s h hl

theorem runL_invP (P : Prog) (l0 : LCfg) (evs : List Ev) (h : InvP l0.c) : InvP (runL P l0 evs).c :=
  StepLeaves.runL fireN_invP P l0 evs h

def S2 (F : Hook → LCfg → LCfg) : Prop := ∀ h l, (l.c.stepping = true ∨ hookPhase h = true) → Same2 l.c (F h l).c

/-- while a step is in progress the requests touch nothing `Inv2` looks at: `pause()` / `kill()` only defer, `play()` only un-pauses -/
theorem s2_calls (a : Cfg) : CallLeaves fun l => l.c.stepping = true ∧ Same2 a l.c where
  hand l i h := ⟨(hand_off l.c i).stepping.trans h.1, h.2.trans (.of_off (hand_off l.c i))⟩
  requestPause l _ h := ⟨(requestPause_off l).stepping.trans h.1, h.2.trans (.of_off (requestPause_off l))⟩
  requestKill l _ h := ⟨(requestKill_off l).stepping.trans h.1, h.2.trans (.of_off (requestKill_off l))⟩
  played l h := ⟨(play_off l.c).stepping.trans h.1, h.2.trans (play_same2 l.c)⟩

theorem fireN_s2 (n : Nat) : S2 (fireN n) := fun h l hs => by
  by_cases hst : l.c.stepping = true
  · exact ((s2_calls l.c).fireN_stepping (fun _ a => a.1) (fun _ _ a => a) (fun _ _ _ _ a => a) n h l ⟨hst, .rfl' _⟩).2
  · rw [fireN_phase_idle n h l (hs.resolve_left hst) (Bool.eq_false_iff.mpr hst)]
    exact Same2.rfl' _

structure FG3 (F : Hook → LCfg → LCfg) : Prop where
  inv : ∀ h l, Inv2 l.c → Inv2 (F h l).c
  s2 : S2 F

section
variable {F : Hook → LCfg → LCfg}

theorem transitionToL_inv2 (hF : FG3 F) (l : LCfg) (s : SObj) (h : Inv2 l.c) (hl : terminal l.c.st.label = false) :
    Inv2 (transitionToL F l s).c :=
  (inv2_phases l.c s h hl).transitionToL (fun d a => a.trans (hF.s2 .exiting d (Or.inr rfl)))
    (fun _ d r => r.same2 (hF.s2 .entering d (Or.inr rfl))) hF.inv

theorem FG3.closed (hF : FG3 F) : StepLeaves F fun l => Inv2 l.c :=
  .of_base inv2_closed hF.inv fun l s hl h => transitionToL_inv2 hF l s h hl

end

theorem fireN_inv2 : ∀ n, StepLeaves (fireN n) fun l => Inv2 l.c :=
  StepLeaves.of_base_fireN inv2_closed fireN_s2 fun _ hS hI l s hl h => transitionToL_inv2 ⟨hI, hS⟩ l s h hl

theorem fireN_g3 (n : Nat) : FG3 (fireN n) := ⟨(fireN_inv2 n).hook, fireN_s2 n⟩

theorem runL_inv2 (P : Prog) (l0 : LCfg) (evs : List Ev) (h : Inv2 l0.c) : Inv2 (runL P l0 evs).c :=
  StepLeaves.runL fireN_inv2 P l0 evs h

end L
end PMF
