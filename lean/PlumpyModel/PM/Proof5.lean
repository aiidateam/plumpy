import PlumpyModel.PM.Proof4
/-!
# C04: the pause alias points to a pause action; a kill is never lost

`Kx c c'`: what every update of the model except a `pause()` made during a step does to the request bookkeeping — the kinds in
the action table are only extended, `_pausing` is kept or cleared.  It carries `PausingOk` through the stepping task and the
leaves of the calls (`pausingOk_task`, `pausingOk_calls`); `pause()` installs a fresh pause action (`requestInterrupt_new`).
With `PausingOk`, a commitment is closed under the same leaves (`committed_calls`) and survives every history (`run_committed`).
-/
namespace PMF

def Kx (c c' : Cfg) : Prop :=
  (∀ i a, actionKind c i = some a → actionKind c' i = some a) ∧ (c'.pausing = c.pausing ∨ c'.pausing = none)

theorem Kx.rfl' (c : Cfg) : Kx c c := ⟨fun _ _ h => h, Or.inl rfl⟩
theorem Kx.trans {a b c : Cfg} (h1 : Kx a b) (h2 : Kx b c) : Kx a c := by
  refine ⟨fun i x h => h2.1 i x (h1.1 i x h), ?_⟩
  rcases h2.2 with h | h
  · rcases h1.2 with g | g
    · exact Or.inl (h.trans g)
    · exact Or.inr (h.trans g)
  · exact Or.inr h
theorem PausingOk.kx {c c' : Cfg} (h : PausingOk c) (s : Kx c c') : PausingOk c' := by
  intro i hi
  rcases s.2 with g | g
  · exact s.1 i _ (h i (by rw [← g]; exact hi))
  · rw [g] at hi; cases hi
theorem Kx.of_eq {c c' : Cfg} (h1 : c'.actions = c.actions) (h2 : c'.pausing = c.pausing) : Kx c c' :=
  ⟨fun i _ h => (actionKind_of_actions h1 i).trans h, Or.inl h2⟩
theorem Kx.of_off {W : List Fld} {c c' : Cfg} (o : Off W c c')
    (hW : ∀ f ∈ [Fld.actions, .pausing], f ∉ W := by decide) : Kx c c' :=
  .of_eq (o.actions (hW _ (by decide))) (o.pausing (hW _ (by decide)))

theorem setActionStatus_kx (c : Cfg) (i s) : Kx c (setActionStatus c i s) :=
  ⟨fun j _ h => (setActionStatus_kind c i j s).trans h, Or.inl (setActionStatus_off c i s).pausing⟩
theorem cancelInterrupt_kx (c : Cfg) : Kx c (cancelInterrupt c) := by
  unfold cancelInterrupt
  split
  · rename_i i _
    exact ⟨fun j _ h => (cancelAction_kind c i j).trans h, Or.inl (cancelAction_off c i).pausing⟩
  · exact Kx.rfl' c
theorem setInterrupt_kx (c : Cfg) (n) : Kx c (setInterrupt c n) :=
  (cancelInterrupt_kx c).trans (.of_eq rfl rfl)
theorem append_kx (c : Cfg) (a : Action) (n : Option Nat) :
    Kx c { c with actions := c.actions ++ [a], interrupt := n } := by
  refine ⟨fun i x h => ?_, Or.inl rfl⟩
  unfold actionKind at *
  cases hi : c.actions[i]? with
  | none => rw [hi] at h; cases h
  | some y => rw [List.getElem?_append_left (List.getElem?_eq_some_iff.mp hi).1, hi]; rw [hi] at h; exact h
theorem setInterruptFromExc_kx (c : Cfg) (k n) : Kx c (setInterruptFromExc c k n) :=
  (cancelInterrupt_kx c).trans (append_kx _ _ _)
theorem doPauseHooks_kx (c : Cfg) : Kx c (doPauseHooks c) := ⟨fun _ _ h => h, Or.inr rfl⟩
theorem requestInterrupt_kx (c : Cfg) (k) : Kx c (requestInterrupt c k) :=
  ((Kx.of_eq rfl rfl : Kx c { c with nextCookie := c.nextCookie + 1 }).trans (setInterruptFromExc_kx ..)).trans
    (.of_off (interruptState_off ..))

theorem prepare_kx (c : Cfg) (r) : Kx c (prepare c r).1 :=
  prepare_elim (Q := fun p => Kx c p.1) c r (fun _ => setInterrupt_kx ..) (fun _ _ => Kx.rfl' c) (fun _ _ _ _ => Kx.rfl' c)
    fun _ _ _ => setInterruptFromExc_kx ..

theorem dispatch_kx (c : Cfg) (next) : Kx c (dispatch c next) :=
  (ClosingG.of_rel (R := Kx) (fun h1 h2 => h1.trans h2) (fun c i => setActionStatus_kx c i _) (fun _ => .of_eq rfl rfl)
    (fun _ _ => .of_eq rfl rfl) (fun c s => .of_off (transitionTo_off c s)) doPauseHooks_kx c).dispatch c next
      (fun _ _ _ => trivial) (fun _ _ => trivial) (Kx.rfl' c)

theorem finally_kx (c : Cfg) : Kx c (finally_ c) :=
  (Kx.of_eq rfl rfl : Kx c { c with stepping := false }).trans (setInterrupt_kx _ _)

theorem endOfStep_kx (c : Cfg) (r) : Kx c (endOfStep c r) :=
  ((prepare_kx c r).trans (dispatch_kx _ _)).trans (finally_kx _)

theorem play_kx (c : Cfg) : Kx c (play c).1 :=
  play_elim c (fun _ _ => Kx.rfl' c) (fun i _ _ => ⟨fun j _ h => (cancelAction_kind c i j).trans h, Or.inr rfl⟩)
    (fun _ _ _ => .of_eq rfl rfl) fun _ _ _ => .of_eq rfl rfl

theorem kill_in_step (c : Cfg) (hl : terminal c.st.label = false) (hnk : c.killing = none) (hs : c.stepping = true) :
    kill c = (hand { requestInterrupt c .kill with killing := (requestInterrupt c .kill).interrupt } c.actions.length,
      .action c.actions.length) := by
  unfold kill
  simp only [ne_killed_of_live hl, if_false, hl, Bool.false_eq_true, hnk, hs, if_true]
  simp only [(requestInterrupt_new c .kill).1]

theorem kill_between_steps (c : Cfg) (hl : terminal c.st.label = false) (hnk : c.killing = none) (hs : c.stepping = false) :
    kill c = (transitionTo c .killed, .bool true) := by
  unfold kill
  simp only [ne_killed_of_live hl, if_false, hl, Bool.false_eq_true, hnk, hs]

theorem pausingOk_task : TaskClosed PausingOk :=
  .of_keep PausingOk.keep (fun _ h => h.kx (.of_eq rfl rfl)) fun c r h => h.kx (endOfStep_kx c r)

/-- every leaf but one keeps the action kinds and keeps or clears the alias; `pause()` during a step points it at the pause
action it has just installed -/
theorem pausingOk_calls : EventClosed PausingOk fun _ _ => True :=
  .of_keep PausingOk.keep
    (requestPause := fun c _ _ _ _ _ i hi => by
      have hn := requestInterrupt_new c .pause
      rw [show _ = some c.actions.length from hn.1] at hi
      cases hi; exact hn.2.1)
    (requestKill := fun c _ _ _ h => h.kx ((requestInterrupt_kx c .kill).trans (.of_eq rfl rfl)))
    (pauseNow := fun c _ _ _ _ _ h => h.kx (doPauseHooks_kx c))
    (killNow := fun c _ _ _ h => h.kx (.of_off (transitionTo_off c _)))
    (failNow := fun c e _ h => h.kx (.of_off (transitionTo_off c _)))
    (played := fun c h => h.kx (play_kx c))

theorem run_pausingOk (P : Prog) (c0 : Cfg) (evs : List Ev) (h : PausingOk c0) : PausingOk (run P c0 evs) :=
  pausingOk_calls.run pausingOk_task (fun _ _ => trivial) P c0 evs h

theorem pausingOk_init (nf : Nat) : PausingOk (init nf) := fun _ hi => nomatch hi

/-- a kill accepted during a step is pending at once -/
theorem requestKill_pending (c : Cfg) (hl : terminal c.st.label = false) (hs : c.stepping = true) :
    Pending c.actions.length { requestInterrupt c .kill with killing := (requestInterrupt c .kill).interrupt } :=
  have hn := requestInterrupt_new c .kill
  have o := requestInterrupt_off c .kill
  ⟨o.st ▸ hl, hn.1, hn.1, hn.2.2, o.stepping.trans hs, hn.2.1⟩

theorem kill_commits (c : Cfg) (k : Nat) (hl : terminal c.st.label = false) (hnk : c.killing = none)
    (hr : (kill c).2 = .action k) : Pending k (kill c).1 := by
  cases hs : c.stepping with
  | false => rw [kill_between_steps c hl hnk hs] at hr; cases hr
  | true =>
    rw [kill_in_step c hl hnk hs] at hr ⊢
    cases hr
    exact (requestKill_pending c hl hs).off (hand_off ..)

/-- with a kill committed no further request is accepted: the process is terminated, or `_killing` is set -/
theorem committed_calls (k : Nat) : EventClosed (fun c => Committed k c ∧ PausingOk c) fun _ _ => True :=
  .of_keep (fun h s => ⟨h.1.keep s, h.2.keep s⟩)
    (requestPause := fun c hl _ _ hk h => h.1.not_accepting hl hk)
    (requestKill := fun c hl _ hk h => h.1.not_accepting hl hk)
    (pauseNow := fun c hl _ _ _ hk h => h.1.not_accepting hl hk)
    (killNow := fun c hl _ hk h => h.1.not_accepting hl hk)
    (failNow := fun c e hl h =>
      ⟨committed_of_label (.inr ((transitionTo_label c (.excepted e)).elim id id)), pausingOk_calls.failNow c e hl h.2⟩)
    (played := fun c h => by
      refine ⟨?_, pausingOk_calls.played c h.2⟩
      rcases or_assoc.mpr h.1 with ht | hp
      · exact committed_of_label (by rw [(play_off c).st]; exact ht)
      · exact (play_pending k c hp h.2).committed)

theorem step_committed (P : Prog) (k : Nat) (c : Cfg) (ev : Ev) (h : Committed k c) (hp : PausingOk c) :
    Committed k (step P c ev).1 :=
  ((committed_calls k).step ((committed_task k).and pausingOk_task) P c ev (fun _ _ => trivial) ⟨h, hp⟩).1

theorem run_committed (P : Prog) (k : Nat) (evs : List Ev) (c : Cfg) (h : Committed k c) (hp : PausingOk c) :
    Committed k (run P c evs) :=
  ((committed_calls k).run ((committed_task k).and pausingOk_task) (fun _ _ => trivial) P c evs ⟨h, hp⟩).1

theorem pending_committed_run (P : Prog) (k : Nat) (c : Cfg) (h : Pending k c) (hp : PausingOk c) (evs : List Ev) :
    Committed k (run P c evs) := run_committed P k evs c (Or.inr (Or.inr h)) hp

/-- `C04_kill_never_lost` from any configuration whose pause alias points to a pause action (a restored one, `Persist/Proof7.lean`) -/
theorem kill_never_lost_from (P : Prog) (c0 : Cfg) (hp0 : PausingOk c0) (evs₁ evs₂ : List Ev) (k : Nat)
    (hl : terminal (run P c0 evs₁).st.label = false) (hnk : (run P c0 evs₁).killing = none)
    (hr : (kill (run P c0 evs₁)).2 = .action k) : Committed k (run P (kill (run P c0 evs₁)).1 evs₂) :=
  pending_committed_run P k _ (kill_commits _ k hl hnk hr) (pausingOk_calls.kill _ (run_pausingOk P _ evs₁ hp0)) evs₂

/-- **C04 (model level) — a kill is never lost**: take any history `evs₁`; if `kill()` then hands back an action
future `k` (the process was live, in a step, and no kill was pending), then after *every* further history `evs₂`
— pauses, plays, resumes, more kills, `fail`, future cancellation, awaitable completions, any ticks — the process
is KILLED or EXCEPTED, or the kill is still the pending interrupt action of the step in flight (and then the end
of that step ends the process: `endOfStep_pending`). -/
theorem C04_kill_never_lost (P : Prog) (nf : Nat) (evs₁ evs₂ : List Ev) (k : Nat) :
    let c₁ := run P (init nf) evs₁
    terminal c₁.st.label = false → c₁.killing = none → (kill c₁).2 = .action k →
    Committed k (run P (kill c₁).1 evs₂) :=
  kill_never_lost_from P (init nf) (pausingOk_init nf) evs₁ evs₂ k

end PMF
