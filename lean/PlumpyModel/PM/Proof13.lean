import PlumpyModel.PM.Proof8
import PlumpyModel.PM.Proof11f
/-!
# No stale done-callbacks (`G`), frames, the history predicate `histOk` (C10 at the level of histories)

Namespace `PMF.B10`.  The results of this file hold in every configuration reachable by a history that

* contains no callback of the stepping task that runs out of the model's fuel (`H6.histFuelOk`, as for C06), and
* is *well formed for the barrier* (`histOk`): a `resume()` is placed only while the current state awaits nothing (the
  model — like `Waiting.resume` of the library — lets a `resume()` complete the wait of a work chain whatever is still
  awaited), and no awaitable is "completed" with the outcome `pending`,

for a program whose `waitOn` commands name pairwise distinct futures (`AwDistinct`: the awaiting map is a `dict`).
-/
namespace PMF.B10
open PMF.H6

/-- the awaitables of a WAITING state object (future, context key) -/
def awOf : SObj → List (Nat × Nat)
  | .waiting _ _ _ aw => aw
  | _ => []

theorem awOf_of_terminal {s : SObj} (h : terminal s.label = true) : awOf s = [] := by
  cases s <;> first | rfl | cases h

theorem awOf_of_wfOf_none {s : SObj} (h : wfOf s = none) : awOf s = [] := by
  cases s <;> first | rfl | cases h

/-- the barrier, read off `InvB`: a wait that holds a result — in its future, or parked — awaits nothing -/
theorem barrier_of_invB {c : Cfg} (hB : InvB c) {fn wf : Nat} {wk : Option WF} {aw : List (Nat × Nat)}
    (hst : c.st = .waiting fn wf wk aw) (hres : (∃ v, c.wfs[wf]? = some (.result v)) ∨ ∃ v, wk = some (.result v)) : aw = [] := by
  apply (hB fn wf wk aw hst).2
  rcases hres with ⟨v, hv⟩ | ⟨v, hv⟩
  · left; rw [hv]; rfl
  · right; rw [hv]; rfl

theorem terminal_excepted (e : Exc) : terminal (SObj.excepted e).label = true := rfl
theorem terminal_killed : terminal SObj.killed.label = true := rfl

/-- the futures of a list of awaitables are pairwise distinct (the awaiting map is a `dict` keyed by the future) -/
def DistinctF (aw : List (Nat × Nat)) : Prop := (aw.map (·.1)).Nodup

def OutOk : Outcome → Prop
  | .ret (.waitOn _ aw) => DistinctF aw
  | _ => True

/-- the program never awaits the same future twice in ONE `ToContext` (dict semantics of `Waiting._awaiting`) -/
def AwDistinct (P : Prog) : Prop := ∀ fn args kw ctx, OutOk (P fn args kw ctx).out

theorem find?_of_mem_nodup {β : Type} (l : List (Nat × β)) (h : (l.map (·.1)).Nodup) (k : Nat) (v : β) (hm : (k, v) ∈ l) :
    l.find? (·.1 = k) = some (k, v) := by
  induction l with
  | nil => cases hm
  | cons p rest ih =>
    rw [List.map_cons, List.nodup_cons] at h
    rcases List.mem_cons.mp hm with hm | hm
    · subst hm; simp
    · have hne : p.1 ≠ k := fun hp => h.1 (List.mem_map.mpr ⟨(k, v), hm, hp.symm⟩)
      rw [List.find?_cons_of_neg (by simpa using hne)]
      exact ih h.2 hm

theorem mem_unique_of_nodup {β : Type} (l : List (Nat × β)) (h : (l.map (·.1)).Nodup) (k : Nat) (v u : β)
    (hv : (k, v) ∈ l) (hu : (k, u) ∈ l) : u = v := by
  have h2 := find?_of_mem_nodup l h k u hu
  rw [find?_of_mem_nodup l h k v hv] at h2
  cases h2; rfl

theorem countP_fst_le_one (l : List (Nat × Nat)) (g : Nat) (h : DistinctF l) : l.countP (·.1 = g) ≤ 1 := by
  have h1 := List.nodup_iff_count.mp h g
  rwa [List.count_eq_countP, List.countP_map, List.countP_congr (q := fun a => decide (a.1 = g)) (fun x _ => by simp)] at h1

theorem distinctF_filter (l : List (Nat × Nat)) (p : Nat × Nat → Bool) (h : DistinctF l) : DistinctF (l.filter p) :=
  List.Nodup.sublist (List.Sublist.map _ List.filter_sublist) h

/-- `d` differs from `c` in nothing the workchain invariants look at (state object, context, awaitables, callbacks);
the program counter is the same or the coroutine crashed -/
structure BF (c d : Cfg) : Prop where
  ctx : d.ctx = c.ctx
  efs : d.efs = c.efs
  efCb : d.efCb = c.efCb
  ready : d.ready = c.ready
  st : d.st = c.st
  pc : d.pc = c.pc ∨ ∃ e, d.pc = .crashed e

theorem BF.rfl' (c : Cfg) : BF c c := ⟨rfl, rfl, rfl, rfl, rfl, Or.inl rfl⟩
theorem BF.trans {a b c : Cfg} (h1 : BF a b) (h2 : BF b c) : BF a c := by
  refine ⟨h2.ctx.trans h1.ctx, h2.efs.trans h1.efs, h2.efCb.trans h1.efCb, h2.ready.trans h1.ready, h2.st.trans h1.st, ?_⟩
  rcases h2.pc with g | g
  · rcases h1.pc with g1 | ⟨e, g1⟩
    · exact Or.inl (g.trans g1)
    · exact Or.inr ⟨e, g.trans g1⟩
  · exact Or.inr g

theorem BF.of_off {W : List Fld} {c d : Cfg} (o : Off W c d)
    (hW : ∀ f ∈ [Fld.ctx, .efs, .efCb, .ready, .st, .pc], f ∉ W := by decide) : BF c d :=
  ⟨o.ctx (hW _ (by decide)), o.efs (hW _ (by decide)), o.efCb (hW _ (by decide)),
   o.ready (hW _ (by decide)), o.st (hW _ (by decide)), Or.inl (o.pc (hW _ (by decide)))⟩

def nextOf : StepEnd → Option SObj
  | .next s => s
  | .interruption _ => none
  | .exception e => some (.excepted e)

theorem prepare_nextOf (c : Cfg) (r : StepEnd) : (prepare c r).2 = nextOf r := by
  rw [prepare_snd]; cases r <;> rfl

/-- the end of a step, seen from the workchain fields: nothing happens to them, or exactly one transition — to the state
the step asked for, or to KILLED — is made from a configuration that agrees with `c` on them -/
theorem endOfStep_cases (c : Cfg) (r : StepEnd) :
    BF c (endOfStep c r) ∨
    (terminal c.st.label = false ∧
      ∃ c' s, BF c c' ∧ BF (transitionTo c' s) (endOfStep c r) ∧ (s = .killed ∨ nextOf r = some s)) := by
  have hp := prepare_off c r
  obtain ⟨d, hc, hf⟩ := endOfStep_closes c r
  cases hc with
  | stay o => exact .inl (.of_off (hp.trans (o.trans hf)))
  | trans s hl hs o => exact .inr ⟨hp.st ▸ hl, _, s, .of_off hp, .of_off (o.trans hf), prepare_nextOf c r ▸ hs⟩
  | rerun i _ _ e =>
    exact .inl ((BF.of_off hp).trans (.trans (e ▸ ⟨rfl, rfl, rfl, rfl, rfl, .inr ⟨_, rfl⟩⟩) (.of_off hf)))

theorem endOfStep_pres (Q : Cfg → Prop) (hbf : ∀ c d, BF c d → Q c → Q d) (c : Cfg) (r : StepEnd) (hQ : Q c)
    (hT : terminal c.st.label = false → ∀ c' s, BF c c' → (s = .killed ∨ nextOf r = some s) → Q (transitionTo c' s)) :
    Q (endOfStep c r) := by
  rcases endOfStep_cases c r with h | ⟨hl, c', s, h1, h2, hs⟩
  · exact hbf _ _ h hQ
  · exact hbf _ _ h2 (hT hl c' s h1 hs)

def ReadyDone (c : Cfg) : Prop := ∀ g, Cb.adone g ∈ c.ready → ∃ o, c.efs[g]? = some o ∧ o ≠ EFut.pending

theorem ReadyDone.congr {c d : Cfg} (h : ReadyDone c) (hr : d.ready = c.ready) (he : d.efs = c.efs) : ReadyDone d := by
  intro g hg; rw [he]; exact h g (by rw [← hr]; exact hg)

/-- registration of one awaitable by `Waiting.enter` -/
def regStep (c : Cfg) (p : Nat × Nat) : Cfg :=
  let c := { c with efKeys := p :: c.efKeys }
  match c.efs[p.1]? with
  | some EFut.pending => { c with efCb := c.efCb ++ [p.1] }
  | some _ => { c with ready := c.ready ++ [.adone p.1] }
  | none => c

theorem regStep_fields (c : Cfg) (p : Nat × Nat) :
    (∀ f, (regStep c p).ready.count (Cb.adone f) + (regStep c p).efCb.count f ≤
        c.ready.count (Cb.adone f) + c.efCb.count f + (if decide (p.1 = f) = true then 1 else 0)) ∧
    (ReadyDone c → ReadyDone (regStep c p)) := by
  unfold regStep
  dsimp only
  split
  · refine ⟨fun f => ?_, fun h => h⟩
    simp only [List.count_append, List.count_singleton, beq_iff_eq, decide_eq_true_eq]
    omega
  · rename_i o hne ho
    refine ⟨fun f => ?_, fun h g hg => ?_⟩
    · simp only [List.count_append, List.count_singleton, beq_iff_eq, Cb.adone.injEq, decide_eq_true_eq]
      omega
    · rcases List.mem_append.mp hg with hg | hg
      · exact h g hg
      · cases List.mem_singleton.mp hg
        exact ⟨o, ho, fun hp => hne (hp ▸ rfl)⟩
  · exact ⟨fun f => Nat.le_add_right _ _, fun h => h⟩

theorem enterState_reg (s : SObj) : ∀ c : Cfg,
    (∀ f, (enterState c s).ready.count (Cb.adone f) + (enterState c s).efCb.count f ≤
        c.ready.count (Cb.adone f) + c.efCb.count f + (awOf s).countP (·.1 = f)) ∧
    (ReadyDone c → ReadyDone (enterState c s)) := by
  cases s with
  | waiting fn wf wk aw =>
    show ∀ c : Cfg, (∀ f, (aw.foldl regStep c).ready.count (Cb.adone f) + (aw.foldl regStep c).efCb.count f ≤
        c.ready.count (Cb.adone f) + c.efCb.count f + aw.countP (·.1 = f)) ∧ (ReadyDone c → ReadyDone (aw.foldl regStep c))
    induction aw with
    | nil => exact fun c => ⟨fun f => Nat.le_refl _, fun h => h⟩
    | cons p rest ih =>
      intro c
      obtain ⟨a1, a2⟩ := ih (regStep c p)
      obtain ⟨b1, b2⟩ := regStep_fields c p
      refine ⟨fun f => ?_, fun h => a2 (b2 h)⟩
      have h1 := a1 f
      have h2 := b1 f
      rw [List.foldl_cons, List.countP_cons]
      omega
  | _ => exact fun c => ⟨fun f => Nat.le_refl _, fun h => h⟩

theorem enterNext_x (c : Cfg) (s : SObj) :
    Off [.st, .entered, .killing, .notif, .pfs, .closed, .cleanups] (enterState c s) (enterNext c s) :=
  have h := (setState_off (enterState c s) s).trans (enteredHooks_off _ s)
  Off.ite (h.trans (onTerminated_off _)) (h.mono (by decide))

theorem exitState_efCb (c : Cfg) : (exitState c).efCb.Sublist c.efCb :=
  exitState_elim (Q := fun d => d.efCb.Sublist c.efCb) c (fun _ => List.Sublist.refl _) (fun _ _ _ _ _ _ => List.filter_sublist)
    fun _ _ _ _ _ _ => List.filter_sublist

/-- what a transition does to the scheduled and registered done-callbacks: the result is terminal with the scheduled ones
untouched; or it is the requested live state, entered from a live one, and the callbacks are those `Waiting.exit` left (a closed
process) or those `Waiting.enter` made of them -/
theorem transitionTo_x (c : Cfg) (s : SObj) :
    (transitionTo c s).ctx = c.ctx ∧ (transitionTo c s).efs = c.efs ∧ (transitionTo c s).pc = c.pc ∧
    ((terminal (transitionTo c s).st.label = true ∧ (transitionTo c s).ready = c.ready) ∨
     ((transitionTo c s).st = s ∧ terminal s.label = false ∧ terminal c.st.label = false ∧
       (((transitionTo c s).ready = c.ready ∧ (transitionTo c s).efCb = (exitState c).efCb) ∨
        ((transitionTo c s).ready = (enterState (exitState c) s).ready ∧
         (transitionTo c s).efCb = (enterState (exitState c) s).efCb)))) := by
  have hx := exitState_off c
  have o := transitionTo_off c s
  refine ⟨o.ctx, o.efs, o.pc, transitionTo_elim c s (Q := fun x =>
    (terminal x.st.label = true ∧ x.ready = c.ready) ∨ (x.st = s ∧ terminal s.label = false ∧ terminal c.st.label = false ∧
      ((x.ready = c.ready ∧ x.efCb = (exitState c).efCb) ∨
       (x.ready = (enterState (exitState c) s).ready ∧ x.efCb = (enterState (exitState c) s).efCb)))) ?_ ?_⟩
  · -- closed: the state object is just replaced
    rintro _ d s' (hal | e | e)
    · rcases Bool.eq_false_or_eq_true (terminal s.label) with hs | hs
      · exact Or.inl ⟨hs, hx.ready⟩
      · exact Or.inr ⟨rfl, hs, live_of_allowed hal, Or.inl ⟨hx.ready, rfl⟩⟩
    · exact Or.inl ⟨rfl, rfl⟩
    · exact Or.inl ⟨rfl, hx.ready⟩
  · intro _ d s' c2 he hok
    have hst := enterNext_st c2 s'
    have o2 := enterNext_x c2 s'
    rcases Bool.eq_false_or_eq_true (terminal s'.label) with hs | hs
    · refine Or.inl ⟨by rw [hst]; exact hs, ?_⟩
      have hen : enterState c2 s' = c2 := by cases s' <;> first | rfl | cases hs
      rw [o2.ready, hen, (he.off.trans (enteringHooks_off _ hok)).ready]
    · -- the entering hooks of a live state do nothing
      cases (enteringHooks_live d s' hs).symm.trans hok
      cases he with
      | ok hal => exact Or.inr ⟨hst, hs, live_of_allowed hal, Or.inr ⟨o2.ready, o2.efCb⟩⟩
      | _ => cases hs

/-- hence: a scheduled done-callback still belongs to a done future, and each awaitable of a live new state got at most one
callback (`Waiting.exit` drops callbacks, `Waiting.enter` registers or schedules one per awaitable) -/
theorem transitionTo_cbs (c : Cfg) (s : SObj) :
    (ReadyDone c → ReadyDone (transitionTo c s)) ∧
    (terminal (transitionTo c s).st.label = true ∨
     ((transitionTo c s).st = s ∧ terminal s.label = false ∧ terminal c.st.label = false ∧
       ∀ f, (transitionTo c s).ready.count (Cb.adone f) + (transitionTo c s).efCb.count f ≤
         c.ready.count (Cb.adone f) + c.efCb.count f + (awOf s).countP (·.1 = f))) := by
  have hx := exitState_off c
  have hcb : ∀ f, (exitState c).efCb.count f ≤ c.efCb.count f := fun f => (exitState_efCb c).count_le f
  obtain ⟨-, he, -, ⟨ht, hr⟩ | ⟨hst, hs, hlive, ⟨hr, hq⟩ | ⟨hr, hq⟩⟩⟩ := transitionTo_x c s
  · exact ⟨fun h => h.congr hr he, Or.inl ht⟩
  · refine ⟨fun h => h.congr hr he, Or.inr ⟨hst, hs, hlive, fun f => ?_⟩⟩
    have := hcb f
    rw [hr, hq]; omega
  · obtain ⟨hcnt, hrd⟩ := enterState_reg s (exitState c)
    refine ⟨fun h => (hrd (h.congr hx.ready hx.efs)).congr hr (he.trans (hx.efs.symm.trans (enterState_off _ s).efs.symm)),
      Or.inr ⟨hst, hs, hlive, fun f => ?_⟩⟩
    have h3 := hcnt f
    have := hcb f
    rw [hx.ready] at h3
    rw [hr, hq]; omega

/-- **no stale callbacks**: while the process is live, every scheduled `_awaitable_done` and every registered
done-callback belongs to a future the current WAITING state still awaits — at most one per awaited future (`ns`); the
awaited futures are distinct (`nd`); the future of a scheduled callback is done (`rd`); a step body suspended at an `await`
will return a command with distinct futures (`pcd`). -/
structure G (c : Cfg) : Prop where
  ns : terminal c.st.label = false → ∀ f, c.ready.count (Cb.adone f) + c.efCb.count f ≤ (awOf c.st).countP (·.1 = f)
  nd : DistinctF (awOf c.st)
  rd : ReadyDone c
  pcd : ∀ b, c.pc = .inUser b → OutOk b.out

theorem G.congr {c d : Cfg} (h : G c) (hl : terminal d.st.label = terminal c.st.label) (ha : awOf d.st = awOf c.st)
    (hr : d.ready = c.ready) (hcb : d.efCb = c.efCb) (he : d.efs = c.efs) (hpc : d.pc = c.pc ∨ ∃ e, d.pc = .crashed e) :
    G d := by
  refine ⟨?_, ?_, h.rd.congr hr he, ?_⟩
  · intro hlive f; rw [hr, hcb, ha]; exact h.ns (by rw [← hl]; exact hlive) f
  · rw [ha]; exact h.nd
  · intro b hb
    rcases hpc with g | ⟨e, g⟩
    · exact h.pcd b (by rw [← g]; exact hb)
    · rw [g] at hb; cases hb

theorem G.bf {c d : Cfg} (h : G c) (f : BF c d) : G d :=
  h.congr (by rw [f.st]) (by rw [f.st]) f.ready f.efCb f.efs f.pc

theorem g_init (nf : Nat) : G (init nf) :=
  ⟨fun _ f => Nat.le_refl 0, List.nodup_nil, fun g hg => (by cases hg), fun b hb => (by cases hb)⟩

/-- what a step must know about the state it asks for, for `G` to go on -/
def GSide (c : Cfg) (s : SObj) : Prop := terminal s.label = true ∨ (awOf c.st = [] ∧ DistinctF (awOf s))

theorem gside_bf {c c' : Cfg} {s : SObj} (h : GSide c s) (f : BF c c') : GSide c' s :=
  h.imp id fun ⟨a, b⟩ => ⟨by rw [f.st]; exact a, b⟩

theorem transitionTo_G (c : Cfg) (s : SObj) (h : G c) (hside : GSide c s) : G (transitionTo c s) := by
  obtain ⟨hrd, hcase⟩ := transitionTo_cbs c s
  have hpcd : ∀ b, (transitionTo c s).pc = .inUser b → OutOk b.out :=
    fun b hb => h.pcd b ((transitionTo_off c s).pc.symm.trans hb)
  rcases hcase with ht | ⟨hst, hs, hlive, hcnt⟩
  · exact ⟨fun hl => absurd (ht.symm.trans hl) (by decide), awOf_of_terminal ht ▸ List.nodup_nil, hrd h.rd, hpcd⟩
  · rcases hside with hs' | ⟨hnil, hd⟩
    · rw [hs] at hs'; cases hs'
    · refine ⟨fun _ f => ?_, by rw [hst]; exact hd, hrd h.rd, hpcd⟩
      have h0 := h.ns hlive f
      have h1 := hcnt f
      rw [hnil, List.countP_nil] at h0
      rw [hst]; omega

theorem endOfStep_G (c : Cfg) (r : StepEnd) (h : G c)
    (hside : terminal c.st.label = false → ∀ s, r = .next (some s) → GSide c s) : G (endOfStep c r) := by
  refine endOfStep_pres G (fun _ _ f g => g.bf f) c r h ?_
  intro hlive c' s f hs
  refine transitionTo_G c' s (h.bf f) ?_
  rcases hs with rfl | hs
  · exact Or.inl terminal_killed
  · cases r with
    | next o => cases hs; exact gside_bf (hside hlive s rfl) f
    | interruption k => cases hs
    | exception e => cases hs; exact Or.inl (terminal_excepted e)

theorem finishUser_G (c : Cfg) (o : Outcome) (h : G c) (hnw : awOf c.st = []) (ho : OutOk o) : G (finishUser c o) := by
  unfold finishUser
  split
  · rename_i cmd
    have happ : G { c with wfs := c.wfs ++ [WF.pending] } := h.bf ⟨rfl, rfl, rfl, rfl, rfl, Or.inl rfl⟩
    cases cmd with
    | cont fn args kw => exact endOfStep_G c _ h (by intro _ s hs; cases hs; exact Or.inr ⟨hnw, List.nodup_nil⟩)
    | wait fn => exact endOfStep_G _ _ happ (by intro _ s hs; cases hs; exact Or.inr ⟨hnw, List.nodup_nil⟩)
    | waitOn fn aw => exact endOfStep_G _ _ happ (by intro _ s hs; cases hs; exact Or.inr ⟨hnw, ho⟩)
    | stop v ok => exact endOfStep_G c _ h (by intro _ s hs; cases hs; exact Or.inl rfl)
    | kill => exact endOfStep_G c _ h (by intro _ s hs; cases hs; exact Or.inl rfl)
  · exact endOfStep_G c _ h (by intro _ s hs; cases hs; exact Or.inl rfl)

/-- `InvB` is what lets the wake-up of a wait that holds a result ask for RUNNING: nothing is awaited any more -/
theorem wake_G (c : Cfg) (fn wf : Nat) (w : WF) (h : G c) (hB : InvB c) (hw : c.wfs[wf]? = some w)
    (hown : terminal c.st.label = true ∨ wfOf c.st = some wf) : G (wake c fn wf w) := by
  cases w with
  | result v =>
    refine endOfStep_G c _ h ?_
    intro hlive s hs; cases hs
    rcases hown with g | g
    · rw [hlive] at g; cases g
    · obtain ⟨fn', wk, aw, hst⟩ := wfOf_waiting g
      have : aw = [] := (hB fn' wf wk aw hst).2 (Or.inl (by rw [hw]; rfl))
      exact Or.inr ⟨by rw [hst, this]; rfl, List.nodup_nil⟩
  | interrupted k =>
    exact endOfStep_G _ _ (L.rearm_elim c wf h fun _ _ _ hst =>
      h.congr (by rw [hst]; rfl) (by rw [hst]; rfl) rfl rfl rfl (Or.inl rfl)) (by intro _ s hs; cases hs)
  | failed e => exact endOfStep_G c _ h (by intro _ s hs; cases hs)
  | pending => exact h

theorem stepBodyK_G (P : Prog) (hP : AwDistinct P) (k : Cfg → Cfg) (c : Cfg) (h : G c) (hB : InvB c)
    (hk : ∀ d, G d → InvB d → G (k d)) : G (stepBodyK P k c) := by
  unfold stepBodyK
  have hs : G { c with stepping := true } := h.bf ⟨rfl, rfl, rfl, rfl, rfl, Or.inl rfl⟩
  have hsB : InvB { c with stepping := true } := hB.off (Off.set c .stepping true)
  dsimp only
  split
  · rename_i fn hst
    have hst' : c.st = .created fn := hst
    refine hk _ (endOfStep_G _ _ hs ?_) (invB_closed.endOfStep _ _ ?_ hsB)
    · intro _ s hs'; cases hs'
      exact Or.inr ⟨by show awOf c.st = []; rw [hst']; rfl, List.nodup_nil⟩
    · intro s hs'; cases hs'; exact invB_closed.tgt _ _ nofun
  · rename_i fn args kw hst
    have hst' : c.st = .running fn args kw := hst
    split
    · refine hk _ (finishUser_G _ _ (hs.bf ⟨rfl, rfl, rfl, rfl, rfl, Or.inl rfl⟩) ?_ (hP fn args kw c.ctx))
        (invB_closed.finishUser _ _ (hsB.off (Off.set _ .trace _)))
      show awOf c.st = []; rw [hst']; rfl
    · exact ⟨hs.ns, hs.nd, hs.rd, by intro b hb; cases hb; exact hP fn args kw c.ctx⟩
  · rename_i fn wf wk aw hst
    have hst' : c.st = .waiting fn wf wk aw := hst
    split
    · exact ⟨hs.ns, hs.nd, hs.rd, by intro b hb; cases hb⟩
    · rename_i w _ hw
      exact hk _ (wake_G _ fn wf w hs hsB hw (Or.inr (by show wfOf c.st = some wf; rw [hst']; rfl))) (invB_closed.wake _ _ _ _ hsB)
    · exact hs
  · exact hk _ (endOfStep_G _ _ hs (by intro _ s hs'; cases hs')) (invB_closed.endOfStep _ _ (fun _ hs' => nomatch hs') hsB)

theorem G.setPc {c : Cfg} (h : G c) (pc' : Pc) (hp : ∀ b, pc' ≠ .inUser b) : G { c with pc := pc' } :=
  ⟨h.ns, h.nd, h.rd, fun b hb => absurd hb (hp b)⟩

theorem tickStepper_G (P : Prog) (hP : AwDistinct P) (c : Cfg) (h : G c) (hB : InvB c) (hC : Coh c) :
    G (tickStepper P c) := by
  refine (tick_keepsG (Q := fun d => G d ∧ InvB d) P (fun c pc' hp h => ⟨h.1.setPc pc' hp, h.2.off (Off.set c .pc _)⟩)
    (fun c b hb h => ⟨⟨h.1.ns, h.1.nd, h.1.rd, fun b' hb' => by cases hb'; exact h.1.pcd b hb⟩, h.2.off (Off.set c .pc _)⟩)
    (fun d _ hnp h => ?_) (fun c wf w _ _ hor hw _ h => ⟨wake_G c _ wf w h.1 h.2 hw hor, invB_closed.wake _ _ _ _ h.2⟩)
    (fun c b _ hb _ hnw h => ⟨finishUser_G c b.out h.1 (awOf_of_wfOf_none hnw) (h.1.pcd b hb), invB_closed.finishUser _ _ h.2⟩)
    c hC ⟨h, hB⟩).1
  have hp : terminal d.st.label = false → ∀ pf, d.paused = some pf → d.pfs[pf]? ≠ some false :=
    fun hl pf hpf => by rw [hnp hl] at hpf; cases hpf
  exact ⟨stepBodyK_G P hP (loopHead P 0) d h.1 h.2 fun _ g _ => g, invB_closed.stepBodyK P (fun _ g => g) d hp h.2⟩

/-- a delivery may park the outcome in the state object; the awaiting set stays -/
theorem deliver_awOf (c : Cfg) (o : WF) : awOf (deliver c o).st = awOf c.st :=
  deliver_elim (Q := fun d => awOf d.st = awOf c.st) c o rfl (fun _ _ _ _ _ _ => rfl) fun _ _ _ _ hst _ => by rw [hst]; rfl

theorem deliver_G (c : Cfg) (o : WF) (h : G c) : G (deliver c o) :=
  have f := deliver_off c o
  h.congr (congrArg terminal (deliver_same c o).1) (deliver_awOf c o) f.ready f.efCb f.efs (Or.inl f.pc)

/-- `kill()` defers — it writes bookkeeping of the control machinery and at most an interruption into the pending wait —
or is the transition to KILLED -/
theorem kill_cases (c : Cfg) :
    (Off [.handed, .nextCookie, .actions, .interrupt, .wfs, .killing] c (kill c).1 ∧ QuietU c (kill c).1) ∨
    (kill c).1 = transitionTo c .killed := by
  unfold kill
  split
  · exact Or.inl ⟨Off.rfl' c, .of_eq rfl rfl rfl⟩
  · split
    · exact Or.inl ⟨Off.rfl' c, .of_eq rfl rfl rfl⟩
    · split
      · exact Or.inl ⟨(hand_off ..).mono (by decide), (QuietU.of_eq rfl rfl rfl).off (hand_off ..)⟩
      · split
        · dsimp only
          have o := (requestInterrupt_off c .kill).trans (Off.set _ .killing (requestInterrupt c .kill).interrupt)
          split
          · exact Or.inl ⟨(o.trans (hand_off ..)).mono (by decide),
              ((requestInterrupt_quietU c .kill).off (Off.set _ .killing _)).off (hand_off ..)⟩
          · exact Or.inl ⟨o.mono (by decide), requestInterrupt_quietU c .kill⟩
        · exact Or.inr rfl

theorem kill_G (c : Cfg) (h : G c) : G (kill c).1 :=
  kill_elim c h (fun d i hd => hd.bf (.of_off (hand_off d i)))
    (fun _ _ _ => h.bf (.of_off ((requestInterrupt_off c .kill).trans (Off.set _ .killing _))))
    fun _ _ _ => transitionTo_G c _ h (Or.inl terminal_killed)

theorem fail_G (c : Cfg) (e) (h : G c) : G (fail c e).1 :=
  Task.fail_elim Task.baseE c e h fun _ => transitionTo_G c _ h (Or.inl (terminal_excepted e))

theorem G.eraseReady {c : Cfg} (h : G c) (cb : Cb) : G { c with ready := c.ready.erase cb } := by
  refine ⟨?_, h.nd, ?_, h.pcd⟩
  · intro hl f
    have := h.ns hl f
    have h2 : (c.ready.erase cb).count (Cb.adone f) ≤ c.ready.count (Cb.adone f) := List.Sublist.count_le _ List.erase_sublist
    show (c.ready.erase cb).count (Cb.adone f) + c.efCb.count f ≤ (awOf c.st).countP (·.1 = f)
    omega
  · intro g hg; exact h.rd g (List.mem_of_mem_erase hg)

/-- the done-callback of `g` runs: `g` leaves the awaiting set, and no callback for `g` is left behind -/
theorem awaitableDone_G (c : Cfg) (g : Nat) (h : G c) (hmem : Cb.adone g ∈ c.ready) :
    G (awaitableDone { c with ready := c.ready.erase (Cb.adone g) } g) := by
  have h1 := h.eraseReady (.adone g)
  refine awaitableDone_elim _ g h1 (fun d _ _ hd => hd.congr rfl rfl rfl rfl rfl (Or.inl rfl)) ?_ fun d o _ => deliver_G d o
  intro fn wf wk aw p hst _
  have hst' : c.st = .waiting fn wf wk aw := hst
  have hnd : DistinctF aw := by have := h.nd; rw [hst'] at this; exact this
  refine ⟨fun _ f => ?_, distinctF_filter aw _ hnd, h1.rd, h1.pcd⟩
  have hns := h.ns (by rw [hst']; rfl) f
  rw [hst'] at hns
  show (c.ready.erase (Cb.adone g)).count (Cb.adone f) + c.efCb.count f ≤ (aw.filter (·.1 ≠ g)).countP (·.1 = f)
  by_cases hfg : f = g
  · -- its own callback has just been consumed, and a distinct future had one at most
    subst hfg
    have hle := countP_fst_le_one aw f hnd
    have hpos : 0 < c.ready.count (Cb.adone f) := List.count_pos_iff.mpr hmem
    rw [List.count_erase_self]
    have hns' : c.ready.count (Cb.adone f) + c.efCb.count f ≤ aw.countP (·.1 = f) := hns
    omega
  · have hne : Cb.adone f ≠ Cb.adone g := by intro hh; cases hh; exact hfg rfl
    rw [List.count_erase_of_ne hne, List.countP_filter]
    have : (aw.countP fun a => decide (a.1 = f) && decide (a.1 ≠ g)) = aw.countP (·.1 = f) := by
      congr 1; funext a
      by_cases ha : a.1 = f
      · simp [ha, hfg]
      · simp [ha]
    rw [this]; exact hns

theorem tickCb_G (c : Cfg) (cb : Cb) (h : G c) : G (tickCb c cb) := by
  by_cases hmem : cb ∈ c.ready
  · have h1 := h.eraseReady cb
    rw [tickCb_of_mem c cb hmem]
    cases cb with
    | adone g => exact awaitableDone_G c g h hmem
    | trykill => exact (kill_G _ h1).bf (.of_off (Off.set (kill _).1 .handed _))
    | usercb r =>
      dsimp only
      split
      · exact fail_G _ _ h1
      · exact h1
  · rw [tickCb_noop c cb hmem]; exact h

theorem G.addReady {c : Cfg} (h : G c) (cb : Cb) (hcb : ∀ g, cb ≠ .adone g) : G { c with ready := c.ready ++ [cb] } := by
  refine ⟨?_, h.nd, ?_, h.pcd⟩
  · intro hl f
    have := h.ns hl f
    show (c.ready ++ [cb]).count (Cb.adone f) + c.efCb.count f ≤ (awOf c.st).countP (·.1 = f)
    rw [List.count_append, List.count_singleton, if_neg (by simpa using hcb f)]
    omega
  · intro g hg
    rcases List.mem_append.mp hg with hg | hg
    · exact h.rd g hg
    · exact absurd (List.mem_singleton.mp hg).symm (hcb g)

theorem cancelFut_G (c : Cfg) (h : G c) : G (cancelFut c).1 := by
  unfold cancelFut; split
  · dsimp only
    split
    · exact (h.addReady .trykill (by intro g hg; cases hg)).bf ⟨rfl, rfl, rfl, rfl, rfl, Or.inl rfl⟩
    · exact h.bf ⟨rfl, rfl, rfl, rfl, rfl, Or.inl rfl⟩
  · exact h

/-- completing an awaitable with an outcome moves its registered callback to the scheduled ones -/
theorem complete_G (c : Cfg) (f : Nat) (o : EFut) (ho : o ≠ .pending) (h : G c) : G (complete c f o) := by
  unfold complete
  split
  · rename_i hp
    have hlt : f < c.efs.length := (List.getElem?_eq_some_iff.mp hp).1
    have hrd : ∀ (d : Cfg), d.efs = setAt c.efs f o → (∀ g, Cb.adone g ∈ d.ready → Cb.adone g ∈ c.ready ∨ g = f) → ReadyDone d := by
      intro d he hr g hg
      rw [he]
      rcases hr g hg with hg' | rfl
      · obtain ⟨o', ho', hne⟩ := h.rd g hg'
        by_cases hgf : f = g
        · subst hgf; rw [hp] at ho'; cases ho'; exact absurd rfl hne
        · exact ⟨o', by simpa [setAt, List.getElem?_set, hgf] using ho', hne⟩
      · exact ⟨o, by simp [setAt, hlt], ho⟩
    dsimp only
    split
    · rename_i hc
      have hmem : f ∈ c.efCb := List.contains_iff_mem.mp hc
      refine ⟨?_, h.nd, ?_, h.pcd⟩
      · intro hl f'
        have hns := h.ns hl f'
        have hpos : 0 < c.efCb.count f := List.count_pos_iff.mpr hmem
        show (c.ready ++ [Cb.adone f]).count (Cb.adone f') + (c.efCb.erase f).count f' ≤ (awOf c.st).countP (·.1 = f')
        simp only [List.count_append, List.count_singleton, List.count_erase, beq_iff_eq, Cb.adone.injEq]
        split
        · subst f'; omega
        · omega
      · exact hrd _ rfl fun g hg => (List.mem_append.mp hg).imp id fun hg => by cases List.mem_singleton.mp hg; rfl
    · exact ⟨h.ns, h.nd, hrd _ rfl (fun g hg => Or.inl hg), h.pcd⟩
  · exact h

/-- an event that respects the barrier's protocol: a `resume()` only while the current state awaits nothing, and an
awaitable is completed with an outcome (not with "pending") -/
def evOk (c : Cfg) : Ev → Bool
  | .resume _ => (awOf c.st).isEmpty
  | .complete _ .pending => false
  | _ => true

/-- every event of the history (started at `c`) respects the barrier's protocol -/
def histOk (P : Prog) : Cfg → List Ev → Bool
  | _, [] => true
  | c, e :: es => evOk c e && histOk P (step P c e).1 es

theorem histOk_cons {P : Prog} {c : Cfg} {e : Ev} {es : List Ev} (h : histOk P c (e :: es) = true) :
    evOk c e = true ∧ histOk P (step P c e).1 es = true := by
  unfold histOk at h
  rw [Bool.and_eq_true] at h
  exact h

theorem histOk_append (P : Prog) (c0 : Cfg) (es1 es2 : List Ev) :
    histOk P c0 (es1 ++ es2) = (histOk P c0 es1 && histOk P (run P c0 es1) es2) := by
  induction es1 generalizing c0 with
  | nil => simp [histOk, run]
  | cons e es ih =>
    simp only [List.cons_append, histOk, ih, Bool.and_assoc]
    rfl

theorem histOk_of_no_resume (P : Prog) (c0 : Cfg) (evs : List Ev) (hnr : ∀ e ∈ evs, ∀ v, e ≠ .resume v)
    (hnp : ∀ e ∈ evs, ∀ f, e ≠ .complete f .pending) : histOk P c0 evs = true := by
  induction evs generalizing c0 with
  | nil => rfl
  | cons e es ih =>
    unfold histOk
    rw [Bool.and_eq_true]
    refine ⟨?_, ih _ (fun e' he' => hnr e' (by simp [he'])) (fun e' he' => hnp e' (by simp [he']))⟩
    cases e with
    | resume v => exact absurd rfl (hnr _ (by simp) v)
    | complete f o => cases o <;> first | rfl | exact absurd rfl (hnp _ (by simp) f)
    | _ => rfl

theorem evOk_deliverable {c : Cfg} {ev : Ev} (hok : evOk c ev = true) (v : Option Val) (he : ev = .resume v) :
    Deliverable c (.result v) := by
  subst he
  intro _ fn wf wk aw hst
  have : (awOf c.st).isEmpty = true := hok
  rw [hst] at this
  exact List.isEmpty_iff.mp this

theorem step_invB_ok (P : Prog) (c : Cfg) (ev : Ev) (h : InvB c) (hok : evOk c ev = true) : InvB (step P c ev).1 :=
  invB_closed.step P c ev (evOk_deliverable hok) h

theorem run_invB_ok (P : Prog) (c0 : Cfg) (evs : List Ev) (h : InvB c0) (hok : histOk P c0 evs = true) :
    InvB (run P c0 evs) :=
  invB_closed.run P (Ok := fun c es => histOk P c es = true)
    (fun _ _ _ hg => ⟨evOk_deliverable (histOk_cons hg).1, (histOk_cons hg).2⟩) c0 evs hok h

/-- what holds in every configuration reached by a well-formed history in which no callback runs out of fuel -/
structure Reach (c : Cfg) : Prop where
  coh : Coh c
  invB : InvB c
  g : G c

theorem reach_init (nf : Nat) : Reach (init nf) := ⟨coh_init nf, invB_init nf, g_init nf⟩

theorem step_G (P : Prog) (hP : AwDistinct P) (c : Cfg) (ev : Ev) (h : Reach c) (hok : evOk c ev = true) :
    G (step P c ev).1 := by
  cases ev with
  | tick => exact tickStepper_G P hP c h.g h.invB h.coh
  | tickCb cb => exact tickCb_G c cb h.g
  | pause => exact h.g.bf (.of_off (pause_off c))
  | play => exact h.g.bf (.of_off (play_off c))
  | kill => exact kill_G c h.g
  | resume v => exact (resume_eq_deliver c v ▸ deliver_G c _ h.g : G (resume c v).1)
  | fail e => exact fail_G c e h.g
  | cancelFut => exact cancelFut_G c h.g
  | complete f o =>
    refine complete_G c f o ?_ h.g
    intro ho; subst ho; cases hok
  | callSoon r => exact h.g.addReady _ (by intro g hg; cases hg)

theorem step_reach (P : Prog) (hP : AwDistinct P) (c : Cfg) (ev : Ev) (h : Reach c)
    (hf : ev = .tick → tickFuelOk P c = true) (hok : evOk c ev = true) : Reach (step P c ev).1 :=
  ⟨step_coh P c ev h.coh hf, step_invB_ok P c ev h.invB hok, step_G P hP c ev h hok⟩

theorem run_reach_with (P : Prog) (hP : AwDistinct P) {Q : Cfg → Prop}
    (hstep : ∀ c e, Reach c → evOk c e = true → Q c → Q (step P c e).1)
    (c0 : Cfg) (evs : List Ev) (hR : Reach c0) (hf : histFuelOk P c0 evs = true) (hok : histOk P c0 evs = true) (h : Q c0) :
    Reach (run P c0 evs) ∧ Q (run P c0 evs) :=
  run_ind P (I := fun c => Reach c ∧ Q c) (Ok := fun c es => histFuelOk P c es = true ∧ histOk P c es = true)
    (fun c e _ hg hc => ⟨⟨step_reach P hP c e hc.1 (histFuelOk_cons hg.1).1 (histOk_cons hg.2).1,
      hstep c e hc.1 (histOk_cons hg.2).1 hc.2⟩, (histFuelOk_cons hg.1).2, (histOk_cons hg.2).2⟩) c0 evs ⟨hf, hok⟩ ⟨hR, h⟩

theorem run_reach (P : Prog) (hP : AwDistinct P) (c0 : Cfg) (evs : List Ev) (h : Reach c0)
    (hf : histFuelOk P c0 evs = true) (hok : histOk P c0 evs = true) : Reach (run P c0 evs) :=
  (run_reach_with P hP (Q := fun _ => True) (fun _ _ _ _ _ => trivial) c0 evs h hf hok trivial).1

end PMF.B10
