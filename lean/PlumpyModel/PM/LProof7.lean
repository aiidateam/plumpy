import PlumpyModel.PM.LProof2
import PlumpyModel.PM.Proof5
/-!
# `PMF.L` — a kill requested by a listener during the closing part of a step is enacted before the step ends: the invariant `KJ`

`Owed l`: the oracle has issued a `kill()` at a moment when the process was live and no transition into a terminal state
was in progress.  `KJ` is the invariant carried through every function of the closing part (while `_stepping`):
* `kok`  a recorded kill (`_killing`) is the pending action in the interrupt slot, unless the process terminated;
* `pok`  the pause alias points to a pause action;
* `nofin`/`ook`  once a kill is owed the process is not FINISHED nor on its way there, and it is KILLED / EXCEPTED, or on its
  way there, or the kill is recorded.
-/
namespace PMF
namespace L

/-- kinds of existing actions are kept -/
def Kd (c c' : Cfg) : Prop := ∀ i a, actionKind c i = some a → actionKind c' i = some a
theorem Kd.rfl' (c : Cfg) : Kd c c := fun _ _ h => h
theorem Kd.trans {a b c : Cfg} (h1 : Kd a b) (h2 : Kd b c) : Kd a c := fun i x h => h2 i x (h1 i x h)
theorem Kd.of_eq {c c' : Cfg} (h : c'.actions = c.actions) : Kd c c' := fun i a hi => by simpa [actionKind, h] using hi

def KdL (l l' : LCfg) : Prop := Kd l.c l'.c

def FKd (F : Hook → LCfg → LCfg) : Prop := ∀ h l, KdL l (F h l)

theorem requestL_kd (l : LCfg) (k : AKind) : Kd l.c (requestL l k) := by
  unfold requestL; split
  · exact (requestInterrupt_kx ..).1
  · exact Kd.trans (Kd.of_eq rfl : Kd l.c { l.c with nextCookie := l.c.nextCookie + 1 }) (setInterruptFromExc_kx ..).1

/-- only a request (a new action is appended) and `play()` (a pending pause is cancelled) write the action table -/
theorem kd_leaves (l₀ : LCfg) : ReqLeaves (KdL l₀) where
  toTransLeaves := .of_off [.actions] (fun o hW h => h.trans (Kd.of_eq (o.actions (hW _ (by decide))))) (fun _ _ h => h)
  hand l i h := h.trans (Kd.of_eq (hand_off l.c i).actions)
  requestPause l _ h := h.trans (requestL_kd l .pause)
  requestKill l _ h := h.trans (requestL_kd l .kill)
  played l h := h.trans (play_kx l.c).1
  count _ _ h := h
  issue _ _ _ _ h := h

theorem fireN_kd (n : Nat) : FKd (fireN n) := fun h l => (kd_leaves l).fireN n h l (Kd.rfl' _)

section
variable {F : Hook → LCfg → LCfg}

theorem transitionToL_kd (hF : FKd F) (l : LCfg) (s : SObj) : KdL l (transitionToL F l s) :=
  (kd_leaves l).transitionToL (fun h _ a => a.trans (hF h _)) l s (Kd.rfl' _)

theorem doPauseL_kd (hF : FKd F) (l : LCfg) : KdL l (doPauseL F l) :=
  (kd_leaves l).doPauseL (fun h _ a => a.trans (hF h _)) l (Kd.rfl' _)
end

def Owed (l : LCfg) : Prop := ∃ h, (h, Req.kill, true) ∈ l.issued
def boundKE (l : LCfg) : Prop := l.trans = some .killed ∨ l.trans = some .excepted

structure KJ (l : LCfg) : Prop where
  kok : ∀ k, l.c.killing = some k → terminal l.c.st.label = true ∨ Pending k l.c
  pok : PausingOk l.c
  nofin : Owed l → l.c.st.label ≠ .finished ∧ l.trans ≠ some .finished
  ook : Owed l → KE l.c ∨ boundKE l ∨ l.c.killing ≠ none

/-- control part of a configuration untouched (the pause alias may be cleared) -/
structure Ctl (c c' : Cfg) : Prop where
  killing : c'.killing = c.killing
  interrupt : c'.interrupt = c.interrupt
  actions : c'.actions = c.actions
  stepping : c'.stepping = c.stepping
  pausing : c'.pausing = c.pausing ∨ c'.pausing = none

theorem Ctl.of_off {W : List Fld} {c c' : Cfg} (o : Off W c c')
    (hW : ∀ f ∈ [Fld.killing, .interrupt, .actions, .stepping, .pausing], f ∉ W := by decide) : Ctl c c' :=
  ⟨o.killing (hW _ (by decide)), o.interrupt (hW _ (by decide)), o.actions (hW _ (by decide)),
    o.stepping (hW _ (by decide)), Or.inl (o.pausing (hW _ (by decide)))⟩

theorem pending_ctl {k : Nat} {c c' : Cfg} (h : Pending k c) (s : Ctl c c') (hl : terminal c'.st.label = false) :
    Pending k c' := by
  obtain ⟨_, h2, h3, h4, h5, h6⟩ := h
  exact ⟨hl, by rw [s.killing]; exact h2, by rw [s.interrupt]; exact h3, by simpa [actionStatus, s.actions] using h4,
    by rw [s.stepping]; exact h5, by simpa [actionKind, s.actions] using h6⟩

theorem Ctl.kx {c c' : Cfg} (s : Ctl c c') : Kx c c' := ⟨fun i _ h => (actionKind_of_actions s.actions i).trans h, s.pausing⟩

theorem ke_not_live {c : Cfg} (h : KE c) (hl : terminal c.st.label = false) : False := by
  rw [terminal_of_label h] at hl; cases hl

theorem KJ.ctl {l : LCfg} (h : KJ l) (c' : Cfg) (s : Ctl l.c c')
    (hl : c'.st.label = l.c.st.label ∨ terminal l.c.st.label = false)
    (hf : Owed l → c'.st.label ≠ .finished) : KJ { l with c := c' } := by
  refine ⟨?_, h.pok.kx s.kx, fun ho => ⟨hf ho, (h.nofin ho).2⟩, ?_⟩
  · intro k hk
    have hk' : l.c.killing = some k := by rw [← s.killing]; exact hk
    rcases h.kok k hk' with ht | hp
    · rcases hl with hl | hl
      · left; show terminal c'.st.label = true; rw [hl]; exact ht
      · rw [hl] at ht; cases ht
    · by_cases ht : terminal c'.st.label = true
      · exact Or.inl ht
      · exact Or.inr (pending_ctl hp s (by simpa using ht))
  · intro ho
    rcases h.ook ho with hke | hb | hk
    · rcases hl with hl | hl
      · left; unfold KE at hke ⊢; show c'.st.label = _ ∨ c'.st.label = _; rw [hl]; exact hke
      · exact (ke_not_live hke hl).elim
    · exact Or.inr (Or.inl hb)
    · right; right; show c'.killing ≠ none; rw [s.killing]; exact hk

theorem KJ.keep {l : LCfg} {c' : Cfg} (p : KJ l) (k : Keep l.c c') : KJ { l with c := c' } :=
  p.ctl c' ⟨k.2.1, k.2.2.1, k.2.2.2.1, k.2.2.2.2.1, Or.inl k.2.2.2.2.2⟩ (Or.inl k.1) (fun ho => by rw [k.1]; exact (p.nofin ho).1)

theorem KJ.of_owed_imp {l l' : LCfg} (h : KJ l) (hc : l'.c = l.c) (ht : l'.trans = l.trans) (ho : Owed l' → Owed l) : KJ l' := by
  refine ⟨by rw [hc]; exact h.kok, by rw [hc]; exact h.pok, ?_, ?_⟩
  · intro o; rw [hc, ht]; exact h.nofin (ho o)
  · intro o; unfold KE boundKE; rw [hc, ht]; exact h.ook (ho o)

/-- only `on_killed` clears `_killing` -/
theorem enteredHooks_keep_ne (c : Cfg) (s : SObj) (hs : s.label ≠ .killed) : Keep c (enteredHooks c s) := by
  simp only [enteredHooks, hs, if_false]
  split <;> exact ⟨rfl, rfl, rfl, rfl, rfl, rfl⟩

theorem requestL_new (l : LCfg) (k : AKind) :
    (requestL l k).interrupt = some l.c.actions.length ∧
    actionKind (requestL l k) l.c.actions.length = some k ∧
    actionStatus (requestL l k) l.c.actions.length = .pending ∧
    (requestL l k).killing = l.c.killing ∧ (requestL l k).pausing = l.c.pausing := by
  unfold requestL; split
  · have o := requestInterrupt_off l.c k
    obtain ⟨h1, h2, h3⟩ := requestInterrupt_new l.c k
    exact ⟨h1, h2, h3, o.killing, o.pausing⟩
  · have o := setInterruptFromExc_off { l.c with nextCookie := l.c.nextCookie + 1 } k l.c.nextCookie
    obtain ⟨h1, h2, h3⟩ := setInterruptFromExc_new { l.c with nextCookie := l.c.nextCookie + 1 } k l.c.nextCookie
    exact ⟨h1, h2, h3, o.killing, o.pausing⟩

def FP (F : Hook → LCfg → LCfg) : Prop := ∀ h l, PausingOk l.c → PausingOk (F h l).c

theorem pause_alias_pok (l : LCfg) : PausingOk { requestL l .pause with pausing := (requestL l .pause).interrupt } := by
  have hn := requestL_new l .pause
  intro i hi
  have hi' : (requestL l .pause).interrupt = some i := hi
  rw [hn.1] at hi'; cases hi'
  simpa [actionKind] using hn.2.1

theorem kill_alias_pok (l : LCfg) (h : PausingOk l.c) :
    PausingOk { requestL l .kill with killing := (requestL l .kill).interrupt } := by
  have hn := requestL_new l .kill
  have hkd := requestL_kd l .kill
  intro i hi
  have hi' : (requestL l .kill).pausing = some i := hi
  rw [hn.2.2.2.2] at hi'
  have := hkd i _ (h i hi')
  simpa [actionKind] using this

theorem pok_leaves : ReqLeaves fun l => PausingOk l.c where
  setTrans _ _ h := h
  exit l h := h.kx (.of_off (exitState_off l.c))
  stClosed l s _ h := h.kx (.of_off (Off.set l.c .st s))
  entering l _ _ hok h := h.kx (.of_off (enteringHooks_off l.c hok))
  futExc l e h := h.kx (.of_off (setFutExc_off l.c e))
  enterState l s h := h.kx (.of_off (enterState_off l.c s))
  setState l s h := h.kx (.of_off (setState_off l.c s))
  entered l s h := h.kx (.of_off (enteredHooks_off l.c s))
  terminated l h := h.kx (.of_off (onTerminated_off l.c))
  paused _ h := h.kx ⟨fun _ _ hk => hk, Or.inr rfl⟩
  clearPausing _ h := h.kx ⟨fun _ _ hk => hk, Or.inr rfl⟩
  hand l i h := h.kx (.of_off (hand_off l.c i))
  requestPause l _ _ := pause_alias_pok l
  requestKill l _ h := kill_alias_pok l h
  played l h := h.kx (play_kx l.c)
  count _ _ h := h
  issue _ _ _ _ h := h

theorem fireN_fp (n : Nat) : FP (fireN n) := pok_leaves.fireN n

/-- the transition flag is kept, or cleared by a (nested) transition that ran to its end -/
def TrRel (l l' : LCfg) : Prop := l'.trans = l.trans ∨ l'.trans = none
theorem TrRel.trans {a b c : LCfg} (h1 : TrRel a b) (h2 : TrRel b c) : TrRel a c := by
  rcases h2 with h2 | h2
  · rcases h1 with h1 | h1
    · exact Or.inl (h2.trans h1)
    · exact Or.inr (h2.trans h1)
  · exact Or.inr h2
theorem TrRel.none {l l' : LCfg} (h : TrRel l l') (hn : l.trans = none) : l'.trans = none := by
  rcases h with h | h
  · rw [h]; exact hn
  · exact h

def FK (F : Hook → LCfg → LCfg) : Prop := ∀ h l, KJ l → KJ (F h l) ∧ TrRel l (F h l)

theorem KJ.rebuild {l : LCfg} (h : KJ l) (c' : Cfg) (hst : c'.st = l.c.st)
    (hkok : ∀ k, c'.killing = some k → terminal c'.st.label = true ∨ Pending k c') (hpok : PausingOk c')
    (hkill : l.c.killing ≠ none → c'.killing ≠ none) : KJ { l with c := c' } := by
  refine ⟨hkok, hpok, fun ho => ?_, fun ho => ?_⟩
  · show c'.st.label ≠ _ ∧ _; rw [hst]; exact h.nofin ho
  · rcases h.ook ho with hke | hb | hk
    · left; unfold KE; show c'.st.label = _ ∨ c'.st.label = _; rw [hst]; exact hke
    · exact Or.inr (Or.inl hb)
    · exact Or.inr (Or.inr (hkill hk))

theorem KJ.of_ke {d : LCfg} (hke : KE d.c) (hp : PausingOk d.c) (htr : d.trans = none) : KJ d :=
  ⟨fun _ _ => Or.inl (terminal_of_label hke), hp,
    fun _ => ⟨by rcases hke with h | h <;> rw [h] <;> simp, by rw [htr]; simp⟩, fun _ => Or.inl hke⟩

theorem transitionToL_ke_kj {F : Hook → LCfg → LCfg} (hP : FP F) (l : LCfg) (s : SObj)
    (hs : s.label = .killed ∨ s.label = .excepted) (hp : PausingOk l.c) : KJ (transitionToL F l s) :=
  KJ.of_ke (transitionToL_ke l s hs) (pok_leaves.transitionToL hP l s hp) (transitionToL_trans F l s)

section
variable {F : Hook → LCfg → LCfg}

theorem hand_kj {l : LCfg} (h : KJ l) (i : Nat) : KJ (l.upd (fun c => hand c i)) := h.keep (Keep.of_off (hand_off l.c i))

theorem doPauseL_kj (hF : FK F) (l : LCfg) (h : KJ l) : KJ (doPauseL F l) ∧ TrRel l (doPauseL F l) := by
  unfold doPauseL; dsimp only
  have h1 : KJ (l.upd doPauseHooks) :=
    h.ctl _ ⟨rfl, rfl, rfl, rfl, Or.inr rfl⟩ (Or.inl rfl) (fun ho => (h.nofin ho).1)
  obtain ⟨h2, t2⟩ := hF .paused _ h1
  exact ⟨h2.ctl _ ⟨rfl, rfl, rfl, rfl, Or.inr rfl⟩ (Or.inl rfl) (fun ho => (h2.nofin ho).1), t2⟩

theorem pauseL_kj (hF : FK F) (l : LCfg) (h : KJ l) : KJ (pauseL F l).1 ∧ TrRel l (pauseL F l).1 :=
  pauseL_elim (Q := fun d => KJ d ∧ TrRel l d) F l ⟨h, Or.inl rfl⟩ (fun _ i q => ⟨hand_kj q.1 i, q.2⟩)
    (fun _ _ _ hkn => by
      refine ⟨h.rebuild _ (requestL_hkc l .pause).st ?_ (pause_alias_pok l) (fun hne => (hne hkn).elim), Or.inl rfl⟩
      intro k hk
      have : (requestL l .pause).killing = some k := hk
      rw [(requestL_new l .pause).2.2.2.1, hkn] at this; cases this)
    fun _ _ _ _ _ => doPauseL_kj hF l h

theorem playL_kj (hF : FK F) (l : LCfg) (h : KJ l) : KJ (playL F l).1 ∧ TrRel l (playL F l).1 := by
  have h1 : KJ (l.upd (fun c => (play c).1)) := by
    have o := play_off l.c
    refine h.rebuild _ o.st ?_ (h.pok.kx (play_kx l.c)) (fun hne => by rw [o.killing]; exact hne)
    intro k hk
    rw [o.killing] at hk
    rcases h.kok k hk with ht | hp
    · left; rw [o.st]; exact ht
    · exact Or.inr (play_pending k l.c hp h.pok)
  exact playL_elim (Q := fun d => KJ d ∧ TrRel l d) F l ⟨h1, Or.inl rfl⟩ fun _ => hF _ _ h1

theorem owed_cons (l l1 : LCfg) (hk : Hook) (b : Bool) (hi : l1.issued = (hk, Req.kill, b) :: l.issued) :
    Owed l1 ↔ Owed l ∨ b = true := by
  unfold Owed
  rw [hi]
  constructor
  · rintro ⟨h, hm⟩
    rcases List.mem_cons.mp hm with he | hm
    · right; injection he with _ he; injection he with _ he; exact he.symm
    · exact Or.inl ⟨h, hm⟩
  · rintro (⟨h, hm⟩ | hb)
    · exact ⟨h, List.mem_cons_of_mem _ hm⟩
    · exact ⟨hk, by rw [hb]; exact List.mem_cons_self⟩

theorem owed_cons_other (l l1 : LCfg) (e : Hook × Req × Bool) (hne : e.2.1 ≠ Req.kill) (hi : l1.issued = e :: l.issued) :
    Owed l1 ↔ Owed l := by
  unfold Owed
  rw [hi]
  constructor
  · rintro ⟨h, hm⟩
    rcases List.mem_cons.mp hm with he | hm
    · rw [← he] at hne; exact (hne rfl).elim
    · exact ⟨h, hm⟩
  · rintro ⟨h, hm⟩
    exact ⟨h, List.mem_cons_of_mem _ hm⟩

/-- `kill()` issued by the oracle, logged with the flag "live and not on the way into a terminal state" -/
theorem killL_kj (hP : FP F) (l l1 : LCfg) (h : KJ l) (hc : l1.c = l.c) (ht : l1.trans = l.trans)
    (how : Owed l1 → Owed l ∨ (live l.c && !terminalBound l) = true) :
    KJ (killL F l1).1 ∧ TrRel l (killL F l1).1 := by
  have hflag : (live l.c && !terminalBound l) = true → terminal l.c.st.label = false ∧ l.trans ≠ some .finished := by
    intro hb
    simp only [live, Bool.and_eq_true, Bool.not_eq_eq_eq_not, Bool.not_true] at hb
    refine ⟨hb.1, ?_⟩
    intro htf
    have := hb.2
    simp [terminalBound, htf, terminal, allowed] at this
  have hnofin : terminal l.c.st.label = false → Owed l1 → l.c.st.label ≠ .finished ∧ l.trans ≠ some .finished :=
    fun hl o => (how o).elim h.nofin fun o' => ⟨fun hf => (by rw [hf] at hl; cases hl), (hflag o').2⟩
  refine killL_cases (Q := fun d => KJ d ∧ TrRel l d) F l1 (fun hterm => ?_)
    (fun hl i hki => ?_) (fun _ i q => ⟨hand_kj q.1 i, q.2⟩) (fun hl hs1 hkn => ?_) fun _ _ _ => ?_
  · have hterm : terminal l.c.st.label = true := by rw [← hc]; exact hterm
    have hnb : (live l.c && !terminalBound l) = false := by simp [live, hterm]
    exact ⟨h.of_owed_imp hc ht fun ho => (how ho).resolve_right (by rw [hnb]; exact Bool.false_ne_true), Or.inl ht⟩
  · have hl : terminal l.c.st.label = false := by rw [← hc]; exact hl
    have hki : l.c.killing = some i := by rw [← hc]; exact hki
    refine ⟨?_, Or.inl ht⟩
    show KJ { l1 with c := hand l1.c i }
    rw [hc]
    have oh := hand_off l.c i
    refine ⟨?_, h.pok.kx (.of_off oh), fun o => ?_, fun o => ?_⟩
    · intro k hk'
      have : l.c.killing = some k := by rw [← oh.killing]; exact hk'
      rcases h.kok k this with ht' | hp
      · rw [ht'] at hl; cases hl
      · exact Or.inr (hp.off oh)
    · show (hand l.c i).st.label ≠ _ ∧ l1.trans ≠ _
      rw [oh.st, ht]; exact hnofin hl o
    · right; right
      show (hand l.c i).killing ≠ none
      rw [oh.killing, hki]; simp
  · have hl : terminal l.c.st.label = false := by rw [← hc]; exact hl
    have hn := requestL_new l1 .kill
    have hhk := requestL_hkc l1 .kill
    refine ⟨⟨?_, kill_alias_pok l1 (by rw [hc]; exact h.pok), fun o => ?_, fun o => ?_⟩, Or.inl ht⟩
    · intro k hk'
      have hk'' : (requestL l1 .kill).interrupt = some k := hk'
      rw [hn.1] at hk''; cases hk''
      right
      refine ⟨?_, hn.1, hn.1, ?_, ?_, ?_⟩
      · show terminal (requestL l1 .kill).st.label = false; rw [hhk.st, hc]; exact hl
      · simpa [actionStatus] using hn.2.2.1
      · show (requestL l1 .kill).stepping = true; rw [hhk.stepping]; exact hs1
      · simpa [actionKind] using hn.2.1
    · show (requestL l1 .kill).st.label ≠ _ ∧ l1.trans ≠ _
      rw [hhk.st, hc, ht]; exact hnofin hl o
    · right; right
      show (requestL l1 .kill).interrupt ≠ none
      rw [hn.1]; simp
  · -- outside a step: the transition into KILLED is made at once
    exact ⟨transitionToL_ke_kj hP l1 .killed (Or.inl rfl) (by rw [hc]; exact h.pok),
      Or.inr (transitionToL_trans F l1 .killed)⟩

theorem reqK_kj_logged (hF : FK F) (hP : FP F) (l l0 : LCfg) (hk : Hook) (r : Req) (h : KJ l)
    (hc : l0.c = l.c) (ht : l0.trans = l.trans) (hi : l0.issued = l.issued) :
    KJ (reqK F r (logIssued l0 hk r)) ∧ TrRel l (reqK F r (logIssued l0 hk r)) := by
  have hlog : (logIssued l0 hk r).issued = (hk, r, live l.c && !terminalBound l) :: l.issued := by
    unfold logIssued terminalBound; simp only [hc, ht, hi]
  have htl : TrRel l (logIssued l0 hk r) := Or.inl ht
  cases r with
  | kill => exact killL_kj hP l _ h hc ht (owed_cons l _ hk _ hlog).mp
  | pause =>
    have h1 : KJ (logIssued l0 hk .pause) := by
      have ho := owed_cons_other l (logIssued l0 hk .pause) _ (by simp) hlog
      exact h.of_owed_imp hc ht ho.mp
    obtain ⟨h2, t2⟩ := pauseL_kj hF _ h1
    exact ⟨h2, htl.trans t2⟩
  | play =>
    have h1 : KJ (logIssued l0 hk .play) := by
      have ho := owed_cons_other l (logIssued l0 hk .play) _ (by simp) hlog
      exact h.of_owed_imp hc ht ho.mp
    obtain ⟨h2, t2⟩ := playL_kj hF _ h1
    exact ⟨h2, htl.trans t2⟩

theorem fireK_kj (hF : FK F) (hP : FP F) (hk : Hook) (l : LCfg) (h : KJ l) :
    KJ (fireK (reqK F) hk l) ∧ TrRel l (fireK (reqK F) hk l) := by
  rcases fireK_cases (reqK F) hk l with h1 | ⟨e, _, h1⟩
  · rw [h1]; exact ⟨h.of_owed_imp rfl rfl id, Or.inl rfl⟩
  · rw [h1]
    exact reqK_kj_logged hF hP l _ hk e.2.2 h rfl rfl rfl
end

theorem fireN_fk : ∀ n, FK (fireN n)
  | 0 => fun _ _ h => ⟨h.of_owed_imp rfl rfl id, Or.inl rfl⟩
  | n+1 => fun hk l h => by
      unfold fireN
      exact fireK_kj (fireN_fk n) (fireN_fp n) hk l h

end L
end PMF
