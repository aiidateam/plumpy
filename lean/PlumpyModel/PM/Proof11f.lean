import PlumpyModel.PM.Proof11c
import PlumpyModel.PM.Proof11e
/-!
# The first accepted value wins: `Deliv` (C06 at the level of histories)

`Deliv fn v t0 c` describes every configuration that can follow the acceptance of `resume(v)` by a WAITING state with
continuation `fn`, when the trace of user calls was `t0` at that moment:

* `held`  — still the same WAITING epoch, and its wait still holds `v` (in the future, or parked), nothing activated;
* `ready` — the wait was consumed: the state is RUNNING `fn(*argsOf v)`, not yet activated (the process is paused);
* `over`  — the process terminated (kill, fail, …) before the continuation was activated; nothing was activated;
* `done`  — the first activation after the acceptance was `fn(*argsOf v)`.

`step_deliv`: every event keeps `Deliv` (in coherent configurations).  Hence no later `resume(u)`, no pause / play /
interruption / re-arming can change what the continuation receives, and nothing else is activated in between.
The events are analysed for `Outc fn o t0`, the same epoch for any outcome `o` the wait may hold (`step_outc`); `Deliv` is its case
`o = .result v` (`deliv_iff`), the failed wait of a barrier (`B10.FailD`, `PM/Proof13b.lean`) its case `o = .failed e`.

`Outc` is a *phase predicate* (`Phase`).  The control calls keep every such predicate (`Phase.step`), and so does a callback
of the stepping task if one step, the wake-up of the coroutine and the return of the user's function do (`Phase.tick_keeps`).
-/
namespace PMF.H6

def actOf (fn : Nat) (v : Option Val) : Act := { fn := fn, args := argsOf v, kw := [], paused := false }

inductive Deliv (fn : Nat) (v : Option Val) (t0 : List Act) (c : Cfg) : Prop
  | held (wf : Nat) (wk : Option WF) (aw : List (Nat × Nat)) (hst : c.st = .waiting fn wf wk aw) (hh : Holds c wf wk v)
      (ht : c.trace = t0)
  | ready (hst : c.st = .running fn (argsOf v) []) (hns : c.stepping = false) (ht : c.trace = t0)
  | over (hterm : terminal c.st.label = true) (ht : c.trace = t0)
  | done (extra : List Act) (ht : c.trace = extra ++ actOf fn v :: t0)

theorem deliver_of_not_waiting (c : Cfg) (o : WF) (h : wfOf c.st = none) : deliver c o = c :=
  deliver_notWaiting c o fun _ _ _ _ hst => by rw [hst] at h; cases h

def Frozen (s₀ : SObj) (t₀ : List Act) (d : Cfg) : Prop := d.st = s₀ ∧ d.trace = t₀

theorem Frozen.off {s₀ : SObj} {t₀ : List Act} {W : List Fld} {c d : Cfg} (h : Frozen s₀ t₀ c) (o : Off W c d)
    (hW : ∀ f ∈ [Fld.st, .trace], f ∉ W := by decide) : Frozen s₀ t₀ d :=
  ⟨(o.st (hW _ (by decide))).trans h.1, (o.trace (hW _ (by decide))).trans h.2⟩

theorem Frozen.deliver {s₀ : SObj} {t₀ : List Act} (hs : terminal s₀.label = true) (c : Cfg) (o : WF)
    (h : Frozen s₀ t₀ c) : Frozen s₀ t₀ (deliver c o) := by
  rw [deliver_of_not_waiting c o (wfOf_none_of_terminal (by rw [h.1]; exact hs))]; exact h

/-- a terminal state object is never replaced, and nothing is activated any more: the leaves that would do so (a
transition of a live process, an activation, a re-armed wait) do not apply -/
theorem terminal_closed (s₀ : SObj) (t₀ : List Act) (hs : terminal s₀.label = true) : StepClosed (Frozen s₀ t₀) where
  ctl o h := h.off o
  trans c s hl h := by rw [h.1, hs] at hl; cases hl
  paused c h := h.off (doPauseHooks_off c)
  played c h := h.off (play_off c)
  interrupted c k h := h.off (interruptState_off c k)
  activate c fn args kw hst _ h := by rw [← h.1, hst] at hs; cases hs
  alloc c cmd h := h.off (cmdToState_off c cmd)
  rearmG c f wf wk aw hst h := by rw [← h.1, hst] at hs; cases hs
  deliver := Frozen.deliver hs
  adone c f h := awaitableDone_elim c f h (fun d _ _ h => h.off (Off.set d .ctx _))
    (fun fn wf wk aw _ hst _ => by rw [← h.1, hst] at hs; cases hs) fun d o _ => Frozen.deliver hs d o
  complete c f o h := h.off (complete_off c f o)
  cancelFut c h := h.off (cancelFut_off c)
  unsched c _ _ h := h.off (Off.set c .ready _)
  sched c _ h := h.off (Off.set c .ready _)

theorem step_terminal (P : Prog) (c : Cfg) (ev : Ev) (ht : terminal c.st.label = true) :
    (step P c ev).1.st = c.st ∧ (step P c ev).1.trace = c.trace := (terminal_closed c.st c.trace ht).step P c ev ⟨rfl, rfl⟩

/-- `d` differs from `c` at most by an interruption written into the PENDING future of the current wait -/
def QuietU (c d : Cfg) : Prop :=
  d.st = c.st ∧ d.trace = c.trace ∧
  (∀ wf, wfOf c.st = some wf → d.wfs[wf]? = c.wfs[wf]? ∨ (c.wfs[wf]? = some .pending ∧ ∃ k, d.wfs[wf]? = some (.interrupted k)))

theorem QuietU.of_eq {c d : Cfg} (h1 : d.st = c.st) (h2 : d.trace = c.trace) (h3 : d.wfs = c.wfs) : QuietU c d :=
  ⟨h1, h2, fun _ _ => Or.inl (by rw [h3])⟩

theorem QuietU.off {W : List Fld} {c d d' : Cfg} (q : QuietU c d) (o : Off W d d')
    (hW : ∀ f ∈ [Fld.st, .trace, .wfs], f ∉ W := by decide) : QuietU c d' :=
  ⟨(o.st (hW _ (by decide))).trans q.1, (o.trace (hW _ (by decide))).trans q.2.1,
   fun wf hw => by rw [o.wfs (hW _ (by decide))]; exact q.2.2 wf hw⟩

theorem requestInterrupt_quietU (c : Cfg) (k : AKind) : QuietU c (requestInterrupt c k) := by
  refine ⟨(requestInterrupt_off c k).st, (requestInterrupt_off c k).trace, fun wf hw => ?_⟩
  rw [requestInterrupt_wfs]
  refine interruptState_elim (Q := fun d => d.wfs[wf]? = c.wfs[wf]? ∨ (c.wfs[wf]? = some .pending ∧
    ∃ k, d.wfs[wf]? = some (.interrupted k))) _ _ (Or.inl rfl) fun fn wf' wk aw hst hp => ?_
  rw [hst] at hw; cases hw
  exact Or.inr ⟨hp, c.nextCookie, by simp [setAt, (List.getElem?_eq_some_iff.mp hp).1]⟩

theorem pause_quietU (c : Cfg) : QuietU c (pause c).1 :=
  pause_elim (Q := QuietU c) c (.of_eq rfl rfl rfl) (fun d i q => q.off (hand_off d i))
    (fun _ _ _ _ => (requestInterrupt_quietU c .pause).off (Off.set _ .pausing _))
    fun _ _ _ _ _ => .of_eq rfl rfl rfl

/-- the pair `Mid ∧ Q` / `Q` of `LoopClosed`; no fuel is needed since `Q` (`hpc`) does not look at the program counter the loop
leaves behind -/
theorem tick_keepsG {Q : Cfg → Prop} (P : Prog) (hpc : ∀ c pc', (∀ b, pc' ≠ .inUser b) → Q c → Q { c with pc := pc' })
    (hawait : ∀ c b, c.pc = .inUser b → Q c → Q { c with pc := .inUser { b with awaits := b.awaits - 1 } })
    (hbody : ∀ d, Mid d → (terminal d.st.label = false → d.paused = none) → Q d → Q (stepBody P 0 d))
    (hwake : ∀ c wf w, Coh c → c.pc = .awaitWaiting wf → (terminal c.st.label = true ∨ wfOf c.st = some wf) →
      c.wfs[wf]? = some w → w ≠ .pending → Q c → Q (wake c (wakeFn c) wf w))
    (hret : ∀ c b, Coh c → c.pc = .inUser b → c.stepping = true → wfOf c.st = none → Q c → Q (finishUser c b.out))
    (c : Cfg) (hC : Coh c) (hQ : Q c) : Q (tickStepper P c) :=
  have L : LoopClosed P (fun d => Mid d ∧ Q d) Q :=
    { ncr := fun _ h => h.1.ncr
      over := fun c h _ => hpc c _ nofun h.2
      closed := fun c h _ _ => hpc c _ nofun h.2
      blocked := fun c _ h _ _ => hpc c _ nofun h.2
      sync := fun c h hp hs => ⟨stepBody0_mid P c h.1 (h.1.unpaused hp) hs, hbody c h.1 (h.1.unpaused hp) h.2⟩
      susp := fun c h hp _ => hbody c h.1 (h.1.unpaused hp) h.2 }
  L.tickStepper c hQ (.inr fun _ h => h.2) (fun g => ⟨hC.enter.1 g, hQ⟩) (fun pf g _ => ⟨hC.enter.2.1 pf g, hQ⟩)
    (fun b g => hawait c b g hQ)
    (fun b g _ => ⟨(hC.enter.2.2.1 b g).2.2, hret c b hC g (hC.enter.2.2.1 b g).1 (hC.enter.2.2.1 b g).2.1 hQ⟩)
    fun wf w g hw hne => ⟨(hC.enter.2.2.2 wf w g hw hne).2, hwake c wf w hC g (hC.enter.2.2.2 wf w g hw hne).1 hw hne hQ⟩

/-- `tick_keepsG` for a predicate that is absorbed by termination and does not look at the program counter: only what a live
process does has to be supplied -/
theorem tick_keeps {Q : Cfg → Prop} (P : Prog) (hpc : ∀ c pc', Q c → Q { c with pc := pc' })
    (hbody : ∀ d, Mid d → terminal d.st.label = false → d.paused = none → Q d → Q (stepBody P 0 d))
    (hterm : ∀ c d, Q c → terminal c.st.label = true → d.st = c.st → d.trace = c.trace → Q d)
    (hwake : ∀ c wf w, Coh c → terminal c.st.label = false → c.pc = .awaitWaiting wf → wfOf c.st = some wf →
      c.wfs[wf]? = some w → w ≠ .pending → Q c → Q (wake c (wakeFn c) wf w))
    (hret : ∀ c b, Coh c → terminal c.st.label = false → c.pc = .inUser b → c.stepping = true → wfOf c.st = none → Q c →
      Q (finishUser c b.out))
    (c : Cfg) (hC : Coh c) (hQ : Q c) : Q (tickStepper P c) := by
  -- whatever a terminated process runs of the stepping task leaves its state object and trace alone
  have frozen : ∀ (f : Cfg → Cfg) (d : Cfg), terminal d.st.label = true →
      (∀ s t, Frozen s t d → Frozen s t (f d)) → Q d → Q (f d) :=
    fun _ d ht hf hQ => hterm d _ hQ ht (hf _ _ ⟨rfl, rfl⟩).1 (hf _ _ ⟨rfl, rfl⟩).2
  refine tick_keepsG P (fun c pc' _ => hpc c pc') (fun c b _ => hpc c _) (fun d hm hnp hQ => ?_)
    (fun c wf w hC hpc' hor hw hne hQ => ?_) (fun c b hC hpc' hs hnw hQ => ?_) c hC hQ
  · cases hl : terminal d.st.label with
    | false => exact hbody d hm hl (hnp hl) hQ
    | true =>
      exact frozen (stepBody P 0) d hl (fun s t h => (terminal_closed s t (by rw [← h.1]; exact hl)).stepBodyK P
        ((terminal_closed s t (by rw [← h.1]; exact hl)).loopHead P 0) d (fun g => by rw [hl] at g; cases g) h) hQ
  · cases hl : terminal c.st.label with
    | false => exact hwake c wf w hC hl hpc' (hor.resolve_left (by rw [hl]; exact Bool.false_ne_true)) hw hne hQ
    | true => exact frozen (wake · (wakeFn c) wf w) c hl (fun s t h => (terminal_closed s t (by rw [← h.1]; exact hl)).wake c _ wf w h) hQ
  · cases hl : terminal c.st.label with
    | false => exact hret c b hC hl hpc' hs hnw hQ
    | true => exact frozen (finishUser · b.out) c hl (fun s t h => (terminal_closed s t (by rw [← h.1]; exact hl)).finishUser c _ h) hQ

/-- `QuietU` with `stepping` unchanged, or `d` is terminated: in both cases nothing was activated -/
def Calm (c d : Cfg) : Prop :=
  (QuietU c d ∧ d.stepping = c.stepping) ∨ (terminal d.st.label = true ∧ d.trace = c.trace)

theorem Calm.of_off {W : List Fld} {c d : Cfg} (o : Off W c d)
    (hW : ∀ f ∈ [Fld.st, .trace, .wfs, .stepping], f ∉ W := by decide) : Calm c d :=
  .inl ⟨.of_eq (o.st (hW _ (by decide))) (o.trace (hW _ (by decide))) (o.wfs (hW _ (by decide))), o.stepping (hW _ (by decide))⟩

theorem Calm.off {W : List Fld} {c d d' : Cfg} (h : Calm c d) (o : Off W d d')
    (hW : ∀ f ∈ [Fld.st, .trace, .wfs, .stepping], f ∉ W := by decide) : Calm c d' :=
  h.imp (fun ⟨q, s⟩ => ⟨q.off o (fun f hf => hW f (by revert f; decide)), (o.stepping (hW _ (by decide))).trans s⟩)
    fun ⟨t, r⟩ => ⟨by rw [o.st (hW _ (by decide))]; exact t, (o.trace (hW _ (by decide))).trans r⟩

theorem Calm.left {c c' d : Cfg} (h : Calm c' d) (hst : c'.st = c.st) (htr : c'.trace = c.trace) (hw : c'.wfs = c.wfs)
    (hs : c'.stepping = c.stepping) : Calm c d :=
  h.imp (fun ⟨q, s⟩ => ⟨⟨q.1.trans hst, q.2.1.trans htr, fun wf h => by rw [← hw]; exact q.2.2 wf (by rw [hst]; exact h)⟩,
    s.trans hs⟩) fun ⟨t, r⟩ => ⟨t, r.trans htr⟩

theorem kill_calm (c : Cfg) : Calm c (kill c).1 :=
  kill_elim (Q := Calm c) c (.of_off (Off.rfl' (W := []) c)) (fun d i h => h.off (hand_off d i))
    (fun _ _ _ => .inl ⟨(requestInterrupt_quietU c .kill).off (Off.set _ .killing _),
      ((requestInterrupt_off c .kill).trans (Off.set _ .killing _)).stepping⟩)
    fun _ _ _ => .inr ⟨transitionTo_terminal c .killed rfl, (transitionTo_off c .killed).trace⟩

theorem fail_calm (c : Cfg) (e : Exc) : Calm c (fail c e).1 :=
  Task.fail_elim Task.baseE c e (.of_off (Off.rfl' (W := []) c)) fun _ =>
    .inr ⟨transitionTo_terminal c _ rfl, (transitionTo_off c _).trace⟩

theorem step_calm (P : Prog) (c : Cfg) (ev : Ev) (hnt : ev ≠ .tick) (hna : ∀ g, ev ≠ .tickCb (.adone g))
    (hnr : ∀ v, ev ≠ .resume v) : Calm c (step P c ev).1 := by
  cases ev with
  | tick => exact absurd rfl hnt
  | resume v => exact absurd rfl (hnr v)
  | tickCb cb =>
    simp only [step]
    by_cases hmem : cb ∈ c.ready
    · rw [tickCb_of_mem c cb hmem]
      cases cb with
      | adone g => exact absurd rfl (hna g)
      | trykill => exact ((kill_calm _).off (Off.set _ .handed _)).left rfl rfl rfl rfl
      | usercb r =>
        dsimp only
        split
        · exact (fail_calm _ _).left rfl rfl rfl rfl
        · exact .of_off (Off.set c .ready _)
    · rw [tickCb_noop c cb hmem]; exact .of_off (Off.rfl' (W := []) c)
  | pause => exact .inl ⟨pause_quietU c, (pause_off c).stepping⟩
  | play => exact .of_off (play_off c)
  | kill => exact kill_calm c
  | fail e => exact fail_calm c e
  | cancelFut => exact .of_off (cancelFut_off c)
  | complete f o => exact .of_off (complete_off c f o)
  | callSoon r => exact .of_off (Off.set c .ready _)

/-- a predicate that looks at the state object, the trace, `stepping` and the future of the current wait only, does not
tell a pending future from an interrupted one, and is absorbed by termination -/
structure Phase (Q : Cfg → Prop) : Prop where
  quiet : ∀ {c d}, QuietU c d → d.stepping = c.stepping → Q c → Q d
  over : ∀ {c d}, terminal d.st.label = true → d.trace = c.trace → Q c → Q d

namespace Phase
variable {Q : Cfg → Prop} (H : Phase Q)
include H

theorem off {W : List Fld} {c d : Cfg} (o : Off W c d) (h : Q c)
    (hW : ∀ f ∈ [Fld.st, .trace, .wfs, .stepping], f ∉ W := by decide) : Q d :=
  H.quiet (.of_eq (o.st (hW _ (by decide))) (o.trace (hW _ (by decide))) (o.wfs (hW _ (by decide))))
    (o.stepping (hW _ (by decide))) h

theorem step (P : Prog) (c : Cfg) (ev : Ev) (h : Q c)
    (htick : ev = .tick → Q (tickStepper P c)) (hres : ∀ v, ev = .resume v → Q (resume c v).1)
    (hadone : ∀ d f, ev = .tickCb (.adone f) → Q d → Q (awaitableDone d f)) : Q (PMF.step P c ev).1 := by
  by_cases hnt : ev = .tick
  · subst hnt; exact htick rfl
  by_cases hnr : ∃ v, ev = .resume v
  · obtain ⟨v, rfl⟩ := hnr; exact hres v rfl
  by_cases hna : ∃ g, ev = .tickCb (.adone g)
  · obtain ⟨g, rfl⟩ := hna
    show Q (tickCb c (.adone g))
    by_cases hm : Cb.adone g ∈ c.ready
    · rw [tickCb_adone c g hm]; exact hadone _ g rfl (H.off (Off.set c .ready _) h)
    · rw [tickCb_noop c _ hm]; exact h
  · rcases step_calm P c ev hnt (fun g hg => hna ⟨g, hg⟩) (fun v hv => hnr ⟨v, hv⟩) with ⟨q, s⟩ | ⟨t, r⟩
    · exact H.quiet q s h
    · exact H.over t r h

theorem tick_keeps (P : Prog)
    (hbody : ∀ d, Mid d → terminal d.st.label = false → d.paused = none → Q d → Q (stepBody P 0 d))
    (hwake : ∀ c wf w, Coh c → terminal c.st.label = false → c.pc = .awaitWaiting wf → wfOf c.st = some wf →
      c.wfs[wf]? = some w → w ≠ .pending → Q c → Q (wake c (wakeFn c) wf w))
    (hret : ∀ c b, Coh c → terminal c.st.label = false → c.pc = .inUser b → c.stepping = true → wfOf c.st = none → Q c →
      Q (finishUser c b.out))
    (c : Cfg) (hC : Coh c) (hQ : Q c) : Q (tickStepper P c) :=
  H6.tick_keeps P (fun c _ h => H.off (Off.set c .pc _) h) hbody
    (fun _ _ h ht hst htr => H.over (by rw [hst]; exact ht) htr h) hwake hret c hC hQ

end Phase

/-- what becomes of a WAITING epoch (continuation `fn`, the trace of user calls being `t0`) whose wait holds the outcome `o` -/
inductive Outc (fn : Nat) (o : WF) (t0 : List Act) (c : Cfg) : Prop
  | held (wf : Nat) (wk : Option WF) (aw : List (Nat × Nat)) (hst : c.st = .waiting fn wf wk aw) (hh : HoldsO c wf wk o)
      (ht : c.trace = t0)
  | ready (v : Option Val) (ho : o = .result v) (hst : c.st = .running fn (argsOf v) []) (hns : c.stepping = false)
      (ht : c.trace = t0)
  | over (hterm : terminal c.st.label = true) (ht : c.trace = t0)
  | done (v : Option Val) (ho : o = .result v) (extra : List Act) (ht : c.trace = extra ++ actOf fn v :: t0)

def IsOutcome (o : WF) : Prop := o ≠ .pending ∧ ∀ k, o ≠ .interrupted k

theorem IsOutcome.result (v : Option Val) : IsOutcome (.result v) := ⟨nofun, nofun⟩
theorem IsOutcome.failed (e : Exc) : IsOutcome (.failed e) := ⟨nofun, nofun⟩

section
variable {fn : Nat} {o : WF} {t0 : List Act}

theorem Outc.terminated {c d : Cfg} (h : Outc fn o t0 c) (hterm : terminal d.st.label = true) (htr : d.trace = c.trace) :
    Outc fn o t0 d := by
  cases h with
  | held wf wk aw hst hh ht => exact .over hterm (htr.trans ht)
  | ready v ho hst hns ht => exact .over hterm (htr.trans ht)
  | over _ ht => exact .over hterm (htr.trans ht)
  | done v ho extra ht => exact .done v ho extra (htr.trans ht)

theorem HoldsO.not_pending {c : Cfg} {wf : Nat} {wk : Option WF} (hh : HoldsO c wf wk o) (ho : IsOutcome o) :
    c.wfs[wf]? ≠ some .pending := by
  rcases hh with g | ⟨⟨k, g⟩, _⟩ <;> rw [g] <;> intro h <;> cases h
  exact ho.1 rfl

theorem outc_phase (fn : Nat) (o : WF) (t0 : List Act) (ho : IsOutcome o) : Phase (Outc fn o t0) where
  quiet q hs h := by
    cases h with
    | held wf wk aw hst hh ht =>
      refine .held wf wk aw (q.1.trans hst) ?_ (q.2.1.trans ht)
      rcases q.2.2 wf (by rw [hst]; rfl) with g | ⟨g, _⟩
      · unfold HoldsO at *; rw [g]; exact hh
      · exact absurd g (hh.not_pending ho)
    | ready v hv hst hns ht => exact .ready v hv (q.1.trans hst) (hs.trans hns) (q.2.1.trans ht)
    | over hterm ht => exact .over (by rw [q.1]; exact hterm) (q.2.1.trans ht)
    | done v hv extra ht => exact .done v hv extra (q.2.1.trans ht)
  over hterm htr h := h.terminated hterm htr

theorem deliver_holds_noop (c : Cfg) (o' : WF) (fn wf : Nat) (wk : Option WF) (aw : List (Nat × Nat))
    (hst : c.st = .waiting fn wf wk aw) (hh : HoldsO c wf wk o) (ho : IsOutcome o) : deliver c o' = c := by
  unfold deliver
  rcases hh with g | ⟨⟨k, g⟩, hwk⟩
  · cases o with
    | pending => exact absurd rfl ho.1
    | interrupted k => exact absurd rfl (ho.2 k)
    | _ => simp [hst, g]
  · simp [hst, g, hwk]

/-- the epoch begins: a delivery that the wait accepts — its future is pending, or carries an interruption while the wake-up slot
is empty — makes it hold the outcome -/
theorem deliver_accepted (c : Cfg) (o : WF) {fn wf : Nat} {wk : Option WF} {aw : List (Nat × Nat)}
    (hst : c.st = .waiting fn wf wk aw)
    (he : c.wfs[wf]? = some .pending ∨ ((∃ k, c.wfs[wf]? = some (.interrupted k)) ∧ wk = none)) :
    ∃ wk', (deliver c o).st = .waiting fn wf wk' aw ∧ HoldsO (deliver c o) wf wk' o ∧ (deliver c o).trace = c.trace := by
  rcases he with hp | ⟨⟨k, hk⟩, rfl⟩
  · have hlt : wf < c.wfs.length := (List.getElem?_eq_some_iff.mp hp).1
    rw [deliver_store c o hst hp]
    exact ⟨wk, hst, Or.inl (by simp [setAt, hlt]), rfl⟩
  · rw [deliver_park c o hst hk]
    exact ⟨some o, rfl, Or.inr ⟨⟨k, hk⟩, rfl⟩, rfl⟩

theorem deliver_outc (ho : IsOutcome o) (c : Cfg) (o' : WF) (h : Outc fn o t0 c) : Outc fn o t0 (deliver c o') := by
  cases h with
  | held wf wk aw hst hh ht => rw [deliver_holds_noop c o' fn wf wk aw hst hh ho]; exact .held wf wk aw hst hh ht
  | ready v hv hst hns ht => rw [deliver_of_not_waiting c o' (by rw [hst]; rfl)]; exact .ready v hv hst hns ht
  | over hterm ht => rw [deliver_of_not_waiting c o' (wfOf_none_of_terminal hterm)]; exact .over hterm ht
  | done v hv extra ht => exact .done v hv extra ((deliver_off c o').trace.trans ht)

theorem awaitableDone_outc (ho : IsOutcome o) (c : Cfg) (f : Nat) (h : Outc fn o t0 c) : Outc fn o t0 (awaitableDone c f) := by
  refine awaitableDone_elim c f h (fun d _ _ h => (outc_phase fn o t0 ho).off (Off.set d .ctx _) h)
    (fun fn' wf wk aw _ hst _ => ?_) fun d o' _ => deliver_outc ho d o'
  -- `f` leaves the awaiting set: same epoch, same wait
  cases h with
  | held wf' wk' aw' hst' hh ht => rw [hst] at hst'; cases hst'; exact .held wf wk _ rfl hh ht
  | ready v hv hst' _ _ => rw [hst] at hst'; cases hst'
  | over hterm _ => rw [hst] at hterm; cases hterm
  | done v hv extra ht => exact .done v hv extra ht

/-- what the end of the step leaves of a `held` configuration whose wait is being consumed: a terminal state, or — for a
result — RUNNING the continuation -/
theorem outc_of_stepRes (c d : Cfg) (next : Option SObj) (wf : Nat) (wk : Option WF) (aw : List (Nat × Nat))
    (hst : c.st = .waiting fn wf wk aw) (hw : c.wfs[wf]? = some o) (ht : c.trace = t0) (hres : StepRes c d next)
    (hnext : ∀ s, next = some s → terminal s.label = true ∨ ∃ v, o = .result v ∧ s = .running fn (argsOf v) [])
    (hns : d.stepping = false) (htr : d.trace = c.trace) : Outc fn o t0 d := by
  rcases hres with ⟨a, b⟩ | a | ⟨s, hs, a, _⟩
  · exact .held wf wk aw (a.trans hst) (Or.inl (by rw [b]; exact hw)) (htr.trans ht)
  · exact .over a (htr.trans ht)
  · rcases hnext s hs with g | ⟨v, hv, g⟩
    · exact .over (by rw [a]; exact g) (htr.trans ht)
    · exact .ready v hv (a.trans g) hns (htr.trans ht)

/-- `Waiting.execute` on a wait that holds `o` (for a runnable interrupt action): the wait is consumed, or re-armed on a
future that holds `o`, and the step ends -/
theorem wake_outc (ho : IsOutcome o) (c : Cfg) (wf : Nat) (wk : Option WF) (aw : List (Nat × Nat))
    (w : WF) (hact : ActOk c) (hst : c.st = .waiting fn wf wk aw) (hh : HoldsO c wf wk o) (hw : c.wfs[wf]? = some w)
    (ht : c.trace = t0) : Outc fn o t0 (wake c fn wf w) := by
  rcases hh with g | ⟨⟨k, g⟩, hwk⟩
  · cases hw.symm.trans g
    cases o with
    | pending => exact absurd rfl ho.1
    | interrupted k => exact absurd rfl (ho.2 k)
    | result v =>
      have hs := endOfStep_spec c (.next (some (.running fn (argsOf v) []))) hact
      exact outc_of_stepRes c _ _ wf wk aw hst g ht hs.2.2.2.2 (by intro s hs'; cases hs'; exact .inr ⟨v, rfl, rfl⟩) hs.1
        hs.2.2.2.1
    | failed e =>
      have hs := endOfStep_spec c (.exception e) hact
      exact outc_of_stepRes c _ _ wf wk aw hst g ht hs.2.2.2.2 (by intro s hs'; cases hs'; exact .inl rfl) hs.1 hs.2.2.2.1
  · cases hw.symm.trans g
    subst hwk
    rw [wake_interrupted c fn wf k o hst rfl]
    have hs := endOfStep_spec { c with st := .waiting fn c.wfs.length none aw, wfs := c.wfs ++ [o] } (.interruption k) hact
    exact outc_of_stepRes { c with st := .waiting fn c.wfs.length none aw, wfs := c.wfs ++ [o] } _ _
      c.wfs.length none aw rfl List.getElem?_concat_length ht hs.2.2.2.2 (by intro s hs'; cases hs') hs.1 hs.2.2.2.1

theorem tickStepper_outc (ho : IsOutcome o) (P : Prog) (c : Cfg) (hC : Coh c) (h : Outc fn o t0 c) :
    Outc fn o t0 (tickStepper P c) := by
  refine (outc_phase fn o t0 ho).tick_keeps P ?_ ?_ ?_ c hC h
  · -- one step between two steps: the wait is consumed, or the continuation is activated
    intro d hm hl hpa h
    cases h with
    | held wf wk aw hst hh ht =>
      -- no step is in flight, so the future carries no interruption: the outcome is in it
      have hw : d.wfs[wf]? = some o :=
        hh.resolve_right fun ⟨⟨k, g⟩, _⟩ => ni_of_nstep d hm.rob hm.nstep wf k (by rw [hst]; rfl) g
      rw [stepBody, stepBodyK_waiting_done P _ d fn wf wk aw _ hst hw ho.1]
      exact wake_outc ho { d with stepping := true } wf wk aw _ (rob_stepping d hm.rob hm.nstep).actOk hst (Or.inl hw) hw ht
    | ready v hv hst hns ht =>
      obtain ⟨x, hx⟩ := stepBodyK_activates P 0 d fn (argsOf v) hst hpa
      exact .done v hv x (by rw [stepBody, hx, ht]; rfl)
    | over hterm _ => rw [hl] at hterm; cases hterm
    | done v hv extra ht =>
      obtain ⟨x, hx⟩ := ((trext_closed d).stepBodyK P ((trext_closed d).loopHead P 0) d
        (fun _ pf hp => by rw [hpa] at hp; cases hp) (.rfl' d)).ext
      exact .done v hv (x ++ extra) (by rw [stepBody, hx, ht, List.append_assoc])
  · -- the coroutine wakes up on the future of the wait
    intro c wf w hC _ hpc hwfo hw _ h
    cases h with
    | held wf' wk aw hst hh ht =>
      rw [hst] at hwfo; cases hwfo
      rw [show wakeFn c = fn by unfold wakeFn; rw [hst]]
      exact wake_outc ho c wf wk aw w hC.rob.actOk hst hh hw ht
    | ready v hv hst _ _ => rw [hst] at hwfo; cases hwfo
    | over hterm _ => rw [wfOf_none_of_terminal hterm] at hwfo; cases hwfo
    | done v hv extra ht => exact .done v hv extra ((wake_off c _ wf w).trace.trans ht)
  · -- the user's function returns: only after the activation
    intro c b _ hl _ hs hnw h
    cases h with
    | held wf wk aw hst _ _ => rw [hst] at hnw; cases hnw
    | ready v hv _ hns _ => rw [hs] at hns; cases hns
    | over hterm _ => rw [hl] at hterm; cases hterm
    | done v hv extra ht => exact .done v hv extra ((finishUser_off c b.out).trace.trans ht)

theorem step_outc (ho : IsOutcome o) (P : Prog) (c : Cfg) (ev : Ev) (hC : Coh c) (h : Outc fn o t0 c) :
    Outc fn o t0 (step P c ev).1 :=
  (outc_phase fn o t0 ho).step P c ev h (fun _ => tickStepper_outc ho P c hC h)
    (fun u _ => resume_eq_deliver c u ▸ deliver_outc ho c _ h)
    fun d f _ => awaitableDone_outc ho d f

end

theorem deliv_iff {fn : Nat} {v : Option Val} {t0 : List Act} {c : Cfg} : Deliv fn v t0 c ↔ Outc fn (.result v) t0 c := by
  constructor
  · intro h
    cases h with
    | held wf wk aw hst hh ht => exact .held wf wk aw hst hh ht
    | ready hst hns ht => exact .ready v rfl hst hns ht
    | over hterm ht => exact .over hterm ht
    | done extra ht => exact .done v rfl extra ht
  · intro h
    cases h with
    | held wf wk aw hst hh ht => exact .held wf wk aw hst hh ht
    | ready v' ho hst hns ht => cases ho; exact .ready hst hns ht
    | over hterm ht => exact .over hterm ht
    | done v' ho extra ht => cases ho; exact .done extra ht

theorem Deliv.terminated {fn : Nat} {v : Option Val} {t0 : List Act} {c d : Cfg} (h : Deliv fn v t0 c)
    (hterm : terminal d.st.label = true) (htr : d.trace = c.trace) : Deliv fn v t0 d :=
  deliv_iff.mpr ((deliv_iff.mp h).terminated hterm htr)

/-- a wait that holds a result ignores every further delivery (`C06_later_resume_ignored`; `C06_parked_not_overwritten` where
what is parked is a result) -/
theorem deliver_held_noop (c : Cfg) (o : WF) (fn wf : Nat) (wk : Option WF) (aw : List (Nat × Nat)) (v : Option Val)
    (hst : c.st = .waiting fn wf wk aw) (hh : Holds c wf wk v) : deliver c o = c :=
  deliver_holds_noop c o fn wf wk aw hst hh (.result v)

theorem step_deliv {fn : Nat} {v : Option Val} {t0 : List Act} (P : Prog) (c : Cfg) (ev : Ev) (hC : Coh c)
    (h : Deliv fn v t0 c) : Deliv fn v t0 (step P c ev).1 :=
  deliv_iff.mpr (step_outc (.result v) P c ev hC (deliv_iff.mp h))

theorem run_deliv {fn : Nat} {v : Option Val} {t0 : List Act} (P : Prog) (c0 : Cfg) (evs : List Ev) (hC : Coh c0)
    (hf : histFuelOk P c0 evs = true) (h : Deliv fn v t0 c0) : Deliv fn v t0 (run P c0 evs) :=
  (run_coh_with P c0 evs (fun c e _ => step_deliv P c e) hC hf h).2

end PMF.H6
