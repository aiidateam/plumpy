import PlumpyModel.PM.LProof11
import PlumpyModel.PM.LProof16
/-!
# `PMF.L` — progress with listeners: the linking invariant `InvS` through transitions and requests, in every context

`InvS` (PM/Proof10.lean) links the stepping coroutine to the state object: a task blocked on a waiting future holds the one the
current WAITING state owns or a completed one, a task blocked on a pause future holds the current one or a released one, and on a
terminated process the current pause future is released.  Here: every transition and every request a listener / state-event
callback can issue — made inside a transition, inside the enactment of another request, during or between steps — preserves it.
The lifecycle invariant `Inv` (PM/Proof1.lean; with listeners PM/LProof11.lean) is carried along for "a live process is not closed".

The key intermediate notion is `Exited`: after the exit phase the wait of the state being left is completed (repair J); it is
kept by everything that may run before the new state object is assigned (entering callbacks, their deferred requests).  The
transition is an instance of the traversal in phases (`Phases`, PM/Closed.lean, PM/ClosedL.lean): `invS_phases`.
-/
namespace PMF

def Exited (c : Cfg) : Prop := ∀ fn wf wk aw, c.st = .waiting fn wf wk aw → c.wfs[wf]? ≠ some .pending

theorem exitState_exited (c : Cfg) (hwv : WV c) : Exited (exitState c) := by
  intro fn wf wk aw hst
  rw [(exitState_off c).st] at hst
  obtain ⟨w, hw, hne⟩ := exitState_completes_wait c fn wf wk aw hst
    (by rw [List.getElem?_eq_getElem (hwv fn wf wk aw hst)]; rfl)
  rw [hw]; intro h; exact hne (Option.some.inj h)

theorem Exited.mono {c c' : Cfg} (h : Exited c) (hst : c'.st = c.st) (hm : MonoW c.wfs c'.wfs) (hwv : WV c) : Exited c' := by
  intro fn wf wk aw hs
  rw [hst] at hs
  exact hm.nonpending (hwv fn wf wk aw hs) (h fn wf wk aw hs)

theorem exited_of_not_waiting {c : Cfg} (h : ∀ fn wf wk aw, c.st ≠ .waiting fn wf wk aw) : Exited c :=
  fun fn wf wk aw hs => absurd hs (h fn wf wk aw)

/-- `self._state = next_state` after the state being left has been exited -/
theorem FP.setState_invM (c : Cfg) (s : SObj) (h : FP.InvM c) (hex : Exited c) (hs : TargetOk c s) :
    FP.InvM (setState (enterState c s) s) := by
  have r : TR c (setState (enterState c s) s) := .of_off ((enterState_off c s).trans (setState_off _ s))
  refine h.of_tr r (fun wf hp => ?_) fun fn wf wk aw hst => ?_
  · exact (h.aw wf hp).of_mono r.wfs fun fn wk aw hst => Or.inr (r.wfs.nonpending (h.aw wf hp).1 (hex fn wf wk aw hst))
  · have : s = .waiting fn wf wk aw := hst
    exact Nat.lt_of_lt_of_le (hs.2 fn wf wk aw this) r.wfs.1

/-- the rest of `enterNext` after the assignment of the state object: the ENTERED hooks, `on_terminated` for a terminal state -/
theorem enterNext_tail (c : Cfg) (s : SObj) :
    TR (setState (enterState c s) s) (enterNext c s) ∧ (enterNext c s).st = (setState (enterState c s) s).st := by
  refine ⟨?_, enterNext_st c s⟩
  unfold enterNext; dsimp only; split
  · exact (TR.of_off (enteredHooks_off _ s)).trans (onTerminated_tr _)
  · exact .of_off (enteredHooks_off _ s)

theorem enterNext_invS (c : Cfg) (s : SObj) (h : InvS c) (hex : Exited c) (hs : TargetOk c s) : InvS (enterNext c s) :=
  ((FP.setState_invM c s (.of_s h) hex hs).tr (enterNext_tail c s).1 (Or.inl (enterNext_tail c s).2)).to_s
    fun _ _ => enterNext_relT c s h.pv

theorem TargetOk.mono {c c' : Cfg} {s : SObj} (h : TargetOk c s) (hm : MonoW c.wfs c'.wfs) : TargetOk c' s :=
  ⟨h.1, fun fn wf wk aw hs => Nat.lt_of_lt_of_le (h.2 fn wf wk aw hs) hm.1⟩

/-- inside a transition: both invariants, the state object of the start, wait futures only added or completed -/
structure MidS (c₀ c : Cfg) : Prop where
  s : InvS c
  i : Inv c
  same : Same c₀ c
  wfs : MonoW c₀.wfs c.wfs

/-- `s'` is about to be entered: the state being left has been exited -/
structure ReadyS (s' : SObj) (c : Cfg) : Prop where
  s : InvS c
  i : Inv c
  ex : Exited c
  tgt : TargetOk c s'
  ok : s'.label ∈ allowed c.st.label
  opn : c.closed = false

theorem invS_phases (c₀ : Cfg) (s : SObj) (h : InvS c₀) (hi : Inv c₀) (hl : terminal c₀.st.label = false) (hs : TargetOk c₀ s) :
    Phases c₀ s (MidS c₀) (fun c => MidS c₀ c ∧ Exited c) ReadyS fun c => InvS c ∧ Inv c :=
  have hnc := not_closed_of_live hi hl
  have exc : ∀ c e, MidS c₀ c → Exited c → ReadyS (.excepted e) (setFutExc c e) := fun c e a x =>
    have o := setFutExc_off c e
    ⟨a.s.ar (.of_off o), a.i.off o, x.mono o.st (.of_eq o.wfs) a.s.wv, targetOk_excepted _ e,
      by rw [o.st, a.same.1]; exact live_excepted _ hl, o.closed.trans (a.same.2.2.trans hnc)⟩
  have start : MidS c₀ c₀ := ⟨h, hi, .rfl' _, .rfl' _⟩
  { start := start
    opn := fun c a => a.same.2.2.trans hnc
    exit := fun c a =>
      ⟨⟨a.s.tr (exitState_tr c) (Or.inl (exitState_off c).st), a.i.off (exitState_off c),
        a.same.trans (.of_off (exitState_off c)), a.wfs.trans (exitState_tr c).wfs⟩, exitState_exited c a.s.wv⟩
    again := fun _ b => b.1
    entering := fun hin c c2 b hok =>
      have o := enteringHooks_off c hok
      have sm := b.1.same.trans (.of_off o)
      ⟨b.1.s.ar (.of_off o), b.1.i.off o, b.2.mono o.st (.of_eq o.wfs) b.1.s.wv, hs.mono (b.1.wfs.trans (.of_eq o.wfs)),
        by rw [sm.1]; exact hin, sm.2.2.trans hnc⟩
    failed := fun _ c e b => exc c e b.1 b.2
    refused := fun hin e => exc c₀ e start (exited_of_not_waiting fun fn wf wk aw hst =>
      hin (by rw [hst]; exact allowed_of_waiting hs.1))
    enter := fun s' c r => ⟨enterNext_invS c s' r.s r.ex r.tgt, enterNext_inv c s' r.i r.ok r.opn⟩ }

namespace L

theorem _root_.PMF.FP.requestL_invM (l : LCfg) (k : AKind) (h : FP.InvM l.c) : FP.InvM (requestL l k) := by
  have h0 : FP.InvM (setInterruptFromExc { l.c with nextCookie := l.c.nextCookie + 1 } k l.c.nextCookie) :=
    h.off ((Off.set l.c .nextCookie _).trans (setInterruptFromExc_off _ _ _))
  unfold requestL; split
  · exact h0.tr (interruptState_tr _ _) (Or.inl (interruptState_off _ _).st)
  · exact h0

theorem requestL_invS (l : LCfg) (k : AKind) (h : InvS l.c) : InvS (requestL l k) :=
  (FP.requestL_invM l k (.of_s h)).to_s fun pf hp => by
    have o := requestL_off l k
    rw [o.pc] at hp; unfold RelT; rw [o.st, o.pfs, o.paused]; exact h.tp pf hp

/-- what the proofs need of a notification function: the lifecycle invariant and the frame (`FG1`, PM/LProof11.lean), the frame `QQ`, and the
coroutine invariant — in EVERY context (no hypothesis on `_stepping`) -/
structure FJ (F : Hook → LCfg → LCfg) : Prop where
  g1 : FG1 F
  q : FQ F
  inv : ∀ h l, InvS l.c → Inv l.c → InvS (F h l).c

section
variable {F : Hook → LCfg → LCfg}

theorem enteredHooksL_invS (hF : FJ F) (l : LCfg) (s : SObj) (h : InvS l.c) (hi : Inv l.c) : InvS (enteredHooksL F l s).c := by
  unfold enteredHooksL; dsimp only
  have h1 : InvS (l.upd (fun c => enteredHooks c s)).c := h.ar (.of_off (enteredHooks_off l.c s))
  split
  · exact hF.inv _ _ h1 (hi.off (enteredHooks_off l.c s))
  · exact h1

/-- **a transition preserves the coroutine invariant whatever listeners and state-event callbacks request while it runs** -/
theorem transitionToL_invS (hF : FJ F) (l : LCfg) (s : SObj) (h : InvS l.c) (hi : Inv l.c)
    (hl : terminal l.c.st.label = false) (hs : TargetOk l.c s) : InvS (transitionToL F l s).c :=
  ((invS_phases l.c s h hi hl hs).transitionToL
    (fun d a =>
      have k := hF.g1.phase .exiting d rfl
      ⟨hF.inv _ _ a.s a.i, a.i.same k.same, a.same.trans k.same, a.wfs.trans (hF.q .exiting d).wfs⟩)
    (fun _ d r =>
      have k := hF.g1.phase .entering d rfl
      have m := (hF.q .entering d).wfs
      ⟨hF.inv _ _ r.s r.i, r.i.same k.same, r.ex.mono k.c.st m r.s.wv, r.tgt.mono m, by rw [k.c.st]; exact r.ok,
        k.c.closed.trans r.opn⟩)
    fun hk d j => ⟨hF.inv hk d j.1 j.2, hF.g1.inv hk d j.2⟩).1

/-- enacting a pause: a fresh, unreleased pause future becomes the current one.  Needs: the pause future the task was blocked on
(if any) is released (`Hq`), and the process is live if the task sits on a pause wait -/
theorem doPauseL_invS (hF : FJ F) (l : LCfg) (h : InvS l.c) (hi : Inv l.c) (hq : Hq l.c)
    (hl : ∀ pf, l.c.pc = .awaitPaused pf → terminal l.c.st.label = false) : InvS (doPauseL F l).c := by
  unfold doPauseL; dsimp only
  have h1 : InvS (l.upd doPauseHooks).c := doPauseHooks_invS l.c h hq hl
  exact (hF.inv _ _ h1 (hi.off (doPauseHooks_off l.c))).ar (.of_off (Off.set _ .pausing none))

theorem pauseL_invS (hF : FJ F) (l : LCfg) (h : InvS l.c) (hi : Inv l.c) : InvS (pauseL F l).1.c :=
  pauseL_elim (Q := fun d => InvS d.c) F l h (fun _ _ q => q.ar (.of_off (hand_off ..)))
    (fun _ _ _ _ => (requestL_invS l .pause h).ar (.of_off (Off.set _ .pausing _))) fun hl _ hpa _ _ =>
    doPauseL_invS hF l h hi (FP.hq_of_unpaused (.of_s h) hpa) fun _ _ => hl

theorem playL_invS (hF : FJ F) (l : LCfg) (h : InvS l.c) (hi : Inv l.c) : InvS (playL F l).1.c :=
  playL_elim (Q := fun d => InvS d.c) F l (play_invS l.c h) fun q => hF.inv _ _ q (inv_closed.played l.c hi)

theorem killL_invS (hF : FJ F) (l : LCfg) (h : InvS l.c) (hi : Inv l.c) : InvS (killL F l).1.c :=
  killL_elim (Q := fun d => InvS d.c) F l h (fun _ _ q => q.ar (.of_off (hand_off ..)))
    (fun _ _ _ => (requestL_invS l .kill h).ar (.of_off (Off.set _ .killing _)))
    fun hl _ _ => transitionToL_invS hF l .killed h hi hl (targetOk_killed _)

theorem failL_invS (hF : FJ F) (l : LCfg) (e : Exc) (h : InvS l.c) (hi : Inv l.c) : InvS (failL F l e).1.c :=
  failL_elim (Q := fun d => InvS d.c) F l e h fun hl => transitionToL_invS hF l _ h hi hl (targetOk_excepted _ _)

theorem reqK_invS (hF : FJ F) (r : Req) (l : LCfg) (h : InvS l.c) (hi : Inv l.c) : InvS (reqK F r l).c := by
  cases r
  · exact pauseL_invS hF l h hi
  · exact playL_invS hF l h hi
  · exact killL_invS hF l h hi
end

theorem fireN_fj (n : Nat) : FJ (fireN n) :=
  ⟨fireN_g1 n, fireN_qq n, fun h l hs hi =>
    (fireN_closed (I := fun l => InvS l.c ∧ Inv l.c) (P := fun F => FG1 F ∧ FQ F) (fun n => ⟨fireN_g1 n, fireN_qq n⟩)
      (fun _ _ a => a) (fun _ _ _ _ a => a)
      (fun _ hP hI r l a => ⟨reqK_invS ⟨hP.1, hP.2, fun h l s i => (hI h l ⟨s, i⟩).1⟩ r l a.1 a.2, hP.1.closed.reqK r l a.2⟩)
      n h l ⟨hs, hi⟩).1⟩

end L
end PMF
