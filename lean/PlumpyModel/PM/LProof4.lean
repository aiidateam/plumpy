import PlumpyModel.PM.LProof1
/-!
# `PMF.L` — the `while` loop of the closing part enacts everything that was requested

`Le`: no model function lengthens the plan.  `Adv`: a function either uses up a plan entry or leaves the interrupt-action slot
and the action table alone.  Hence every iteration of `enactLoop` that leaves a pending action behind has consumed an entry, and
`plan.length + 1` iterations are enough (`dispatchL_quiet`), and more compute the same (`enactLoop_fuel`).
-/
namespace PMF
namespace L

def Le (l l' : LCfg) : Prop := l'.plan.length ≤ l.plan.length

theorem erase_lt {α} [BEq α] [LawfulBEq α] (p : List α) (e : α) (h : e ∈ p) : (p.erase e).length < p.length := by
  rw [List.length_erase_of_mem h]
  cases p with
  | nil => cases h
  | cons a t => simp

theorem le_leaves (l₀ : LCfg) : ReqLeaves (Le l₀) where
  toTransLeaves := .of_off [] (fun _ _ h => h) (fun _ _ h => h)
  hand _ _ h := h
  requestPause _ _ h := h
  requestKill _ _ h := h
  played _ h := h
  count _ _ h := h
  issue l _ e he h := Nat.le_trans (Nat.le_of_lt (erase_lt l.plan e he)) h

def Adv (l l' : LCfg) : Prop :=
  l'.plan.length < l.plan.length ∨
  (l'.plan.length = l.plan.length ∧ l'.c.interrupt = l.c.interrupt ∧ l'.c.actions = l.c.actions)

theorem Adv.rfl' (l : LCfg) : Adv l l := Or.inr ⟨rfl, rfl, rfl⟩
theorem Adv.le {l l' : LCfg} (h : Adv l l') : Le l l' := by
  rcases h with h | h
  · exact Nat.le_of_lt h
  · exact Nat.le_of_eq h.1
theorem Adv.trans {a b c : LCfg} (h1 : Adv a b) (h2 : Adv b c) : Adv a c := by
  rcases h1 with h1 | h1
  · exact Or.inl (Nat.lt_of_le_of_lt h2.le h1)
  · rcases h2 with h2 | h2
    · exact Or.inl (by rw [← h1.1]; exact h2)
    · exact Or.inr ⟨h2.1.trans h1.1, h2.2.1.trans h1.2.1, h2.2.2.trans h1.2.2⟩

def FAdv (F : Hook → LCfg → LCfg) : Prop := ∀ h l, Adv l (F h l)

/-- a notification that issues a request has used up its plan entry, and the request does not lengthen the plan -/
theorem fireN_adv : ∀ n, FAdv (fireN n)
  | 0, _, _ => Or.inr ⟨rfl, rfl, rfl⟩
  | n+1, h, l => by
    unfold fireN
    rcases fireK_cases (reqK (fireN n)) h l with h1 | ⟨e, he, h1⟩
    · rw [h1]; exact Or.inr ⟨rfl, rfl, rfl⟩
    · rw [h1]
      exact Or.inl (Nat.lt_of_le_of_lt ((le_leaves _).reqK ((le_leaves _).fireN n) _ _ (Nat.le_refl _)) (erase_lt l.plan e he))

theorem adv_leaves (l₀ : LCfg) : TransLeaves (Adv l₀) :=
  .of_off [.interrupt, .actions]
    (fun o hW h => h.trans (Or.inr ⟨rfl, o.interrupt (hW _ (by decide)), o.actions (hW _ (by decide))⟩))
    (fun _ _ h => h)

section
variable {F : Hook → LCfg → LCfg}

theorem transitionToL_adv (hF : FAdv F) (l : LCfg) (s : SObj) : Adv l (transitionToL F l s) :=
  (adv_leaves l).transitionToL (fun h _ a => a.trans (hF h _)) l s (.rfl' l)

theorem doPauseL_adv (hF : FAdv F) (l : LCfg) : Adv l (doPauseL F l) :=
  (adv_leaves l).doPauseL (fun h _ a => a.trans (hF h _)) l (.rfl' l)

/-- nothing is left for the `while` loop to enact -/
def Quiet (l : LCfg) : Prop :=
  match l.c.interrupt with
  | some i => actionStatus l.c i ≠ .pending ∨ terminal l.c.st.label = true
  | none => True

theorem Quiet.of_none {l : LCfg} (hn : l.c.interrupt = none) : Quiet l := by unfold Quiet; rw [hn]; trivial
theorem Quiet.of_done {l : LCfg} {i : Nat} (hi : l.c.interrupt = some i) (h : actionStatus l.c i ≠ .pending) : Quiet l := by
  unfold Quiet; rw [hi]; exact Or.inl h
/-- a pending action is left in the slot only if the process has terminated -/
theorem Quiet.terminal {l : LCfg} {i : Nat} (h : Quiet l) (hi : l.c.interrupt = some i) (hp : actionStatus l.c i = .pending) :
    terminal l.c.st.label = true := by
  unfold Quiet at h; rw [hi] at h; exact h.resolve_left fun hn => hn hp

theorem setActionStatus_status (c : Cfg) (i : Nat) (s : AStatus) (hs : s ≠ .pending) :
    actionStatus (setActionStatus c i s) i ≠ .pending := by
  unfold actionStatus
  rw [setActionStatus_get?, if_pos rfl]
  cases c.actions[i]? with
  | none => nofun
  | some a => exact hs

theorem runActionL_adv (hF : FAdv F) (l : LCfg) (i : Nat) (next : Option SObj) :
    (runActionL F l i next).plan.length < l.plan.length ∨
    ((runActionL F l i next).plan.length = l.plan.length ∧ (runActionL F l i next).c.interrupt = l.c.interrupt ∧
      actionStatus (runActionL F l i next).c i ≠ .pending) := by
  unfold runActionL
  split
  · rename_i hn
    exact Or.inr ⟨rfl, rfl, by simp [actionStatus, hn]⟩
  · rename_i a ha
    split
    · rename_i hnp
      exact Or.inr ⟨rfl, rfl, by simpa [actionStatus, ha] using hnp⟩
    ·
      have hbody : ∀ body : LCfg, Adv l body →
          (if actionStatus body.c i = .pending then body.upd (fun c => setActionStatus c i .done) else body).plan.length < l.plan.length ∨
          ((if actionStatus body.c i = .pending then body.upd (fun c => setActionStatus c i .done) else body).plan.length = l.plan.length ∧
           (if actionStatus body.c i = .pending then body.upd (fun c => setActionStatus c i .done) else body).c.interrupt = l.c.interrupt ∧
           actionStatus (if actionStatus body.c i = .pending then body.upd (fun c => setActionStatus c i .done) else body).c i ≠ .pending) := by
        intro body hb
        rcases hb with hb | hb
        · left; split <;> exact hb
        · right
          split
          · exact ⟨hb.1, (setActionStatus_off ..).interrupt.trans hb.2.1, setActionStatus_status _ _ _ (by simp)⟩
          · rename_i hnp
            exact ⟨hb.1, hb.2.1, hnp⟩
      apply hbody
      split
      · split
        · dsimp only
          split
          · exact transitionToL_adv hF _ _
          · exact (transitionToL_adv hF _ _).trans (doPauseL_adv hF _)
        · exact doPauseL_adv hF _
      · exact (transitionToL_adv hF _ _).trans (Or.inr ⟨rfl, rfl, rfl⟩)

theorem enactLoop_of_quiet (n : Nat) (l : LCfg) (h : Quiet l) : enactLoop F n l = l := by
  cases n with
  | zero => rfl
  | succ n =>
    unfold enactLoop
    unfold Quiet at h
    split
    · rename_i i hi
      rw [hi] at h
      rcases h with h | h
      · simp [h]
      · simp [h]
    · rfl

theorem enactLoop_succ (n : Nat) (l : LCfg) :
    enactLoop F (n+1) l =
      match l.c.interrupt with
      | some i => if actionStatus l.c i = .pending && !terminal l.c.st.label then enactLoop F n (runActionL F l i none) else l
      | none => l := rfl

/-- with more iterations than plan entries the loop stops because nothing is left to enact (every iteration that leaves a pending
action behind has used up an entry), and one more iteration changes nothing -/
theorem enactLoop_ends (hF : FAdv F) : ∀ (n : Nat) (l : LCfg), l.plan.length < n →
    Quiet (enactLoop F n l) ∧ enactLoop F (n+1) l = enactLoop F n l
  | 0, _, h => by cases h
  | n+1, l, h => by
    rw [enactLoop_succ (n+1) l, enactLoop_succ n l]
    split
    · rename_i i hi
      split
      · rcases runActionL_adv hF l i none with h1 | h1
        · exact enactLoop_ends hF n (runActionL F l i none) (by omega)
        · have hq : Quiet (runActionL F l i none) := .of_done (h1.2.1.trans hi) h1.2.2
          rw [enactLoop_of_quiet _ _ hq, enactLoop_of_quiet _ _ hq]; exact ⟨hq, rfl⟩
      · rename_i hc
        simp only [Bool.and_eq_true, decide_eq_true_eq, Bool.not_eq_true', not_and, Bool.not_eq_false] at hc
        refine ⟨?_, rfl⟩
        unfold Quiet; rw [hi]
        exact (Decidable.em (actionStatus l.c i = .pending)).elim (fun hp => Or.inr (hc hp)) Or.inl
    · rename_i hn
      exact ⟨.of_none hn, rfl⟩

theorem enactLoop_quiet (hF : FAdv F) (n : Nat) (l : LCfg) (h : l.plan.length < n) : Quiet (enactLoop F n l) :=
  (enactLoop_ends hF n l h).1

/-- the loop is never stopped by its bound -/
theorem enactLoop_fuel (hF : FAdv F) (l : LCfg) : ∀ (m : Nat), l.plan.length < m →
    enactLoop F m l = enactLoop F (l.plan.length + 1) l := by
  intro m hm
  induction m with
  | zero => cases hm
  | succ k ih =>
    by_cases hk : l.plan.length < k
    · rw [(enactLoop_ends hF k l hk).2]; exact ih hk
    · have : k = l.plan.length := by omega
      rw [this]

/-- **nothing requested during the closing part is left behind**: when `dispatchL` returns, the interrupt-action slot is empty,
or holds an action that is done, or the process has terminated — so the `finally` of `step()` cancels nothing that a listener
asked for on a process that is still live. -/
theorem dispatchL_quiet (hF : FAdv F) (l : LCfg) (next : Option SObj) : Quiet (dispatchL F l next) := by
  unfold dispatchL
  split
  · rename_i ht
    unfold Quiet; split
    · exact Or.inr ht
    · trivial
  · exact enactLoop_quiet hF _ _ (Nat.lt_succ_self _)
end

end L
end PMF
