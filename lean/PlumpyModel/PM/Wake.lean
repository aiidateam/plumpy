import PlumpyModel.PM.Writes
/-!
# The wake-up requests as sequences of elementary updates

A wake-up request (`isWake`: `resume`, the completion of an awaited future, the run of its done-callback, `call_soon`, the run of a
non-raising scheduled callback) only touches the passive part of a configuration: the outcome of the current wait, the awaiting
list of the WAITING state object, the context, the external futures with their callbacks, the scheduled callbacks.  `plan` lists
what a request does as elementary updates `Upd`; it is computed from the awaiting list, the registered keys, the external futures,
the callbacks and the context alone (`step_plan`, `planOf_congr`).  A relation between two configurations, or a view of one, that every elementary update respects is
therefore respected by every wake-up request (`runAll_rel`).
-/
namespace PMF

def isWake : Ev → Bool
  | .resume _ | .complete _ _ | .tickCb (.adone _) | .callSoon _ | .tickCb (.usercb false) => true
  | _ => false

def setAw (c : Cfg) (l : List (Nat × Nat)) : Cfg :=
  match c.st with
  | .waiting fn wf wk _ => { c with st := .waiting fn wf wk l }
  | _ => c

inductive Upd
  | aw (l : List (Nat × Nat))
  | ctx (X : List (Nat × Val))
  | deliver (o : WF) (ok : o ≠ .pending ∧ ∀ k, o ≠ .interrupted k)
  | efs (E : List EFut)
  | efCb (L : List Nat)
  | ready (R : List Cb)

def Upd.run : Upd → Cfg → Cfg
  | .aw l, c => setAw c l
  | .ctx X, c => { c with ctx := X }
  | .deliver o _, c => PMF.deliver c o
  | .efs E, c => { c with efs := E }
  | .efCb L, c => { c with efCb := L }
  | .ready R, c => { c with ready := R }

def runAll (l : List Upd) (c : Cfg) : Cfg := l.foldl (fun x u => u.run x) c

theorem runAll_cons (u : Upd) (l : List Upd) (c : Cfg) : runAll (u :: l) c = runAll l (u.run c) := rfl

theorem runAll_rel {R : Cfg → Cfg → Prop} (l : List Upd) (h : ∀ u ∈ l, ∀ x y, R x y → R (u.run x) (u.run y)) {x y : Cfg}
    (hxy : R x y) : R (runAll l x) (runAll l y) := by
  induction l generalizing x y with
  | nil => exact hxy
  | cons u l ih =>
    exact ih (fun v hv => h v (List.mem_cons_of_mem _ hv)) (h u (List.mem_cons_self ..) x y hxy)

def awaiting : SObj → Option (List (Nat × Nat))
  | .waiting _ _ _ aw => some aw
  | _ => none

/-- `_awaitable_done` of a callback whose state object was left: it still writes the context -/
def oldPlan (K : List (Nat × Nat)) (E : List EFut) (X : List (Nat × Val)) (f : Nat) : List Upd :=
  match K.find? (·.1 = f), E[f]? with
  | some (_, key), some (EFut.result v) => [.ctx ((key, v) :: X.filter (·.1 ≠ key))]
  | _, _ => []

/-- `_awaitable_done` for the future `f`, given the awaiting list of the current state, the registered keys, the external futures
and the context -/
def adPlan (aw : Option (List (Nat × Nat))) (K : List (Nat × Nat)) (E : List EFut) (X : List (Nat × Val)) (f : Nat) : List Upd :=
  match aw with
  | none => oldPlan K E X f
  | some l =>
    match l.find? (·.1 = f) with
    | none => oldPlan K E X f
    | some (_, key) =>
      .aw (l.filter (·.1 ≠ f)) ::
        match E[f]? with
        | some (.result v) =>
            .ctx ((key, v) :: X.filter (·.1 ≠ key)) :: if (l.filter (·.1 ≠ f)).isEmpty then [.deliver (.result none) ⟨nofun, nofun⟩] else []
        | some (.exc e) => [.deliver (.failed e) ⟨nofun, nofun⟩]
        | _ => []

theorem awaitableDone_plan (c : Cfg) (f : Nat) :
    awaitableDone c f = runAll (adPlan (awaiting c.st) c.efKeys c.efs c.ctx f) c := by
  have old : (match c.efKeys.find? (·.1 = f), c.efs[f]? with
      | some (_, key), some (EFut.result v) => { c with ctx := (key, v) :: c.ctx.filter (·.1 ≠ key) }
      | _, _ => c) = runAll (oldPlan c.efKeys c.efs c.ctx f) c := by
    unfold oldPlan; split <;> rfl
  unfold awaitableDone
  cases hst : c.st with
  | waiting fn wf wk aw =>
    simp only [awaiting, adPlan]
    cases aw.find? (·.1 = f) with
    | none => exact old
    | some p =>
      have e : ({ c with st := .waiting fn wf wk (aw.filter (·.1 ≠ f)) } : Cfg) = setAw c (aw.filter (·.1 ≠ f)) := by
        simp only [setAw, hst]
      simp only [runAll_cons, Upd.run, ← e]
      cases c.efs[f]? with
      | none => rfl
      | some o =>
        cases o with
        | result v => dsimp only; split <;> rfl
        | _ => rfl
  | _ => exact old

def plan (aw : Option (List (Nat × Nat))) (K : List (Nat × Nat)) (E : List EFut) (L : List Nat) (R : List Cb)
    (X : List (Nat × Val)) : Ev → List Upd
  | .resume v => [.deliver (.result v) ⟨nofun, nofun⟩]
  | .complete f o =>
      match E[f]? with
      | some .pending => .efs (setAt E f o) :: if L.contains f then [.efCb (L.erase f), .ready (R ++ [.adone f])] else []
      | _ => []
  | .tickCb (.adone f) => if R.contains (.adone f) then .ready (R.erase (.adone f)) :: adPlan aw K E X f else []
  | .tickCb (.usercb false) => if R.contains (.usercb false) then [.ready (R.erase (.usercb false))] else []
  | .callSoon r => [.ready (R ++ [.usercb r])]
  | _ => []

abbrev planOf (c : Cfg) (e : Ev) : List Upd := plan (awaiting c.st) c.efKeys c.efs c.efCb c.ready c.ctx e

theorem planOf_congr {c c' : Cfg} (e : Ev) (hst : awaiting c'.st = awaiting c.st) (h0 : c'.efKeys = c.efKeys) (h1 : c'.efs = c.efs)
    (h2 : c'.efCb = c.efCb) (h3 : c'.ready = c.ready) (h4 : c'.ctx = c.ctx) : planOf c' e = planOf c e := by
  unfold planOf; rw [hst, h0, h1, h2, h3, h4]

theorem step_plan (P : Prog) (c : Cfg) (e : Ev) (h : isWake e = true) : (step P c e).1 = runAll (planOf c e) c := by
  cases e with
  | resume v => exact resume_eq_deliver c v
  | complete f o =>
    simp only [step, complete, planOf, plan]
    cases c.efs[f]? with
    | none => rfl
    | some o' =>
      cases o' with
      | pending => dsimp only; split <;> rfl
      | _ => rfl
  | callSoon r => rfl
  | tickCb cb =>
    cases cb with
    | adone f =>
      simp only [step, tickCb, planOf, plan]
      split
      · exact awaitableDone_plan { c with ready := c.ready.erase (.adone f) } f
      · rfl
    | trykill => cases h
    | usercb r =>
      cases r with
      | false =>
        simp only [step, tickCb, planOf, plan]
        split <;> rfl
      | true => cases h
  | _ => cases h

end PMF
