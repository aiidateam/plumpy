import PlumpyModel.PM.Proof12
/-!
# C05 — transparency, fourth class: wake-ups while the process is held at a step boundary in CREATED or RUNNING

When a tick of the run with pauses ends with the pause taking effect at a step boundary in CREATED or RUNNING, the reference
run executes in the same tick the same first step *and the rest of the loop*: it is ahead.  A wake-up request that arrives
during the hold therefore has to reach the reference run *before* that tick.  The reference history `unpaused4` does this by
**deferring the tick**: the tick is not emitted when it happens but when the held stepping task is woken (or at the end of
the history); the wake-ups of the hold are emitted at once, i.e. before it.  While a tick is deferred the two runs are related
by `Pend`: the reference configuration `d` is the one *before* the deferred tick, and the run with pauses is related (`Mid`)
to `firstStep d`, the configuration of the reference run after the first step of that tick.  A wake-up `W` keeps `Pend`
because it commutes with that first step on the reference side — `firstStep (W d) = W (firstStep d)` — the first step being a
transition into RUNNING (or nothing at all, before the process started), which neither reads nor writes what `W` touches.
-/
namespace PMF

/-- the configuration after the first `Process.step` of the tick that finds the stepping task at `c.pc` (not suspended on a
pause future) -/
def firstStep (c : Cfg) : Cfg :=
  match c.pc with
  | .inUser b => finishUser c b.out
  | .awaitWaiting wf =>
      match c.st, c.wfs[wf]? with
      | .waiting fn _ _ _, some w => wake c fn wf w
      | _, _ => c
  | _ => c

/-- the first step of the next tick is a transition into RUNNING, or the stepping task has not started: the user code
suspended at its last `await` returns a continuation, or the wait of the stepping task has a result -/
def okFirst (c : Cfg) : Bool :=
  match c.pc with
  | .notStarted => true
  | .inUser b => b.awaits == 0 && (match b.out with | .ret (.cont _ _ _) => true | _ => false)
  | .awaitWaiting wf =>
      match c.st, c.wfs[wf]? with
      | .waiting _ wf' _ _, some (.result _) => wf' == wf
      | _, _ => false
  | _ => false

theorem okFirst_entry (c : Cfg) (h : okFirst c = true) : tickEntry c = some (firstStep c) := by
  unfold okFirst at h
  unfold tickEntry firstStep
  split at h
  · rename_i hpc; rw [hpc]
  · rename_i b hpc
    simp only [Bool.and_eq_true, beq_iff_eq] at h
    rw [hpc]; exact if_pos h.1
  · rename_i wf hpc
    rw [hpc]
    split at h
    · rename_i fn wf' wk aw v hst hw
      dsimp only
      rw [hst, hw]
    · cases h
  · cases h

theorem tick_first (P : Prog) (c : Cfg) (h : okFirst c = true) :
    tickStepper P c = loopHead P fuel0 (firstStep c) ∧ tickDone P c = loopDone P fuel0 (firstStep c) :=
  ⟨(tick_entry P c _ (okFirst_entry c h)).1 fuel0, (tick_entry P c _ (okFirst_entry c h)).2⟩

/-- what `transition_to(RUNNING)` followed by the `finally` of `Process.step` does to a configuration without pending
interrupt action: closed form -/
def toRunning (d : Cfg) (s : SObj) : Cfg :=
  { exitState d with st := s, entered := .running :: d.entered, notif := .running :: d.notif, stepping := false,
                     interrupt := none }

theorem endOfStep_toRunning (d : Cfg) (fn : Nat) (args : List Val) (kw : List (Nat × Val))
    (hi : d.interrupt = none) (hl : terminal d.st.label = false) (hc : d.closed = false) :
    endOfStep d (.next (some (.running fn args kw))) = toRunning d (.running fn args kw) := by
  have hal : SObj.label (.running fn args kw) ∈ allowed d.st.label := by
    show Label.running ∈ allowed d.st.label
    generalize d.st.label = l at hl
    cases l <;> simp [terminal, allowed] at hl ⊢
  have o := exitState_off d
  rw [endOfStep_plain d _ hl (fun e he => by cases he) (.of_none hi)]
  dsimp only
  rw [transitionTo_entered d _ _ hal hc (enteringHooks_live _ _ rfl)]
  unfold enterNext enterState setState enteredHooks enteredNotif finally_ setInterrupt toRunning
  simp [SObj.label, terminal, allowed, o.interrupt, hi, o.entered, o.notif]

/-- the state the first step of the next tick enters (when `okFirst`): RUNNING, with the continuation returned by the user
code or the value the wait was resumed with -/
def firstTarget (c : Cfg) : Option SObj :=
  match c.pc with
  | .inUser b => (match b.out with | .ret (.cont fn a k) => some (.running fn a k) | _ => none)
  | .awaitWaiting wf =>
      match c.st, c.wfs[wf]? with
      | .waiting fn _ _ _, some (.result v) => some (.running fn (match v with | some x => [x] | none => []) [])
      | _, _ => none
  | _ => none

theorem firstStep_eq (d : Cfg) (hok : okFirst d = true) (hi : d.interrupt = none) (hl : terminal d.st.label = false)
    (hc : d.closed = false) :
    firstStep d = match firstTarget d with | some s => toRunning d s | none => d := by
  unfold okFirst at hok
  split at hok
  · rename_i hpc
    unfold firstStep firstTarget; rw [hpc]
  · rename_i b hpc
    simp only [Bool.and_eq_true, beq_iff_eq] at hok
    unfold firstStep firstTarget; rw [hpc]; dsimp only
    split at hok
    · rename_i fn a k hout
      rw [hout]; dsimp only
      exact endOfStep_toRunning d fn a k hi hl hc
    · cases hok.2
  · rename_i wf hpc
    unfold firstStep firstTarget; rw [hpc]; dsimp only
    split at hok
    · rename_i fn wf' wk aw v hst hw
      rw [hst, hw]; dsimp only
      exact endOfStep_toRunning d fn _ [] hi hl hc
    · cases hok
  · cases hok

/-- the passive part of a configuration that the wake-up requests of the fourth class touch: the awaited external futures and
the scheduled callbacks -/
def upd (c : Cfg) (E : List EFut) (R : List Cb) : Cfg := { c with efs := E, ready := R }

theorem upd_self (c : Cfg) : upd c c.efs c.ready = c := by cases c; rfl

theorem exitState_upd (d : Cfg) (E : List EFut) (R : List Cb) : exitState (upd d E R) = upd (exitState d) E R := by
  unfold exitState upd
  dsimp only
  split
  · split <;> rfl
  · rfl

theorem toRunning_upd (d : Cfg) (s : SObj) (E : List EFut) (R : List Cb) : toRunning (upd d E R) s = upd (toRunning d s) E R := by
  unfold toRunning
  rw [exitState_upd]
  rfl

theorem firstStep_upd (d : Cfg) (E : List EFut) (R : List Cb) (hok : okFirst d = true) (hi : d.interrupt = none)
    (hl : terminal d.st.label = false) (hc : d.closed = false) : firstStep (upd d E R) = upd (firstStep d) E R := by
  rw [firstStep_eq (upd d E R) hok hi hl hc, firstStep_eq d hok hi hl hc]
  show (match firstTarget d with | some s => toRunning (upd d E R) s | none => upd d E R) = _
  split
  · exact toRunning_upd ..
  · rfl

theorem toRunning_fields (d : Cfg) (s : SObj) : (toRunning d s).efs = d.efs ∧ (toRunning d s).ready = d.ready ∧
    (∀ f, f ∈ (toRunning d s).efCb → f ∈ d.efCb) ∧ (toRunning d s).st = s := by
  refine ⟨(exitState_off d).efs, (exitState_off d).ready, fun f hf => ?_, rfl⟩
  have hf' : f ∈ (exitState d).efCb := hf
  unfold exitState at hf'
  split at hf'
  · have := (List.mem_filter.mp hf').1
    split at this <;> exact this
  · exact hf'

theorem firstStep_fields (d : Cfg) (hok : okFirst d = true) (hi : d.interrupt = none) (hl : terminal d.st.label = false)
    (hc : d.closed = false) : (firstStep d).efs = d.efs ∧ (firstStep d).ready = d.ready ∧
    (∀ f, f ∈ (firstStep d).efCb → f ∈ d.efCb) := by
  rw [firstStep_eq d hok hi hl hc]
  split
  · exact ⟨(toRunning_fields d _).1, (toRunning_fields d _).2.1, (toRunning_fields d _).2.2.1⟩
  · exact ⟨rfl, rfl, fun _ h => h⟩

/-- wake-up requests admitted while the process is held at a step boundary in CREATED or RUNNING and a tick is deferred; `L`
lists the external futures that carried a done-callback when the deferred tick started (the futures the program was waiting
on): `resume` (the process is not WAITING: the request is refused on both sides), `call_soon`, the run of a non-raising
scheduled callback, and the completion of a future that is not in `L` -/
def pendOk (L : List Nat) : Ev → Bool
  | .resume _ => true
  | .callSoon _ => true
  | .tickCb (.usercb false) => true
  | .complete f _ => !L.contains f
  | _ => false

def newE (E : List EFut) : Ev → List EFut
  | .complete f o => if E[f]? = some .pending then setAt E f o else E
  | _ => E

def newR (R : List Cb) : Ev → List Cb
  | .callSoon r => R ++ [.usercb r]
  | .tickCb (.usercb false) => R.erase (.usercb false)
  | _ => R

/-- `resume` changes nothing: the state is not WAITING, or its wait already has a result -/
def ResumeNoop (x : Cfg) : Prop :=
  NotWaiting x.st ∨ ∃ fn wf wk aw v, x.st = .waiting fn wf wk aw ∧ x.wfs[wf]? = some (.result v)

theorem resume_noop (x : Cfg) (v : Option Val) (h : ResumeNoop x) : (resume x v).1 = x := by
  rw [resume_eq_deliver]
  rcases h with h | ⟨fn, wf, wk, aw, w, hst, hw⟩
  · exact deliver_notWaiting x _ h
  · unfold deliver; rw [hst]; dsimp only
    rw [hw]

theorem wake_upd (P : Prog) (x : Cfg) (L : List Nat) (e : Ev) (hok : pendOk L e = true) (hL : ∀ f, f ∈ x.efCb → f ∈ L)
    (hr : ResumeNoop x) : (step P x e).1 = upd x (newE x.efs e) (newR x.ready e) := by
  cases e with
  | resume v =>
    show (resume x v).1 = upd x x.efs x.ready
    rw [resume_noop x v hr, upd_self]
  | callSoon r => rfl
  | complete f o =>
    have hnf : x.efCb.contains f = false := by
      cases hc : x.efCb.contains f with
      | false => rfl
      | true =>
        have h1 : f ∈ L := hL f (List.contains_iff_mem.mp hc)
        simp [pendOk] at hok
        exact absurd h1 hok
    show complete x f o = upd x (if x.efs[f]? = some .pending then setAt x.efs f o else x.efs) x.ready
    unfold complete
    split
    · rename_i hp
      dsimp only
      rw [hnf, if_pos hp]
      simp [upd]
    · rename_i hp
      have hp' : ¬ x.efs[f]? = some .pending := fun h => hp h
      rw [if_neg hp', upd_self]
  | tickCb cb =>
    cases cb with
    | usercb r =>
      cases r with
      | false =>
        show tickCb x (.usercb false) = upd x x.efs (x.ready.erase (.usercb false))
        by_cases hin : Cb.usercb false ∈ x.ready
        · rw [tickCb_of_mem x _ hin]; rfl
        · rw [tickCb_noop x _ hin, List.erase_of_not_mem hin, upd_self]
      | true => cases hok
    | _ => cases hok
  | _ => cases hok

theorem pendOk_isWake (L : List Nat) (e : Ev) (h : pendOk L e = true) : isWake e = true := by
  cases e with
  | tickCb cb =>
    cases cb with
    | usercb r => cases r <;> first | rfl | cases h
    | _ => cases h
  | _ => first | rfl | cases h

def isCR : SObj → Bool
  | .created _ => true
  | .running _ _ _ => true
  | _ => false

theorem isCR_notWaiting {s : SObj} (h : isCR s = true) : NotWaiting s := by
  intro fn wf wk aw hs; rw [hs] at h; cases h

theorem isCR_live {s : SObj} (h : isCR s = true) : terminal s.label = false := by
  cases s <;> first | rfl | cases h

theorem SRel.eq_of_notWaiting {cw dw : List WF} {s s' : SObj} (h : SRel cw dw s s') (hn : NotWaiting s) : s' = s := by
  rcases h with ⟨h, _⟩ | ⟨fn, wf, aw, wf', w, h1, _⟩
  · exact h.symm
  · exact absurd h1 (hn _ _ _ _)

/-- the run with pauses `c` is held at a step boundary in CREATED or RUNNING; the reference run `d` has **not yet** received the
tick in which `c` got there: `c` corresponds (`Mid`) to `firstStep d`, the configuration of the reference run after the first
step of that tick.  `L` contains the futures that carry a done-callback in `d`. -/
structure Pend (L : List Nat) (c d : Cfg) : Prop where
  held : isAwaitPaused c.pc = true
  cr : isCR c.st = true
  ok : okFirst d = true
  mid : Mid c (firstStep d)
  dint : d.interrupt = none
  dlive : terminal d.st.label = false
  dclosed : d.closed = false
  blk : ∀ f, f ∈ d.efCb → f ∈ L
  rn : ResumeNoop d

theorem mid_upd {c d0 : Cfg} (h : Mid c d0) (E : List EFut) (R : List Cb) : Mid (upd c E R) (upd d0 E R) :=
  ⟨⟨congrArg (fun r : ShRec => { r with efs := E, ready := R }) h.core.sh, h.core.st, h.core.ckill, h.core.dint, h.core.dpaused⟩,
    h.int, h.stepping, h.ncc, h.ncd⟩

theorem pend_wake (P : Prog) (L : List Nat) (c d : Cfg) (e : Ev) (h : Pend L c d) (hok : pendOk L e = true) :
    Pend L (step P c e).1 (step P d e).1 := by
  obtain ⟨f1, f2, f3⟩ := firstStep_fields d h.ok h.dint h.dlive h.dclosed
  have g6 : c.efs = (firstStep d).efs := congrArg ShRec.efs h.mid.core.sh
  have g7 : c.efCb = (firstStep d).efCb := congrArg ShRec.efCb h.mid.core.sh
  have g10 : c.ready = (firstStep d).ready := congrArg ShRec.ready h.mid.core.sh
  have hcn : NotWaiting c.st := isCR_notWaiting h.cr
  have hd0 : (firstStep d).st = c.st := h.mid.core.st.eq_of_notWaiting hcn
  have e1 : (step P d e).1 = upd d (newE d.efs e) (newR d.ready e) := wake_upd P d L e hok h.blk h.rn
  have e2 : (step P c e).1 = upd c (newE d.efs e) (newR d.ready e) := by
    rw [wake_upd P c L e hok (fun f hf => h.blk f (f3 f (by rw [← g7]; exact hf))) (Or.inl hcn), g6, g10, f1, f2]
  rw [e1, e2]
  refine ⟨h.held, h.cr, h.ok, ?_, h.dint, h.dlive, h.dclosed, h.blk, h.rn⟩
  rw [firstStep_upd d _ _ h.ok h.dint h.dlive h.dclosed]
  exact mid_upd h.mid _ _

theorem Pend.frame {L : List Nat} {c c' d : Cfg} (h : Pend L c d) (f : PFrame c c') (hi : c'.interrupt = none) : Pend L c' d :=
  ⟨by rw [f.2.2.2]; exact h.held, by rw [f.2.1]; exact h.cr, h.ok, h.mid.frame f hi, h.dint, h.dlive, h.dclosed, h.blk, h.rn⟩

theorem pause_pend (L : List Nat) (c d : Cfg) (h : Pend L c d) : Pend L (pause c).1 d :=
  h.frame (pause_idle c h.mid.stepping).1 ((pause_idle c h.mid.stepping).2.trans h.mid.int)

theorem play_pend (L : List Nat) (c d : Cfg) (h : Pend L c d) : Pend L (play c).1 d :=
  h.frame (play_shape c).1 ((play_off c).interrupt.trans h.mid.int)

theorem tick_pend_idle (P : Prog) (L : List Nat) (c d : Cfg) (h : Pend L c d) (hr : runsBody c = false) :
    Pend L (tickStepper P c) d :=
  tickStepper_held_elim (Q := (Pend L · d)) P c h.held hr h fun pf' =>
    ⟨rfl, h.cr, h.ok, h.mid.setPc pf', h.dint, h.dlive, h.dclosed, h.blk, h.rn⟩

theorem pend_flush (P : Prog) (L : List Nat) (c d : Cfg) (h : Pend L c d) (hD : tickDone P d = true) :
    Lag P c (tickStepper P d) := by
  obtain ⟨t1, t2⟩ := tick_first P d h.ok
  rw [t2] at hD
  exact ⟨h.held, firstStep d, fuel0, Nat.le_refl _, hD, t1, h.mid⟩

theorem firstStep_inv (c : Cfg) (h : Inv c) : Inv (firstStep c) := by
  unfold firstStep
  split
  · exact inv_closed.finishUser _ _ h
  · split
    · exact inv_closed.wake _ _ _ _ h
    · exact h
  · exact h

theorem firstStep_mid (c d : Cfg) (h : InStep c d) (hok : okFirst c = true) :
    Mid (firstStep c) (firstStep d) ∧ okFirst d = true ∧
      (isCR (firstStep c).st = true → ResumeNoop d ∧ terminal c.st.label = false) := by
  have hd : okFirst d = true ∧ (isCR (firstStep c).st = true → ResumeNoop d ∧ terminal c.st.label = false) := by
    have hpcr := h.pc
    unfold okFirst at hok
    split at hok
    · rename_i hpc
      rw [hpc] at hpcr
      have hpd : d.pc = .notStarted := hpcr
      refine ⟨by unfold okFirst; rw [hpd], fun hcr => ?_⟩
      rw [show firstStep c = c by unfold firstStep; rw [hpc]] at hcr
      have hnw := isCR_notWaiting hcr
      exact ⟨Or.inl (h.core.st.eq_of_notWaiting hnw ▸ hnw), isCR_live hcr⟩
    · rename_i b hpc
      rw [hpc] at hpcr
      obtain ⟨hpd, fn, args, kw, hst⟩ := hpcr
      have hnw : NotWaiting c.st := hst ▸ running_notWaiting fn args kw
      exact ⟨by unfold okFirst; rw [hpd]; exact hok,
        fun _ => ⟨Or.inl (h.core.st.eq_of_notWaiting hnw ▸ hnw), by rw [hst]; rfl⟩⟩
    · rename_i wf hpc
      obtain ⟨fn, aw, wf', w, hst, hst', hpd, hw, hw', hni⟩ := h.at_wait hpc
      rw [hst, hw] at hok
      cases w with
      | result v =>
        exact ⟨by unfold okFirst; rw [hpd]; dsimp only; rw [hst', hw']; simp,
          fun _ => ⟨Or.inr ⟨fn, wf', none, aw, v, hst', hw'⟩, by rw [hst]; rfl⟩⟩
      | _ => cases hok
    · cases hok
  refine ⟨?_, hd⟩
  -- both ticks enter the loop, with `firstStep`
  rcases tickEntry_inStep (fun _ _ _ _ => default) c d h with ⟨h1, _⟩ | ⟨c0, d0, h1, h2, h3⟩
  · rw [okFirst_entry c hok] at h1; cases h1
  · rw [okFirst_entry c hok] at h1; rw [okFirst_entry d hd.1] at h2
    cases h1; cases h2; exact h3

/-- **entering `Pend`**: the run with pauses and the reference run are in step, and the first step of the next tick ends, in
the run with pauses, with the pause taking effect at a step boundary in CREATED or RUNNING.  The run with pauses performs
the tick; the reference run does not (yet). -/
theorem pend_intro (P : Prog) (c d : Cfg) (h : InStep c d) (hI : Inv c) (hok : okFirst c = true)
    (hh : heldB (firstStep c) = true) (hcr : isCR (firstStep c).st = true) : Pend c.efCb (tickStepper P c) d := by
  obtain ⟨hm, hokd, hrest⟩ := firstStep_mid c d h hok
  obtain ⟨hrn, hlive⟩ := hrest hcr
  obtain ⟨pf, hp, hf⟩ := (heldB_iff _).mp hh
  have hl1 := isCR_live hcr
  have hc1 : (firstStep c).closed = false := not_closed_of_live (firstStep_inv c hI) hl1
  have ht : tickStepper P c = { firstStep c with pc := .awaitPaused pf } := by
    rw [(tick_first P c hok).1]
    exact loopHead_blocked P 999 (firstStep c) pf hm.ncc hl1 hc1 hp hf
  rw [ht]
  exact ⟨rfl, hcr, hokd, hm.setPc pf, h.core.dint, h.core.label ▸ hlive,
    (congrArg ShRec.closed h.core.sh).symm.trans (not_closed_of_live hI hlive),
    fun f hf => (show c.efCb = d.efCb from congrArg ShRec.efCb h.core.sh) ▸ hf, hrn⟩

end PMF
