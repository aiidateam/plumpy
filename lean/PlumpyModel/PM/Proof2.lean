import PlumpyModel.PM.Closed
import PlumpyModel.PM.Steps
/-!
# C01, second half: terminal states are final

From a terminal configuration `c₀` on, `Fix c₀` (same state object, same entered log) is closed under every leaf update
of the model: a transition needs a live process, and the updates that write the state object act on a WAITING state only.
-/
namespace PMF

/-- the part of a configuration that C01's "terminal states are final" talks about -/
def Fix (c c' : Cfg) : Prop := c'.st = c.st ∧ c'.entered = c.entered
theorem Fix.rfl' (c : Cfg) : Fix c c := ⟨rfl, rfl⟩
theorem Fix.trans {a b c : Cfg} (h1 : Fix a b) (h2 : Fix b c) : Fix a c := ⟨h2.1.trans h1.1, h2.2.trans h1.2⟩

theorem Fix.of_off {W : List Fld} {c c' : Cfg} (o : Off W c c')
    (hW : ∀ f ∈ [Fld.st, .entered], f ∉ W := by decide) : Fix c c' :=
  ⟨o.st (hW _ (by decide)), o.entered (hW _ (by decide))⟩

theorem Fix.terminal {c c' : Cfg} (h : Fix c c') (ht : terminal c.st.label = true) : terminal c'.st.label = true := by
  rw [h.1]; exact ht

theorem hand_fix (c : Cfg) (i) : Fix c (hand c i) := .of_off (hand_off c i)

theorem deliver_fix (c : Cfg) (o) (ht : terminal c.st.label = true) : Fix c (deliver c o) :=
  deliver_elim c o (Fix.rfl' c) (fun _ _ _ _ hst _ => absurd hst ((not_live_of_terminal ht).2.2 _ _ _ _))
    fun _ _ _ _ hst _ => absurd hst ((not_live_of_terminal ht).2.2 _ _ _ _)

/-- a late done-callback of an awaitable still writes the context, nothing else -/
theorem awaitableDone_fix (c : Cfg) (f) (ht : terminal c.st.label = true) : Fix c (awaitableDone c f) :=
  awaitableDone_elim c f (Fix.rfl' c) (fun _ _ _ h => h.trans ⟨rfl, rfl⟩)
    (fun _ _ _ _ _ hst _ => absurd hst ((not_live_of_terminal ht).2.2 _ _ _ _)) fun d o _ h => h.trans (deliver_fix d o (h.terminal ht))

theorem fix_closed {c₀ : Cfg} (ht : terminal c₀.st.label = true) : StepClosed (Fix c₀) where
  ctl o h := h.trans (.of_off o)
  trans c _ hl h := by rw [h.terminal ht] at hl; cases hl
  paused c h := h.trans (.of_off (doPauseHooks_off c))
  played c h := h.trans (.of_off (play_off c))
  interrupted c k h := h.trans (.of_off (interruptState_off c k))
  activate _ _ _ _ _ _ h := h.trans ⟨rfl, rfl⟩
  alloc c cmd h := h.trans (.of_off (cmdToState_off c cmd))
  rearmG _ _ _ _ _ hst h := absurd hst ((not_live_of_terminal (h.terminal ht)).2.2 _ _ _ _)
  deliver c o h := h.trans (deliver_fix c o (h.terminal ht))
  adone c f h := h.trans (awaitableDone_fix c f (h.terminal ht))
  complete c f o h := h.trans (.of_off (complete_off c f o))
  cancelFut c h := h.trans (.of_off (cancelFut_off c))
  unsched _ _ _ h := h.trans ⟨rfl, rfl⟩
  sched _ _ h := h.trans ⟨rfl, rfl⟩

theorem resume_fix (c : Cfg) (v) (ht : terminal c.st.label = true) : Fix c (resume c v).1 :=
  (fix_closed ht).resume c v (Fix.rfl' c)


theorem C01_terminal_final (P : Prog) (c : Cfg) (evs : List Ev) (ht : terminal c.st.label = true) :
    (run P c evs).st = c.st ∧ (run P c evs).entered = c.entered := (fix_closed ht).run P c evs (Fix.rfl' c)

-- non-vacuity: a concrete history reaches a terminal state, and the statement applies to it
def sync2 : Prog := fun fn _ _ _ => if fn = 0 then ⟨0, .ret (.cont 1 [1] [(0, 2)])⟩ else ⟨0, .ret (.stop (some 3) true)⟩
example : terminal (run sync2 (init 0) [.tick]).st.label = true := by decide +kernel

end PMF
