import PlumpyModel.PM.Writes
/-!
# What the stepping functions do, case by case

Equations: `stepBodyK` by the kind of state it finds, `loopHead` and `tickStepper` by the branch they take, what a transition
installs and leaves alone, the closing part of a step that no request disturbs, a delivery, a scheduled callback, the action table
under the updates of the request bookkeeping, `run` on a concatenation.  Proofs that follow one branch of the stepping task rewrite
with these.
-/
namespace PMF

theorem ne_killed_of_live {l : Label} (h : terminal l = false) : l ≠ .killed := fun e => by rw [e] at h; cases h

theorem not_live_of_terminal {c : Cfg} (ht : terminal c.st.label = true) :
    (∀ fn, c.st ≠ .created fn) ∧ (∀ fn a k, c.st ≠ .running fn a k) ∧ (∀ fn wf wk aw, c.st ≠ .waiting fn wf wk aw) := by
  refine ⟨?_, ?_, ?_⟩ <;> intros <;> intro h <;> rw [h] at ht <;> simp [SObj.label, terminal, allowed] at ht

theorem L.rearm_fix (c : Cfg) (wf : Nat) (ht : terminal c.st.label = true) : rearm c wf = c :=
  rearm_elim (Q := (· = c)) c wf rfl fun _ _ _ hs => absurd hs ((not_live_of_terminal ht).2.2 _ _ _ _)

theorem stepBodyK_created (P : Prog) (k : Cfg → Cfg) (c : Cfg) (fn : Nat) (h : c.st = .created fn) :
    stepBodyK P k c = k (endOfStep { c with stepping := true } (.next (some (.running fn [] [])))) := by
  unfold stepBodyK; dsimp only; rw [h]

theorem stepBodyK_running (P : Prog) (k : Cfg → Cfg) (c : Cfg) (fn : Nat) (args : List Val) (kw : List (Nat × Val))
    (h : c.st = .running fn args kw) :
    stepBodyK P k c =
      if (P fn args kw c.ctx).awaits = 0 then
        k (finishUser { c with stepping := true,
                               trace := { fn := fn, args := args, kw := kw, paused := c.paused.isSome } :: c.trace }
             (P fn args kw c.ctx).out)
      else { c with stepping := true,
                    trace := { fn := fn, args := args, kw := kw, paused := c.paused.isSome } :: c.trace,
                    pc := .inUser { P fn args kw c.ctx with awaits := (P fn args kw c.ctx).awaits - 1 } } := by
  unfold stepBodyK; dsimp only; rw [h]

theorem stepBodyK_waiting (P : Prog) (k : Cfg → Cfg) (c : Cfg) (fn wf : Nat) (wk : Option WF) (aw : List (Nat × Nat))
    (h : c.st = .waiting fn wf wk aw) :
    stepBodyK P k c =
      match c.wfs[wf]? with
      | some .pending => { c with stepping := true, pc := .awaitWaiting wf }
      | some w => k (wake { c with stepping := true } fn wf w)
      | none => { c with stepping := true } := by
  unfold stepBodyK; dsimp only; rw [h]; dsimp only
  cases c.wfs[wf]? with
  | none => rfl
  | some w => cases w <;> rfl

theorem stepBodyK_waiting_pending (P : Prog) (k : Cfg → Cfg) (c : Cfg) (fn wf : Nat) (wk aw)
    (h : c.st = .waiting fn wf wk aw) (hw : c.wfs[wf]? = some .pending) :
    stepBodyK P k c = { c with stepping := true, pc := .awaitWaiting wf } := by
  rw [stepBodyK_waiting P k c fn wf wk aw h, hw]

theorem stepBodyK_waiting_done (P : Prog) (k : Cfg → Cfg) (c : Cfg) (fn wf : Nat) (wk aw) (w : WF)
    (h : c.st = .waiting fn wf wk aw) (hw : c.wfs[wf]? = some w) (hp : w ≠ .pending) :
    stepBodyK P k c = k (wake { c with stepping := true } fn wf w) := by
  rw [stepBodyK_waiting P k c fn wf wk aw h, hw]
  cases w <;> first | rfl | exact absurd rfl hp

/-- a step started on a terminated process (woken from the pause wait) only runs the end of a step -/
theorem stepBodyK_terminal (P : Prog) (k : Cfg → Cfg) (c : Cfg) (ht : terminal c.st.label = true) :
    stepBodyK P k c = k (endOfStep { c with stepping := true } (.next none)) := by
  cases hst : c.st with
  | created _ | running _ _ _ | waiting _ _ _ _ => rw [hst] at ht; cases ht
  | finished _ _ | excepted _ | killed => unfold stepBodyK; dsimp only; rw [hst]

/-- `Waiting.execute` resumed by an interruption: the wait is re-armed on a fresh future that holds the parked wake-up (the
state object names the continuation; the argument `fn'` is not looked at), and the step ends -/
theorem wake_interrupted (c : Cfg) (fn' : Nat) {f : Nat} (wf : Nat) {wk : Option WF} {aw : List (Nat × Nat)} (k : Nat)
    (nw : WF) (hst : c.st = .waiting f wf wk aw) (hnw : wk.getD .pending = nw) :
    wake c fn' wf (.interrupted k) =
      endOfStep { c with st := .waiting f c.wfs.length none aw, wfs := c.wfs ++ [nw] } (.interruption k) := by
  subst hnw
  unfold wake
  simp only [hst, if_true]
  cases wk <;> rfl

theorem loopHead_crashed (P : Prog) (n : Nat) (c : Cfg) (e : Exc) (h : c.pc = .crashed e) : loopHead P (n + 1) c = c := by
  unfold loopHead; rw [h]

theorem loopHead_eq (P : Prog) (n : Nat) (c : Cfg) (h : ∀ e, c.pc ≠ .crashed e) :
    loopHead P (n + 1) c =
      if terminal c.st.label then { c with pc := .done } else
      if c.closed then { c with pc := .crashed .closedErr } else
      match c.paused with
      | some pf => if c.pfs[pf]? = some false then { c with pc := .awaitPaused pf } else stepBodyK P (loopHead P n) c
      | none => stepBodyK P (loopHead P n) c := by
  conv => lhs; unfold loopHead
  split
  · rename_i e he; exact absurd he (h e)
  · rfl

theorem loopHead_term (P : Prog) (n : Nat) (c : Cfg) (hn : ∀ e, c.pc ≠ .crashed e) (ht : terminal c.st.label = true) :
    loopHead P (n + 1) c = { c with pc := .done } := by
  rw [loopHead_eq P n c hn, if_pos ht]

theorem loopHead_closed (P : Prog) (n : Nat) (c : Cfg) (hn : ∀ e, c.pc ≠ .crashed e) (ht : terminal c.st.label = false)
    (hc : c.closed = true) : loopHead P (n + 1) c = { c with pc := .crashed .closedErr } := by
  rw [loopHead_eq P n c hn, if_neg (by rw [ht]; exact Bool.false_ne_true), if_pos hc]

theorem loopHead_blocked (P : Prog) (n : Nat) (c : Cfg) (pf : Nat) (hn : ∀ e, c.pc ≠ .crashed e)
    (ht : terminal c.st.label = false) (hc : c.closed = false) (hp : c.paused = some pf) (hf : c.pfs[pf]? = some false) :
    loopHead P (n + 1) c = { c with pc := .awaitPaused pf } := by
  rw [loopHead_eq P n c hn, if_neg (by rw [ht]; exact Bool.false_ne_true), if_neg (by rw [hc]; exact Bool.false_ne_true), hp]
  exact if_pos hf

theorem loopHead_unheld (P : Prog) (n : Nat) (c : Cfg) (hn : ∀ e, c.pc ≠ .crashed e) (ht : terminal c.st.label = false)
    (hc : c.closed = false) (hh : Unheld c) :
    loopHead P (n + 1) c = stepBodyK P (loopHead P n) c := by
  rw [loopHead_eq P n c hn, if_neg (by rw [ht]; exact Bool.false_ne_true), if_neg (by rw [hc]; exact Bool.false_ne_true)]
  cases hp : c.paused with
  | none => rfl
  | some pf => exact if_neg (hh pf hp)

theorem loopHead_step (P : Prog) (n : Nat) (c : Cfg) (hn : ∀ e, c.pc ≠ .crashed e) (ht : terminal c.st.label = false)
    (hc : c.closed = false) (hp : c.paused = none) : loopHead P (n + 1) c = stepBodyK P (loopHead P n) c :=
  loopHead_unheld P n c hn ht hc fun pf h => by rw [hp] at h; cases h

theorem fuel0_succ : fuel0 = 999 + 1 := rfl

theorem tickStepper_notStarted (P : Prog) (c : Cfg) (h : c.pc = .notStarted) : tickStepper P c = loopHead P fuel0 c := by
  unfold tickStepper; rw [h]
theorem tickStepper_inUser (P : Prog) (c : Cfg) (b : Body) (h : c.pc = .inUser b) :
    tickStepper P c = if b.awaits = 0 then loopHead P fuel0 (finishUser c b.out)
      else { c with pc := .inUser { b with awaits := b.awaits - 1 } } := by
  unfold tickStepper; rw [h]
theorem tickStepper_wait_pending (P : Prog) (c : Cfg) (wf : Nat) (h : c.pc = .awaitWaiting wf)
    (hw : c.wfs[wf]? = some .pending) : tickStepper P c = c := by
  unfold tickStepper; rw [h]; dsimp only; rw [hw]
theorem tickStepper_wait_done (P : Prog) (c : Cfg) (fn wf : Nat) (wk aw) (w : WF) (h : c.pc = .awaitWaiting wf)
    (hst : c.st = .waiting fn wf wk aw) (hw : c.wfs[wf]? = some w) (hp : w ≠ .pending) :
    tickStepper P c = loopHead P fuel0 (wake c fn wf w) := by
  unfold tickStepper; rw [h]; dsimp only; rw [hw, hst]
  cases w <;> first | rfl | exact absurd rfl hp
theorem tickStepper_done (P : Prog) (c : Cfg) (h : c.pc = .done) : tickStepper P c = c := by
  unfold tickStepper; rw [h]
theorem tickStepper_crashed (P : Prog) (c : Cfg) (e : Exc) (h : c.pc = .crashed e) : tickStepper P c = c := by
  unfold tickStepper; rw [h]

theorem tickStepper_released (P : Prog) (c : Cfg) (pf : Nat) (hpc : c.pc = .awaitPaused pf) (hpf : c.pfs[pf]? = some true)
    (hpa : c.paused = none) : tickStepper P c = stepBodyK P (loopHead P fuel0) c := by
  unfold tickStepper; rw [hpc]; simp only [hpf, if_true, hpa]; rfl

theorem loopHead_wakes (P : Prog) (m : Nat) (c : Cfg) (fn wf : Nat) (wk : Option WF) (aw : List (Nat × Nat)) (o : WF)
    (hst : c.st = .waiting fn wf wk aw) (hw : c.wfs[wf]? = some o) (ho : o ≠ .pending)
    (hncr : ∀ e, c.pc ≠ .crashed e) (hcl : c.closed = false) (hpa : c.paused = none) :
    loopHead P (m + 1) c = loopHead P m (wake { c with stepping := true } fn wf o) := by
  rw [loopHead_step P m c hncr (by rw [hst]; rfl) hcl hpa, stepBodyK_waiting_done P _ c fn wf wk aw o hst hw ho]

theorem forceExcepted_st (c : Cfg) (e : Exc) : (forceExcepted c e).st = .excepted e := by
  unfold forceExcepted; split
  · rfl
  · exact (onTerminated_off _).st.trans (enteredHooks_off _ _).st

theorem enterNext_st (c : Cfg) (s : SObj) : (enterNext c s).st = s := by
  unfold enterNext; dsimp only
  split
  · exact (onTerminated_off _).st.trans (enteredHooks_off _ s).st
  · exact (enteredHooks_off _ s).st

theorem enterNext_st_wfs (c : Cfg) (s : SObj) : (enterNext c s).st = s ∧ (enterNext c s).wfs = c.wfs :=
  ⟨enterNext_st c s, (enterNext_off c s).wfs⟩

/-- `on_killed` is the only entered-hook that writes `_killing` -/
theorem H6.enteredHooks_killing (c : Cfg) (s : SObj) (hs : s.label ≠ .killed) : (enteredHooks c s).killing = c.killing := by
  rw [enteredHooks_eq]; exact if_neg hs

theorem H6.enterNext_live (c : Cfg) (s : SObj) (hs : terminal s.label = false) :
    (enterNext c s).st = s ∧ (enterNext c s).wfs = c.wfs ∧ (enterNext c s).pfs = c.pfs ∧
    (enterNext c s).closed = c.closed ∧ (enterNext c s).killing = c.killing := by
  have o := (enterState_off c s).trans (setState_off _ s)
  have oh := enteredHooks_off (setState (enterState c s) s) s
  unfold enterNext
  simp only [hs, Bool.false_eq_true, if_false]
  exact ⟨oh.st, oh.wfs.trans o.wfs, oh.pfs.trans o.pfs, oh.closed.trans o.closed,
    (H6.enteredHooks_killing _ s (ne_killed_of_live hs)).trans o.killing⟩

theorem H6.transitionTo_res (c : Cfg) (s : SObj) :
    (∃ e, (transitionTo c s).st = .excepted e) ∨
    ((transitionTo c s).st = s ∧ (transitionTo c s).wfs = (exitState c).wfs ∧
      (terminal s.label = false → (transitionTo c s).pfs = c.pfs ∧ (transitionTo c s).closed = c.closed ∧
        (transitionTo c s).killing = c.killing)) := by
  have hx := exitState_off c
  refine transitionTo_elim c s
    (Q := fun d => (∃ e, d.st = .excepted e) ∨ (d.st = s ∧ d.wfs = (exitState c).wfs ∧
      (terminal s.label = false → d.pfs = c.pfs ∧ d.closed = c.closed ∧ d.killing = c.killing))) ?_ ?_
  · rintro _ d s' (_ | e | e)
    · exact .inr ⟨rfl, rfl, fun _ => ⟨hx.pfs, hx.closed, hx.killing⟩⟩
    all_goals exact .inl ⟨e, rfl⟩
  · rintro _ d s' c2 (_ | e | e) hok
    · have h2 := hx.trans (enteringHooks_off _ hok)
      refine .inr ⟨(enterNext_st_wfs c2 s).1, (enterNext_st_wfs c2 s).2.trans (enteringHooks_off _ hok).wfs, fun ht => ?_⟩
      obtain ⟨_, _, hp, hc, hk⟩ := H6.enterNext_live c2 s ht
      exact ⟨hp.trans h2.pfs, hc.trans h2.closed, hk.trans h2.killing⟩
    all_goals exact .inl ⟨e, enterNext_st _ _⟩

theorem H6.transitionTo_terminal (c : Cfg) (s : SObj) (hs : terminal s.label = true) :
    terminal (transitionTo c s).st.label = true := by
  rcases H6.transitionTo_res c s with ⟨e, he⟩ | ⟨a, _, _⟩
  · rw [he]; rfl
  · rw [a]; exact hs

theorem transitionTo_label (c : Cfg) (s : SObj) :
    (transitionTo c s).st.label = s.label ∨ (transitionTo c s).st.label = .excepted := by
  rcases H6.transitionTo_res c s with ⟨e, he⟩ | ⟨h, _⟩
  · exact .inr (by rw [he]; rfl)
  · exact .inl (by rw [h])

theorem H6.transitionTo_killing (c : Cfg) (s : SObj) (hs : s.label ≠ .killed) : (transitionTo c s).killing = c.killing := by
  refine transitionTo_elim c s (Q := fun d => d.killing = c.killing) (fun _ d s' he => he.off.killing) ?_
  intro _ d s' c2 he hok
  have hs' : s'.label ≠ .killed := by cases he <;> first | exact hs | exact nofun
  refine Eq.trans ?_ (he.off.trans (enteringHooks_off _ hok)).killing
  have o := (enterState_off c2 s').trans (setState_off _ s')
  unfold enterNext; dsimp only
  split
  · exact (onTerminated_off _).killing.trans ((H6.enteredHooks_killing _ s' hs').trans o.killing)
  · exact (H6.enteredHooks_killing _ s' hs').trans o.killing

theorem enteringHooks_live (c : Cfg) (s : SObj) (hs : terminal s.label = false) : enteringHooks c s = .ok c := by
  cases s <;> first | rfl | cases hs

theorem enteringHooks_unresolved (c : Cfg) (s : SObj) (hf : c.fut = .pending ∨ c.fut = .cancelled) :
    ∃ c2, enteringHooks c s = .ok c2 := by
  have hp : (freshFutIfCancelled c).fut = .pending := by
    unfold freshFutIfCancelled futCancelled; rcases hf with h | h <;> simp [h]
  cases s <;> simp only [enteringHooks, hp, if_true] <;> exact ⟨_, rfl⟩

theorem transitionTo_entered (c : Cfg) (s : SObj) (c2 : Cfg) (hal : s.label ∈ allowed c.st.label) (hcl : c.closed = false)
    (hok : enteringHooks (exitState c) s = .ok c2) : transitionTo c s = enterNext c2 s := by
  unfold transitionTo
  rw [if_pos hal]; dsimp only
  rw [if_neg (by rw [hcl]; exact Bool.false_ne_true), hok]

theorem transitionTo_closed (c : Cfg) (s : SObj) (hal : s.label ∈ allowed c.st.label) (hcl : c.closed = true) :
    transitionTo c s = { exitState c with st := s } := by
  unfold transitionTo
  rw [if_pos hal]; dsimp only
  rw [if_pos hcl]

theorem transitionTo_installs (c : Cfg) (s : SObj) (hal : s.label ∈ allowed c.st.label)
    (hok : c.closed = false → ∃ c2, enteringHooks (exitState c) s = .ok c2) : (transitionTo c s).st = s := by
  cases hcl : c.closed with
  | true => rw [transitionTo_closed c s hal hcl]
  | false =>
    obtain ⟨c2, h⟩ := hok hcl
    rw [transitionTo_entered c s c2 hal hcl h]; exact enterNext_st _ _

/-- no runnable interrupt action: none installed, or the installed one was cancelled by `play()` -/
def H6.Plain (c : Cfg) : Prop := ∀ i, c.interrupt = some i → actionStatus c i = .cancelled

theorem H6.Plain.of_none {c : Cfg} (h : c.interrupt = none) : H6.Plain c := fun i hi => by rw [h] at hi; cases hi

theorem prepare_next (c : Cfg) (n : Option SObj) (h : ∀ e, n ≠ some (.excepted e)) : prepare c (.next n) = (c, n) := by
  cases n with
  | none => rfl
  | some s => cases s <;> first | rfl | exact absurd rfl (h _)

theorem dispatch_plain (c : Cfg) (next : Option SObj) (hl : terminal c.st.label = false) (hi : H6.Plain c) :
    dispatch c next = match next with | some s => transitionTo c s | none => c := by
  unfold dispatch
  rw [if_neg (by rw [hl]; exact Bool.false_ne_true)]
  split
  · rename_i i hi'; rw [if_neg (not_not_intro (hi i hi'))]; rfl
  · rfl

theorem endOfStep_plain (c : Cfg) (n : Option SObj) (hl : terminal c.st.label = false) (hne : ∀ e, n ≠ some (.excepted e))
    (hi : H6.Plain c) :
    endOfStep c (.next n) = finally_ (match (generalizing := false) n with | some s => transitionTo c s | none => c) := by
  unfold endOfStep; rw [prepare_next c n hne]; dsimp only; rw [dispatch_plain c n hl hi]

/-- a failed step excepts the process whatever was requested meanwhile: the slot is emptied first (repair K) -/
theorem endOfStep_failed (c : Cfg) (e : Exc) (hl : terminal c.st.label = false) :
    endOfStep c (.next (some (.excepted e))) = finally_ (transitionTo (setInterrupt c none) (.excepted e)) := by
  show finally_ (dispatch (setInterrupt c none) (some (.excepted e))) = _
  rw [dispatch_plain _ _ (by rw [(setInterrupt_off c none).st]; exact hl) (.of_none rfl)]

theorem dispatch_terminal (c : Cfg) (next : Option SObj) (ht : terminal c.st.label = true) : dispatch c next = c := by
  unfold dispatch; rw [if_pos ht]

theorem exitState_notWaiting (c : Cfg) (h : ∀ fn wf wk aw, c.st ≠ .waiting fn wf wk aw) : exitState c = c :=
  exitState_elim (Q := (· = c)) c (fun _ => rfl) (fun _ _ _ _ hst _ => absurd hst (h _ _ _ _)) fun _ _ _ _ hst _ => absurd hst (h _ _ _ _)

theorem deliver_notWaiting (c : Cfg) (o : WF) (h : ∀ fn wf wk aw, c.st ≠ .waiting fn wf wk aw) : deliver c o = c :=
  deliver_elim (Q := (· = c)) c o rfl (fun _ _ _ _ hst _ => absurd hst (h _ _ _ _)) fun _ _ _ _ hst _ => absurd hst (h _ _ _ _)

theorem deliver_store (c : Cfg) (o : WF) {fn wf wk aw} (hst : c.st = .waiting fn wf wk aw) (hp : c.wfs[wf]? = some .pending) :
    deliver c o = { c with wfs := setAt c.wfs wf o } := by
  unfold deliver; simp only [hst, hp]

theorem deliver_park (c : Cfg) (o : WF) {fn wf aw k} (hst : c.st = .waiting fn wf none aw)
    (hk : c.wfs[wf]? = some (.interrupted k)) : deliver c o = { c with st := .waiting fn wf (some o) aw } := by
  unfold deliver; simp only [hst, hk]; rfl

theorem tickCb_of_mem (c : Cfg) (cb : Cb) (h : cb ∈ c.ready) :
    tickCb c cb = match cb with
      | .adone f => awaitableDone { c with ready := c.ready.erase cb } f
      | .trykill => tryKilling { c with ready := c.ready.erase cb }
      | .usercb raises =>
          if raises then (fail { c with ready := c.ready.erase cb } (.user 8)).1 else { c with ready := c.ready.erase cb } := by
  unfold tickCb
  rw [if_pos (List.contains_iff_mem.mpr h)]
  cases cb <;> rfl

theorem tickCb_adone (c : Cfg) (g : Nat) (h : Cb.adone g ∈ c.ready) :
    tickCb c (.adone g) = awaitableDone { c with ready := c.ready.erase (Cb.adone g) } g := tickCb_of_mem c _ h

theorem tickCb_noop (c : Cfg) (cb : Cb) (h : cb ∉ c.ready) : tickCb c cb = c := by
  unfold tickCb
  rw [if_neg (fun hc => h (List.contains_iff_mem.mp hc))]

def actionKind (c : Cfg) (i : Nat) : Option AKind := (c.actions[i]?).map (·.kind)

theorem setAt_getElem?_ne {α} (l : List α) (i j : Nat) (a : α) (h : i ≠ j) : (setAt l i a)[j]? = l[j]? := by
  simp [setAt, h]

/-- only the status of entry `i` changes -/
theorem setActionStatus_get? (c : Cfg) (i j : Nat) (s : AStatus) :
    (setActionStatus c i s).actions[j]? = if j = i then (c.actions[j]?).map ({ · with status := s }) else c.actions[j]? := by
  unfold setActionStatus
  by_cases h : j = i
  · subst h; rw [if_pos rfl]
    cases ha : c.actions[j]? with
    | none => exact ha
    | some a => exact List.getElem?_set_self (List.getElem?_eq_some_iff.mp ha).1
  · rw [if_neg h]; split
    · exact setAt_getElem?_ne _ _ _ _ (Ne.symm h)
    · rfl

theorem setActionStatus_other (c : Cfg) (i j : Nat) (s) (h : i ≠ j) :
    actionStatus (setActionStatus c i s) j = actionStatus c j ∧ actionKind (setActionStatus c i s) j = actionKind c j := by
  unfold actionStatus actionKind
  rw [setActionStatus_get?, if_neg (Ne.symm h)]
  exact ⟨rfl, rfl⟩

theorem setActionStatus_kind (c : Cfg) (i j : Nat) (s) : actionKind (setActionStatus c i s) j = actionKind c j := by
  unfold actionKind
  rw [setActionStatus_get?]
  split
  · cases c.actions[j]? <;> rfl
  · rfl

theorem cancelAction_other (c : Cfg) (i j : Nat) (h : i ≠ j) :
    actionStatus (cancelAction c i) j = actionStatus c j := by
  unfold cancelAction; split
  · exact (setActionStatus_other c i j _ h).1
  · rfl

theorem cancelAction_kind (c : Cfg) (i j : Nat) : actionKind (cancelAction c i) j = actionKind c j := by
  unfold cancelAction; split
  · exact setActionStatus_kind ..
  · rfl

theorem actionStatus_of_actions {c c' : Cfg} (h : c'.actions = c.actions) (i : Nat) : actionStatus c' i = actionStatus c i := by
  unfold actionStatus; rw [h]

theorem actionKind_of_actions {c c' : Cfg} (h : c'.actions = c.actions) (i : Nat) : actionKind c' i = actionKind c i := by
  unfold actionKind; rw [h]

theorem cancelInterrupt_len (c : Cfg) : (cancelInterrupt c).actions.length = c.actions.length := by
  unfold cancelInterrupt cancelAction setActionStatus
  split
  · split
    · split <;> simp [setAt]
    · rfl
  · rfl

theorem setInterruptFromExc_new (c : Cfg) (k : AKind) (n : Nat) :
    (setInterruptFromExc c k n).interrupt = some c.actions.length ∧
    actionKind (setInterruptFromExc c k n) c.actions.length = some k ∧
    actionStatus (setInterruptFromExc c k n) c.actions.length = .pending := by
  have hlen := cancelInterrupt_len c
  have hget : (setInterruptFromExc c k n).actions[c.actions.length]? = some { kind := k, cookie := n, status := .pending } :=
    hlen ▸ List.getElem?_concat_length ..
  refine ⟨congrArg some hlen, ?_, ?_⟩
  · unfold actionKind; rw [hget]; rfl
  · unfold actionStatus; rw [hget]

theorem requestInterrupt_new (c : Cfg) (k : AKind) :
    (requestInterrupt c k).interrupt = some c.actions.length ∧
    actionKind (requestInterrupt c k) c.actions.length = some k ∧
    actionStatus (requestInterrupt c k) c.actions.length = .pending := by
  unfold requestInterrupt
  -- interrupting the current wait touches neither the slot nor the table
  have o := interruptState_off (setInterruptFromExc { c with nextCookie := c.nextCookie + 1 } k c.nextCookie) c.nextCookie
  rw [o.interrupt, actionKind_of_actions o.actions, actionStatus_of_actions o.actions]
  exact setInterruptFromExc_new { c with nextCookie := c.nextCookie + 1 } k c.nextCookie

theorem cancelAction_status (c : Cfg) (i : Nat) :
    actionStatus (cancelAction c i) i = if actionStatus c i = .pending then .cancelled else actionStatus c i := by
  unfold cancelAction
  split
  · rename_i hp
    unfold actionStatus at hp ⊢
    rw [setActionStatus_get?, if_pos rfl]
    cases ha : c.actions[i]? with
    | none => rw [ha] at hp; cases hp
    | some a => rfl
  · rfl

theorem run_append (P : Prog) (c0 : Cfg) (es1 es2 : List Ev) : run P c0 (es1 ++ es2) = run P (run P c0 es1) es2 := by
  simp [run, List.foldl_append]

end PMF
