import PlumpyModel.PM.Task
/-!
# The control calls and the event loop, once for every layer of the model

`pause / kill / fail`, `try_killing`, a scheduled callback and the dispatch of an event are the same text in `PM/Model.lean`,
`PM/Listener.lean` and `Fault/Process.lean`.  The layers differ in what a request made during a step records (`req`), in what the
branches that act at once do (`pauseNow`, `killNow`, `failNow`: a transition or the pause hooks, with or without notifications and
exceptions), in `play`, and in what the event loop does with what a callback returns or raises (`absorb`).  `Task.EvOps X` adds
these to `Task.Ops X`; `Task.pause … Task.step O` are the calls over such an interface, and each layer's functions are these at
its instance by unfolding (`Task.baseE`, `Task.lisE` here, `Task.fltE` in `Fault/ClosedF.lean`; `fail` by `rfl`).

The nested conditionals are split once, in `Task.pause_elim / kill_elim / tickCb_elim`, for a proof that follows the flow of one
call; `Task.CallClosed O I D` / `Task.EventClosed O I D` are the leaves of the calls and of the event loop for a predicate `I`, with
the branches that act at once and `play` as wholes.
-/
namespace PMF
namespace Task

structure EvOps (X : Type) extends Ops X where
  /-- the `_stepping` branch of `pause()` / `kill()`: the `Cfg` component with the request recorded -/
  req : X → AKind → Cfg
  /-- between two steps `pause()` pauses, `kill()` kills and `fail()` excepts on the spot -/
  pauseNow : X → X × RetV
  killNow : X → X × RetV
  failNow : X → Exc → X × RetV
  play : X → X × RetV
  /-- what the event loop does with what a callback returns or raises -/
  absorb : X × RetV → X
  upd_upd : ∀ x f g, upd (upd x f) g = upd x fun c => g (f c)

variable {X : Type} (O : EvOps X)

/-- the request recorded, with its alias -/
def EvOps.reqPause (x : X) : Cfg := { O.req x .pause with pausing := (O.req x .pause).interrupt }
def EvOps.reqKill (x : X) : Cfg := { O.req x .kill with killing := (O.req x .kill).interrupt }

/-- the new action is handed to the requester -/
def defer (x : X) (c : Cfg) : X × RetV :=
  match c.interrupt with
  | some i => (O.upd x fun _ => hand c i, .action i)
  | none => (O.upd x fun _ => c, .none)

def pause (x : X) : X × RetV :=
  let c := O.get x
  if terminal c.st.label then (x, .bool false)
  else if c.paused.isSome then (x, .bool true)
  else match c.pausing with
  | some i => (O.upd x fun c => hand c i, .action i)
  | none =>
    if c.killing.isSome then (x, .bool false)
    else if c.stepping then defer O x (O.reqPause x)
    else O.pauseNow x

def kill (x : X) : X × RetV :=
  let c := O.get x
  if c.st.label = .killed then (x, .bool true)
  else if terminal c.st.label then (x, .bool false)
  else match c.killing with
  | some i => (O.upd x fun c => hand c i, .action i)
  | none =>
    if c.stepping then defer O x (O.reqKill x)
    else O.killNow x

def fail (x : X) (e : Exc) : X × RetV :=
  if terminal (O.get x).st.label then (x, .bool false) else O.failNow x e

/-- the returned action future stays inside `try_killing` -/
def tryKilling (x : X) : X := O.upd (O.absorb (kill O x)) fun c => { c with handed := (O.get x).handed }

def unsched (x : X) (cb : Cb) : X := O.upd x fun c => { c with ready := c.ready.erase cb }

def tickCb (x : X) (cb : Cb) : X :=
  if (O.get x).ready.contains cb then
    match cb with
    | .adone f => O.upd (unsched O x cb) fun c => awaitableDone c f
    | .trykill => tryKilling O (unsched O x cb)
    | .usercb raises => if raises then O.absorb (fail O (unsched O x cb) (.user 8)) else unsched O x cb
  else x

def step (P : Prog) (x : X) : Ev → X × RetV
  | .tick => (tickStepper O.toOps P x, .none)
  | .tickCb cb => (tickCb O x cb, .none)
  | .pause => pause O x
  | .play => O.play x
  | .kill => kill O x
  | .resume v => (O.upd x fun c => (resume c v).1, (resume (O.get x) v).2)
  | .fail e => fail O x e
  | .cancelFut => (O.upd x fun c => (cancelFut c).1, (cancelFut (O.get x)).2)
  | .complete f o => (O.upd x fun c => complete c f o, .none)
  | .callSoon r => (O.upd x fun c => { c with ready := c.ready ++ [.usercb r] }, .none)

theorem defer_elim {Q : X → Prop} (x : X) (c : Cfg) (hh : ∀ y i, Q y → Q (O.upd y fun c => hand c i))
    (h : Q (O.upd x fun _ => c)) : Q (defer O x c).1 := by
  unfold defer
  split
  · rename_i i _
    have := hh _ i h
    rw [O.upd_upd] at this; exact this
  · exact h

/-- the ways `pause()` can go: nothing happens; the action of a pause request that is already pending is handed out; the
running step is interrupted (and the new action handed out); the process is paused on the spot.  Each callback gets the
conditions under which its branch is reached.
(`by_cases` and `rw [if_pos ..]` rather than `split`, which is slow on a goal of this size.) -/
theorem pause_elim {Q : X → Prop} (x : X) (h0 : Q x) (hh : ∀ y i, Q y → Q (O.upd y fun c => hand c i))
    (hr : terminal (O.get x).st.label = false → (O.get x).stepping = true → (O.get x).pausing = none →
      (O.get x).killing = none → Q (O.upd x fun _ => O.reqPause x))
    (hp : terminal (O.get x).st.label = false → (O.get x).stepping = false → (O.get x).paused = none →
      (O.get x).pausing = none → (O.get x).killing = none → Q (O.pauseNow x).1) : Q (pause O x).1 := by
  unfold pause
  dsimp only
  by_cases ht : terminal (O.get x).st.label = true
  · rw [if_pos ht]; exact h0
  rw [if_neg ht]
  by_cases hpd : (O.get x).paused.isSome = true
  · rw [if_pos hpd]; exact h0
  rw [if_neg hpd]
  cases hpg : (O.get x).pausing with
  | some i => exact hh x i h0
  | none =>
    dsimp only
    by_cases hk : (O.get x).killing.isSome = true
    · rw [if_pos hk]; exact h0
    rw [if_neg hk]
    have hl := eq_false_of_ne_true ht
    have hkn : (O.get x).killing = none := by simpa using hk
    by_cases hs : (O.get x).stepping = true
    · rw [if_pos hs]; exact defer_elim O x _ hh (hr hl hs hpg hkn)
    · rw [if_neg hs]
      exact hp hl (eq_false_of_ne_true hs) (by simpa using hpd) hpg hkn

/-- the same for `kill()`; between two steps the process is killed on the spot.  In this form nothing is asked of `x` itself
where `kill()` goes on: for a statement that holds of `x` only once the call has been made -/
theorem kill_cases {Q : X → Prop} (x : X) (h0 : terminal (O.get x).st.label = true → Q x)
    (hx : terminal (O.get x).st.label = false → ∀ i, (O.get x).killing = some i → Q (O.upd x fun c => hand c i))
    (hh : ∀ y i, Q y → Q (O.upd y fun c => hand c i))
    (hr : terminal (O.get x).st.label = false → (O.get x).stepping = true → (O.get x).killing = none →
      Q (O.upd x fun _ => O.reqKill x))
    (hk : terminal (O.get x).st.label = false → (O.get x).stepping = false → (O.get x).killing = none → Q (O.killNow x).1) :
    Q (kill O x).1 := by
  unfold kill
  dsimp only
  by_cases hkd : (O.get x).st.label = .killed
  · rw [if_pos hkd]; exact h0 (by rw [hkd]; rfl)
  rw [if_neg hkd]
  by_cases ht : terminal (O.get x).st.label = true
  · rw [if_pos ht]; exact h0 ht
  rw [if_neg ht]
  have hl := eq_false_of_ne_true ht
  cases hkg : (O.get x).killing with
  | some i => exact hx hl i hkg
  | none =>
    dsimp only
    by_cases hs : (O.get x).stepping = true
    · rw [if_pos hs]; exact defer_elim O x _ hh (hr hl hs hkg)
    · rw [if_neg hs]
      exact hk hl (eq_false_of_ne_true hs) hkg

theorem kill_elim {Q : X → Prop} (x : X) (h0 : Q x) (hh : ∀ y i, Q y → Q (O.upd y fun c => hand c i))
    (hr : terminal (O.get x).st.label = false → (O.get x).stepping = true → (O.get x).killing = none →
      Q (O.upd x fun _ => O.reqKill x))
    (hk : terminal (O.get x).st.label = false → (O.get x).stepping = false → (O.get x).killing = none → Q (O.killNow x).1) :
    Q (kill O x).1 :=
  kill_cases O x (fun _ => h0) (fun _ i _ => hh x i h0) hh hr hk

theorem fail_elim {Q : X → Prop} (x : X) (e : Exc) (h0 : Q x)
    (hf : terminal (O.get x).st.label = false → Q (O.failNow x e).1) : Q (fail O x e).1 := by
  unfold fail
  by_cases ht : terminal (O.get x).st.label = true
  · rw [if_pos ht]; exact h0
  · rw [if_neg ht]; exact hf (eq_false_of_ne_true ht)

/-- a scheduled callback: the callback leaves the queue, then an awaitable's done-callback, `try_killing` or a user callback
that may `fail` the process -/
theorem tickCb_elim {Q : X → Prop} (x : X) (cb : Cb) (h : Q x)
    (hun : (O.get x).ready.contains cb = true → Q (unsched O x cb))
    (hadone : ∀ y f, cb = .adone f → Q y → Q (O.upd y fun c => awaitableDone c f)) (htry : ∀ y, Q y → Q (tryKilling O y))
    (hfail : ∀ y e, Q y → Q (O.absorb (fail O y e))) : Q (tickCb O x cb) := by
  unfold tickCb
  by_cases hin : (O.get x).ready.contains cb = true
  · rw [if_pos hin]
    have h1 := hun hin
    cases cb with
    | adone f => exact hadone _ _ rfl h1
    | trykill => exact htry _ h1
    | usercb raises =>
      dsimp only
      by_cases hr : raises = true
      · rw [if_pos hr]; exact hfail _ _ h1
      · rw [if_neg hr]; exact h1
  · rw [if_neg hin]; exact h

/-- `D` guards a delivery to the current wait.  The leaves are finer than the bookkeeping leaf `ctl` of the closing part: a
request made during a step is one leaf (the new interrupt action together with its alias `_pausing` / `_killing`), and every
leaf comes with the conditions under which the call reaches it; so a predicate that reads the request bookkeeping fits. -/
structure CallClosed (O : EvOps X) (I : X → Prop) (D : Cfg → WF → Prop) : Prop where
  hand : ∀ x i, I x → I (O.upd x fun c => hand c i)
  requestPause : ∀ x, terminal (O.get x).st.label = false → (O.get x).stepping = true → (O.get x).pausing = none →
    (O.get x).killing = none → I x → I (O.upd x fun _ => O.reqPause x)
  requestKill : ∀ x, terminal (O.get x).st.label = false → (O.get x).stepping = true → (O.get x).killing = none → I x →
    I (O.upd x fun _ => O.reqKill x)
  pauseNow : ∀ x, terminal (O.get x).st.label = false → (O.get x).stepping = false → (O.get x).paused = none →
    (O.get x).pausing = none → (O.get x).killing = none → I x → I (O.pauseNow x).1
  killNow : ∀ x, terminal (O.get x).st.label = false → (O.get x).stepping = false → (O.get x).killing = none → I x →
    I (O.killNow x).1
  failNow : ∀ x e, terminal (O.get x).st.label = false → I x → I (O.failNow x e).1
  played : ∀ x, I x → I (O.play x).1
  absorb : ∀ r, I r.1 → I (O.absorb r)
  /-- `try_killing` keeps the action it is handed to itself -/
  setHanded : ∀ x v, I x → I (O.upd x fun c => { c with handed := v })
  resume : ∀ x v, D (O.get x) (.result v) → I x → I (O.upd x fun c => (resume c v).1)

/-- … and of the event loop: the bodies of the scheduled callbacks and the events that complete or cancel a future -/
structure EventClosed (O : EvOps X) (I : X → Prop) (D : Cfg → WF → Prop) : Prop extends CallClosed O I D where
  adone : ∀ x f, I x → I (O.upd x fun c => awaitableDone c f)
  complete : ∀ x f o, I x → I (O.upd x fun c => complete c f o)
  cancelFut : ∀ x, I x → I (O.upd x fun c => (cancelFut c).1)
  unsched : ∀ x cb, (O.get x).ready.contains cb = true → I x → I (unsched O x cb)
  sched : ∀ x r, I x → I (O.upd x fun c => { c with ready := c.ready ++ [.usercb r] })

namespace CallClosed
variable {O} {I : X → Prop} {D : Cfg → WF → Prop} (H : CallClosed O I D)
include H

theorem pause (x : X) (h : I x) : I (pause O x).1 :=
  pause_elim O x h H.hand (fun hl hs hp hk => H.requestPause x hl hs hp hk h) fun hl hs hpd hp hk => H.pauseNow x hl hs hpd hp hk h

theorem kill (x : X) (h : I x) : I (kill O x).1 :=
  kill_elim O x h H.hand (fun hl hs hk => H.requestKill x hl hs hk h) fun hl hs hk => H.killNow x hl hs hk h

theorem fail (x : X) (e : Exc) (h : I x) : I (fail O x e).1 := fail_elim O x e h fun hl => H.failNow x e hl h

theorem tryKilling (x : X) (h : I x) : I (tryKilling O x) := H.setHanded _ _ (H.absorb _ (H.kill x h))

end CallClosed

namespace EventClosed
variable {O} {I : X → Prop} {D : Cfg → WF → Prop} (H : EventClosed O I D)
include H

theorem tickCb (x : X) (cb : Cb) (h : I x) : I (tickCb O x cb) :=
  tickCb_elim O x cb h (fun hc => H.unsched x cb hc h) (fun y f _ => H.adone y f) H.tryKilling
    fun y e hy => H.absorb _ (H.fail y e hy)

theorem step (P : Prog) (x : X) (ev : Ev) (tick : I x → I (tickStepper O.toOps P x))
    (hD : ∀ v, ev = .resume v → D (O.get x) (.result v)) (h : I x) : I (step O P x ev).1 := by
  cases ev
  · exact tick h
  · exact H.tickCb x _ h
  · exact H.pause x h
  · exact H.played x h
  · exact H.kill x h
  · exact H.resume x _ (hD _ rfl) h
  · exact H.fail x _ h
  · exact H.cancelFut x h
  · exact H.complete x _ _ h
  · exact H.sched x _ h

end EventClosed

@[reducible] def baseE : EvOps Cfg where
  toOps := base
  req := requestInterrupt
  pauseNow c := (doPauseHooks c, .bool true)
  killNow c := (transitionTo c .killed, .bool true)
  failNow c e := (transitionTo c (.excepted e), .none)
  play := PMF.play
  absorb := Prod.fst
  upd_upd _ _ _ := rfl

theorem pause_base (c : Cfg) : pause baseE c = PMF.pause c := by unfold pause PMF.pause defer; rfl
theorem kill_base (c : Cfg) : kill baseE c = PMF.kill c := by unfold kill PMF.kill defer; rfl
theorem tryKilling_base (c : Cfg) : tryKilling baseE c = PMF.tryKilling c := by unfold tryKilling; rw [kill_base]; rfl
theorem tickCb_base (c : Cfg) (cb : Cb) : tickCb baseE c cb = PMF.tickCb c cb := by
  unfold tickCb PMF.tickCb; cases cb
  · rfl
  · simp only [tryKilling_base]; rfl
  · rfl
theorem step_base (P : Prog) (c : Cfg) (ev : Ev) : step baseE P c ev = PMF.step P c ev := by
  cases ev
  · exact congrArg (·, RetV.none) (tickStepper_base P c)
  · exact congrArg (·, RetV.none) (tickCb_base c _)
  · exact pause_base c
  · rfl
  · exact kill_base c
  all_goals rfl

def lisE (F : L.Hook → L.LCfg → L.LCfg) : EvOps L.LCfg where
  toOps := lis F
  req := L.requestL
  pauseNow l := (L.doPauseL F l, .bool true)
  killNow l := (L.transitionToL F l .killed, .bool true)
  failNow l e := (L.transitionToL F l (.excepted e), .none)
  play := L.playL F
  absorb := Prod.fst
  upd_upd _ _ _ := rfl

section
variable (F : L.Hook → L.LCfg → L.LCfg)
theorem pause_lis (l : L.LCfg) : pause (lisE F) l = L.pauseL F l := by unfold pause L.pauseL defer; rfl
theorem kill_lis (l : L.LCfg) : kill (lisE F) l = L.killL F l := by unfold kill L.killL defer; rfl
theorem tryKilling_lis (l : L.LCfg) : tryKilling (lisE F) l = L.tryKillingL F l := by unfold tryKilling; rw [kill_lis]; rfl
theorem tickCb_lis (l : L.LCfg) (cb : Cb) : tickCb (lisE F) l cb = L.tickCbL F l cb := by
  unfold tickCb L.tickCbL; cases cb
  · rfl
  · simp only [tryKilling_lis]; rfl
  · rfl
theorem step_lis (P : Prog) (l : L.LCfg) (ev : Ev) : step (lisE F) P l ev = L.stepLF F P l ev := by
  cases ev
  · exact congrArg (·, RetV.none) (tickStepper_lis F P l)
  · exact congrArg (·, RetV.none) (tickCb_lis F l _)
  · exact pause_lis F l
  · rfl
  · exact kill_lis F l
  all_goals rfl
end

end Task
end PMF
