import PlumpyModel.PM.Closed
/-!
# One step, and one callback of the stepping task, as "continue with … / suspend in …"

`stepNext P c` is the configuration with which the loop of `step_until_terminated` goes on when `Process.step` completes
without suspending, `stepSusp P c` the one in which it suspends otherwise (`stepBodyK_eq`); `tickEntry c` is the configuration
with which a callback of the stepping task that is not suspended on a pause future (re-)enters that loop, if it does.  Proofs
about two runs compare these configurations instead of unfolding `stepBodyK` and `tickStepper` side by side.
-/
namespace PMF

def stepNext (P : Prog) (c : Cfg) : Option Cfg :=
  let c := { c with stepping := true }
  match c.st with
  | .created fn => some (endOfStep c (.next (some (.running fn [] []))))
  | .running fn args kw =>
      let b := P fn args kw c.ctx
      let c := { c with trace := { fn := fn, args := args, kw := kw, paused := c.paused.isSome } :: c.trace }
      if b.awaits = 0 then some (finishUser c b.out) else none
  | .waiting fn wf _ _ =>
      match c.wfs[wf]? with
      | some .pending => none
      | some w => some (wake c fn wf w)
      | none => none
  | _ => some (endOfStep c (.next none))

def stepSusp (P : Prog) (c : Cfg) : Cfg :=
  let c := { c with stepping := true }
  match c.st with
  | .running fn args kw =>
      let b := P fn args kw c.ctx
      let c := { c with trace := { fn := fn, args := args, kw := kw, paused := c.paused.isSome } :: c.trace }
      { c with pc := .inUser { b with awaits := b.awaits - 1 } }
  | .waiting _ wf _ _ =>
      match c.wfs[wf]? with
      | some .pending => { c with pc := .awaitWaiting wf }
      | _ => c
  | _ => c

theorem stepBodyK_eq (P : Prog) (k : Cfg → Cfg) (c : Cfg) :
    stepBodyK P k c = match stepNext P c with | some e => k e | none => stepSusp P c := by
  unfold stepBodyK stepNext stepSusp; dsimp only
  cases c.st with
  | running fn a kw => dsimp only; split <;> rfl
  | waiting fn wf wk aw =>
    dsimp only
    cases c.wfs[wf]? with
    | none => rfl
    | some w => cases w <;> rfl
  | _ => rfl

theorem stepSusp_stepping (P : Prog) (c : Cfg) : (stepSusp P c).stepping = true := by
  unfold stepSusp; dsimp only
  split
  · rfl
  · split <;> rfl
  · rfl

theorem stepNext_created (P : Prog) (c : Cfg) (fn : Nat) (h : c.st = .created fn) :
    stepNext P c = some (endOfStep { c with stepping := true } (.next (some (.running fn [] [])))) := by
  simp only [stepNext, h]

theorem stepNext_running (P : Prog) (c : Cfg) (fn : Nat) (args : List Val) (kw : List (Nat × Val)) (h : c.st = .running fn args kw) :
    stepNext P c =
      if (P fn args kw c.ctx).awaits = 0 then
        some (finishUser { c with stepping := true,
                                  trace := { fn := fn, args := args, kw := kw, paused := c.paused.isSome } :: c.trace }
               (P fn args kw c.ctx).out)
      else none := by
  simp only [stepNext, h]

theorem stepSusp_running (P : Prog) (c : Cfg) (fn : Nat) (args : List Val) (kw : List (Nat × Val)) (h : c.st = .running fn args kw) :
    stepSusp P c = { c with stepping := true,
                            trace := { fn := fn, args := args, kw := kw, paused := c.paused.isSome } :: c.trace,
                            pc := .inUser { P fn args kw c.ctx with awaits := (P fn args kw c.ctx).awaits - 1 } } := by
  simp only [stepSusp, h]

theorem stepNext_waiting_pending (P : Prog) (c : Cfg) (fn wf : Nat) (wk aw) (h : c.st = .waiting fn wf wk aw)
    (hw : c.wfs[wf]? = some .pending) : stepNext P c = none := by
  simp only [stepNext, h, hw]

theorem stepSusp_waiting_pending (P : Prog) (c : Cfg) (fn wf : Nat) (wk aw) (h : c.st = .waiting fn wf wk aw)
    (hw : c.wfs[wf]? = some .pending) : stepSusp P c = { c with stepping := true, pc := .awaitWaiting wf } := by
  simp only [stepSusp, h, hw]

theorem stepNext_waiting_done (P : Prog) (c : Cfg) (fn wf : Nat) (wk aw) (w : WF) (h : c.st = .waiting fn wf wk aw)
    (hw : c.wfs[wf]? = some w) (hp : w ≠ .pending) : stepNext P c = some (wake { c with stepping := true } fn wf w) := by
  cases w with
  | pending => exact absurd rfl hp
  | _ => simp only [stepNext, h, hw]

theorem stepNext_terminal (P : Prog) (c : Cfg) (ht : terminal c.st.label = true) :
    stepNext P c = some (endOfStep { c with stepping := true } (.next none)) := by
  cases hst : c.st with
  | created fn => rw [hst] at ht; simp [SObj.label, terminal, allowed] at ht
  | running fn a k => rw [hst] at ht; simp [SObj.label, terminal, allowed] at ht
  | waiting fn wf wk aw => rw [hst] at ht; simp [SObj.label, terminal, allowed] at ht
  | finished v ok => simp only [stepNext, hst]
  | excepted e => simp only [stepNext, hst]
  | killed => simp only [stepNext, hst]

def tickEntry (c : Cfg) : Option Cfg :=
  match c.pc with
  | .notStarted => some c
  | .inUser b => if b.awaits = 0 then some (finishUser c b.out) else none
  | .awaitWaiting wf =>
      match c.wfs[wf]? with
      | some .pending => none
      | some w => some (wake c (match c.st with | .waiting fn .. => fn | _ => 0) wf w)
      | none => none
  | _ => none


theorem tickEntry_wait_done (c : Cfg) (fn wf : Nat) (wk aw) (w : WF) (h : c.pc = .awaitWaiting wf)
    (hst : c.st = .waiting fn wf wk aw) (hw : c.wfs[wf]? = some w) (hp : w ≠ .pending) :
    tickEntry c = some (wake c fn wf w) := by
  cases w with
  | pending => exact absurd rfl hp
  | _ => simp only [tickEntry, h, hw, hst]

namespace BodyClosedG
variable {I : Cfg → Prop} {T : Cfg → SObj → Prop} {D : Cfg → WF → Prop} (H : BodyClosedG I T D)
include H

theorem tickEntry {c c0 : Cfg} (h : tickEntry c = some c0) (hI : I c) : I c0 := by
  unfold PMF.tickEntry at h
  split at h
  · cases h; exact hI
  · split at h
    · cases h; exact H.finishUser c _ hI
    · cases h
  · split at h
    · cases h
    · cases h; exact H.wake c _ _ _ hI
    · cases h
  · cases h

end BodyClosedG

def isAwaitPaused : Pc → Bool
  | .awaitPaused _ => true
  | _ => false

theorem tickF_idle_eq (P : Prog) (n : Nat) (c : Cfg) (h : tickEntry c = none) (hp : isAwaitPaused c.pc = false) :
    tickF P n c = match c.pc with
      | .inUser b => { c with pc := .inUser { b with awaits := b.awaits - 1 } }
      | _ => c := by
  cases hpc : c.pc with
  | notStarted => simp only [tickEntry, hpc] at h; cases h
  | inUser b =>
    simp only [tickEntry, hpc] at h
    split at h
    · cases h
    · rename_i ha; simp only [tickF, hpc, ha, if_false]
  | awaitWaiting wf =>
    cases hw : c.wfs[wf]? with
    | none => simp only [tickF, hpc, hw]
    | some w =>
      cases w with
      | pending => simp only [tickF, hpc, hw]
      | result _ | interrupted _ | failed _ => simp only [tickEntry, hpc, hw] at h; cases h
  | awaitPaused pf => rw [hpc] at hp; cases hp
  | done | crashed _ => simp only [tickF, hpc]

theorem tickF_idle (P : Prog) (n : Nat) (c : Cfg) (h : tickEntry c = none) (hp : isAwaitPaused c.pc = false) :
    tickF P n c = tickF P 0 c := (tickF_idle_eq P n c h hp).trans (tickF_idle_eq P 0 c h hp).symm

theorem tickF_idle_shape (P : Prog) (c : Cfg) (h : tickEntry c = none) (hp : isAwaitPaused c.pc = false) :
    tickF P 0 c = c ∨ ∃ b, c.pc = .inUser b ∧ tickF P 0 c = { c with pc := .inUser { b with awaits := b.awaits - 1 } } := by
  rw [tickF_idle_eq P 0 c h hp]
  cases c.pc with
  | inUser b => exact .inr ⟨b, rfl, rfl⟩
  | _ => exact .inl rfl

end PMF
