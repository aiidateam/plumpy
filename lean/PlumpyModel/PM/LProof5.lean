import PlumpyModel.PM.ClosedL
/-!
# `PMF.L` — pause / play requests made by listeners during a step (C05 with listeners)

* Once `execute` has returned (`_executing = False`) a `pause()` / `kill()` only fills the interrupt-action slot; no wait future — in
  particular not the one of the state the step is entering — receives an interruption (F24, F26): `NoInt`, `endOfStepL_noInt`.
* `play()` really un-pauses, also when it is called from `on_process_paused` while the pause is being enacted, and a `play()` during
  the transition of a pending pause retracts the pause (F23): `playL_unpauses`, `C05_listener_play_retracts` (Props/C05.lean).
-/
namespace PMF
namespace L

def NoInt (c c' : Cfg) : Prop := ∀ (i k : Nat), c'.wfs[i]? = some (WF.interrupted k) → c.wfs[i]? = some (WF.interrupted k)

theorem NoInt.of_eq {c c' : Cfg} (h : c'.wfs = c.wfs) : NoInt c c' := fun i k hi => by rw [← h]; exact hi
theorem NoInt.trans {a b c : Cfg} (h1 : NoInt a b) (h2 : NoInt b c) : NoInt a c := fun i k hi => h1 i k (h2 i k hi)
theorem NoInt.of_off {W : List Fld} {c c' : Cfg} (o : Off W c c') (hW : Fld.wfs ∉ W := by decide) : NoInt c c' :=
  .of_eq (o.wfs hW)

/-- leaving a waiting state completes a pending wait future, with a result -/
theorem exitState_noInt (c : Cfg) : NoInt c (exitState c) := by
  refine exitState_elim c (fun _ => NoInt.of_eq rfl) (fun fn wf wk aw hst hp i k hi => ?_) fun _ _ _ _ _ _ => NoInt.of_eq rfl
  dsimp only at hi
  by_cases hiw : wf = i
  · subst hiw
    have hlt : wf < c.wfs.length := (List.getElem?_eq_some_iff.mp hp).1
    simp [setAt, hlt] at hi
  · simpa [setAt, List.getElem?_set, hiw] using hi

def NI (l l' : LCfg) : Prop := l.executing = false → l'.executing = false ∧ NoInt l.c l'.c

theorem NI.rfl' (l : LCfg) : NI l l := fun h => ⟨h, NoInt.of_eq rfl⟩
theorem NI.trans {a b c : LCfg} (h1 : NI a b) (h2 : NI b c) : NI a c := fun h =>
  ⟨(h2 (h1 h).1).1, (h1 h).2.trans (h2 (h1 h).1).2⟩
theorem NI.setc {a l : LCfg} {c' : Cfg} (h : NI a l) (hc : NoInt l.c c') : NI a { l with c := c' } := fun he =>
  ⟨(h he).1, (h he).2.trans hc⟩

def FNI (F : Hook → LCfg → LCfg) : Prop := ∀ h l, NI l (F h l)

/-- the state is interrupted only while it is being executed -/
theorem requestL_wfs (l : LCfg) (k : AKind) (he : l.executing = false) : (requestL l k).wfs = l.c.wfs := by
  unfold requestL
  simp only [he, Bool.false_and, Bool.false_eq_true, if_false]
  exact (setInterruptFromExc_off ..).wfs

theorem ni_leaves (a : LCfg) : ReqLeaves (NI a) where
  setTrans _ _ h := h
  exit l h := h.setc (exitState_noInt l.c)
  stClosed l s _ h := h.setc (.of_off (Off.set l.c .st s))
  entering l _ _ hok h := h.setc (.of_off (enteringHooks_off l.c hok))
  futExc l e h := h.setc (.of_off (setFutExc_off l.c e))
  enterState l s h := h.setc (.of_off (enterState_off l.c s))
  setState l s h := h.setc (.of_off (setState_off l.c s))
  entered l s h := h.setc (.of_off (enteredHooks_off l.c s))
  terminated l h := h.setc (.of_off (onTerminated_off l.c))
  paused l h := h.setc (.of_off (doPauseHooks_off l.c))
  clearPausing l h := h.setc (.of_off (Off.set l.c .pausing none))
  hand l i h := h.setc (.of_off (hand_off l.c i))
  requestPause l _ h he := ⟨(h he).1, (h he).2.trans (.of_eq (requestL_wfs l .pause (h he).1))⟩
  requestKill l _ h he := ⟨(h he).1, (h he).2.trans (.of_eq (requestL_wfs l .kill (h he).1))⟩
  played l h := h.setc (.of_off (play_off l.c))
  count _ _ h := h
  issue _ _ _ _ h := h

theorem fireN_ni (n : Nat) : FNI (fireN n) := fun h l => (ni_leaves l).fireN n h l (.rfl' l)

section
variable {F : Hook → LCfg → LCfg}

theorem dispatchL_ni (hF : FNI F) (l : LCfg) (next : Option SObj) : NI l (dispatchL F l next) :=
  have hF' : ∀ h d, NI l d → NI l (F h d) := fun h _ a => a.trans (hF h _)
  dispatchL_closed (fun o h => h.setc (.of_off o)) (fun d s _ => (ni_leaves l).transitionToL hF' d s) ((ni_leaves l).doPauseL hF')
    l next (.rfl' l)

/-- **the closing part of a step interrupts no wait future**: whatever the step produced and whatever listeners and state-event
callbacks request while it is being closed, every interruption found on a wait future afterwards was there before. -/
theorem endOfStepL_noInt (hF : FNI F) (l : LCfg) (r : StepEnd) : NoInt l.c (endOfStepL F l r).c := by
  unfold endOfStepL; dsimp only
  have h1 := dispatchL_ni hF { l with executing := false, c := (prepare l.c r).1 } (prepare l.c r).2 rfl
  exact ((NoInt.of_off (prepare_off l.c r)).trans h1.2).trans (.of_off (finally_off _))
end

/-- the wait future created for the state that a step returns (`Wait`) carries no interruption when the step has ended -/
theorem finishUserL_wait_noInt {F : Hook → LCfg → LCfg} (hF : FNI F) (l : LCfg) (fn k : Nat) :
    (finishUserL F l (.ret (.wait fn))).c.wfs[l.c.wfs.length]? ≠ some (.interrupted k) := by
  intro h
  unfold finishUserL at h
  simp only [cmdToState] at h
  have := endOfStepL_noInt hF _ _ _ _ h
  simp at this

/-- a request made while a step is in progress never pauses at once (it is deferred) -/
def FPN (F : Hook → LCfg → LCfg) : Prop := ∀ h l, l.c.stepping = true → l.c.paused = none → (F h l).c.paused = none

/-- **`play()` really un-pauses**, also when it is called from `on_process_paused` while the pause is being enacted at the end of
a step: when `play()` returns the process is not paused — whatever `on_process_played` listeners request in turn (their `pause()`
is deferred to the interrupt slot while stepping). -/
theorem playL_unpauses {F : Hook → LCfg → LCfg} (hF : FPN F) (l : LCfg) (hs : l.c.stepping = true) :
    (playL F l).1.c.paused = none :=
  playL_elim (Q := fun d => d.c.paused = none) F l (play_paused l.c) (hF _ _ ((play_off l.c).stepping.trans hs))

def PN (l : LCfg) : Prop := l.c.stepping = true ∧ l.c.paused = none

theorem PN.off {W : List Fld} {l : LCfg} {c' : Cfg} (h : PN l) (o : Off W l.c c')
    (hW : ∀ f ∈ [Fld.stepping, .paused], f ∉ W := by decide) : PN { l with c := c' } :=
  ⟨(o.stepping (hW _ (by decide))).trans h.1, (o.paused (hW _ (by decide))).trans h.2⟩

theorem pn_calls : CallLeaves PN where
  hand l i h := h.off (hand_off l.c i)
  requestPause l _ h := h.off (requestPause_off l)
  requestKill l _ h := h.off (requestKill_off l)
  played l h := ⟨(play_off l.c).stepping.trans h.1, play_paused l.c⟩

theorem fireN_pn (n : Nat) : FPN (fireN n) := fun h l hs hp =>
  (pn_calls.fireN_stepping (fun _ a => a.1) (fun _ _ a => a) (fun _ _ _ _ a => a) n h l ⟨hs, hp⟩).2

end L
end PMF
