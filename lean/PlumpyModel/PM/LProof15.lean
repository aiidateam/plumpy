import PlumpyModel.PM.LProof14
import PlumpyModel.PM.Proof4
/-!
# `PMF.L` — with the empty plan the model with listeners is the model (conservativity: steps, events, histories)

`PI` (`LProof14.lean`) is an invariant of the ORIGINAL model `PM/Model.lean`: the closing part of a step leaves the slot empty,
`pause()` records the action it installs, `play()` cancels the one it retracts.  `Ex` (`_stepping → _executing` between two
events) is one of the model with listeners: a wake-up of the stepping task keeps it, the other events leave `_stepping` alone.
With these, an empty plan and no transition in progress (`Twin`) every event has the same effect and the same return value in both
models (`stepL_twin`), hence `runL_conservative`.
-/
namespace PMF

theorem endOfStep_interrupt (c : Cfg) (r : StepEnd) : (endOfStep c r).interrupt = none := finally_interrupt _

theorem PI.keep {c c' : Cfg} (h : PI c) (s : Keep c c') : PI c' := h.of_eq s.2.2.1 s.2.2.2.1 s.2.2.2.2.2

theorem pi_task : TaskClosed PI :=
  .of_keep PI.keep (fun _ h => h.of_eq rfl rfl rfl) fun c r _ => .of_none (endOfStep_interrupt c r)

/-- a request made during a step installs a fresh action; for `pause()` it is recorded in `_pausing` at once -/
theorem requestInterrupt_pi (c : Cfg) (k : AKind) (p : Option Nat)
    (hp : k = .pause → p = (requestInterrupt c k).interrupt) :
    PI { requestInterrupt c k with pausing := p } := by
  obtain ⟨h1, h2, _⟩ := requestInterrupt_new c k
  intro i hi _ hk
  have hi' : (requestInterrupt c k).interrupt = some i := hi
  have hk' : actionKind (requestInterrupt c k) i = some .pause := hk
  rw [h1] at hi'; cases hi'
  rw [h2] at hk'
  show p = some c.actions.length
  rw [hp (Option.some.inj hk'), h1]

theorem play_pi (c : Cfg) (h : PI c) : PI (play c).1 := by
  refine play_elim c (fun _ _ => h) (fun i _ hpi => ?_) (fun _ _ _ => h.of_eq rfl rfl rfl) fun _ _ _ => h.of_eq rfl rfl rfl
  intro j hj hp hk
  have hj' : (cancelAction c i).interrupt = some j := hj
  have hp' : actionStatus (cancelAction c i) j = .pending := hp
  have hk' : actionKind (cancelAction c i) j = some .pause := hk
  rw [(cancelAction_off c i).interrupt] at hj'
  by_cases hij : i = j
  · subst hij
    rw [cancelAction_status] at hp'
    split at hp'
    · cases hp'
    · rename_i hn; exact absurd hp' hn
  · rw [cancelAction_other c i j hij] at hp'
    rw [cancelAction_kind] at hk'
    have := h j hj' hp' hk'
    rw [hpi] at this; cases this; exact absurd rfl hij

theorem pi_calls : EventClosed PI fun _ _ => True :=
  .of_keep PI.keep (requestPause := fun c _ _ _ _ _ => requestInterrupt_pi c .pause _ fun _ => rfl)
    (requestKill := fun c _ _ _ _ =>
      (requestInterrupt_pi c .kill (requestInterrupt c .kill).pausing (fun hk => by cases hk)).of_eq rfl rfl rfl)
    -- `_pausing` was empty: no pending pause action sits in the slot
    (pauseNow := fun c _ _ _ hpn _ h i hi hp hk => nomatch (h i hi hp hk).symm.trans hpn)
    (killNow := fun c _ _ _ h => h.off (transitionTo_off c _))
    (failNow := fun c e _ h => h.off (transitionTo_off c _))
    (played := play_pi)

theorem step_pi (P : Prog) (c : Cfg) (ev : Ev) (h : PI c) : PI (step P c ev).1 :=
  pi_calls.step pi_task P c ev (fun _ _ => trivial) h
theorem run_pi (P : Prog) (c0 : Cfg) (evs : List Ev) (h : PI c0) : PI (run P c0 evs) :=
  pi_calls.run pi_task (fun _ _ => trivial) P c0 evs h

theorem pi_init (nf : Nat) : PI (init nf) := PI.of_none rfl

theorem step_stepping (P : Prog) (c : Cfg) (ev : Ev) (hne : ev ≠ .tick) : (step P c ev).1.stepping = c.stepping := by
  cases ev <;> simp only [step]
  · exact absurd rfl hne
  · exact (tickCb_off c _).stepping
  · exact (pause_off c).stepping
  · exact (play_off c).stepping
  · exact (kill_off c).stepping
  · exact (resume_off c _).stepping
  · exact (fail_off c _).stepping
  · exact (cancelFut_off c).stepping
  · exact (complete_off c _ _).stepping

namespace L

section
variable {F : Hook → LCfg → LCfg}

theorem ex_of_not_stepping {l : LCfg} (h : l.c.stepping = false) : Ex l := by
  intro hs; rw [h] at hs; cases hs

theorem ex_task : TaskLeaves F Ex where
  endOfStep l r _ := ex_of_not_stepping (finally_stepping _)
  setPc _ _ h := h
  start _ _ _ := rfl
  activate _ _ _ _ _ _ h := h
  alloc l cmd h := fun hs => h ((cmdToState_off l.c cmd).stepping.symm.trans hs)
  rearm l wf h := fun hs => h ((rearm_off l.c wf).stepping.symm.trans hs)

theorem tickStepperL_ex (P : Prog) (l : LCfg) (h : Ex l) : Ex (tickStepperL F P l) := ex_task.tickStepperL P l h
end

theorem sim_ops {l : LCfg} {c : Cfg} (f : Cfg → Cfg) (h : Sim l c ∧ PI c) (hf : PI (f c)) :
    Sim ((Task.lis F0).upd l f) (Task.base.upd c f) ∧ PI (Task.base.upd c f) :=
  ⟨⟨congrArg f h.1.c, h.1.plan, h.1.ef⟩, hf⟩

/-- with the empty plan the stepping task of the model with listeners runs in step with the original's: only the closing part
of a step needs an argument (`endOfStepL_sim`), and it leaves the slot empty -/
theorem sim_task : Task.Sim2 (Task.lis F0) Task.base fun l c => Sim l c ∧ PI c where
  view h := .of_eq h.1.c.symm
  start := fun {l c} h => by
    obtain ⟨⟨rfl, hp, he⟩, hpi⟩ := h
    exact ⟨⟨rfl, hp, he⟩, hpi.of_eq rfl rfl rfl⟩
  eos r h := ⟨endOfStepL_sim r h.1 h.2, PI.of_none (endOfStep_interrupt _ _)⟩
  setPc _ h := sim_ops _ h (h.2.of_eq rfl rfl rfl)
  activate _ _ _ h := sim_ops _ h (h.2.of_eq rfl rfl rfl)
  alloc cmd h := sim_ops _ h (h.2.off (cmdToState_off _ cmd))
  rearm wf h := sim_ops _ h (h.2.off (rearm_off _ wf))

theorem tickStepperL_sim (P : Prog) {l : LCfg} {c : Cfg} (h : Sim l c) (hpi : PI c) :
    Sim (tickStepperL F0 P l) (tickStepper P c) :=
  Task.tickStepper_lis F0 P l ▸ Task.tickStepper_base P c ▸ (sim_task.tickStepper P ⟨h, hpi⟩).1

/-- what holds between two events of a run with the empty plan -/
structure Twin (l : LCfg) (c : Cfg) : Prop where
  sim : Sim l c
  pi : PI c
  ex : Ex l
  tr : l.trans = none

theorem twin_init (nf : Nat) : Twin (initL nf []) (init nf) :=
  ⟨⟨rfl, rfl, rfl⟩, pi_init nf, (fun h => by cases h), rfl⟩

theorem stepL_eq_F0 (P : Prog) (l : LCfg) (ev : Ev) (hp : l.plan = []) : stepL P l ev = stepLF F0 P l ev := by
  unfold stepL; rw [hp]; rfl

theorem stepLF_cons (P : Prog) (l : LCfg) (ev : Ev) (hne : ev ≠ .tick) (hex : Ex l) (htr : l.trans = none)
    (hef : l.entryFails = false) :
    Cons l (step P l.c ev).1 (stepLF F0 P l ev).1 ∧ (stepLF F0 P l ev).2 = (step P l.c ev).2 := by
  cases ev <;> simp only [stepLF, step]
  · exact absurd rfl hne
  · exact ⟨tickCbL_cons l _ hex htr hef, trivial⟩
  · exact pauseL_cons l hex htr
  · exact playL_cons l
  · exact killL_cons l hex htr hef
  · exact ⟨⟨rfl, rfl, rfl, rfl⟩, trivial⟩
  · exact failL_cons l _ hef
  · exact ⟨⟨rfl, rfl, rfl, rfl⟩, trivial⟩
  · exact ⟨⟨rfl, rfl, rfl, rfl⟩, trivial⟩
  · exact ⟨⟨rfl, rfl, rfl, rfl⟩, trivial⟩

theorem stepL_twin (P : Prog) {l : LCfg} {c : Cfg} (t : Twin l c) (ev : Ev) :
    Twin (stepL P l ev).1 (step P c ev).1 ∧ (stepL P l ev).2 = (step P c ev).2 := by
  rw [stepL_eq_F0 P l ev t.sim.plan]
  have t1 : (stepLF F0 P l ev).1.trans = none := (noTr_body (fireN_noTr 0)).stepLF P l ev t.tr
  have hpi := step_pi P c ev t.pi
  by_cases hev : ev = .tick
  · subst hev
    exact ⟨⟨tickStepperL_sim P t.sim t.pi, hpi, tickStepperL_ex P l t.ex, t1⟩, rfl⟩
  · obtain ⟨hs, hp, he⟩ := t.sim
    subst hs
    obtain ⟨hc, hr⟩ := stepLF_cons P l ev hev t.ex t.tr he
    refine ⟨⟨Sim.cons ⟨rfl, hp, he⟩ hc, hpi, ?_, t1⟩, hr⟩
    intro hst
    rw [hc.exe]
    apply t.ex
    rw [hc.c, step_stepping P l.c ev hev] at hst
    exact hst

theorem runL_twin (P : Prog) (evs : List Ev) : ∀ {l : LCfg} {c : Cfg}, Twin l c → Twin (runL P l evs) (run P c evs) := by
  induction evs with
  | nil => intro l c t; exact t
  | cons e es ih => intro l c t; exact ih (stepL_twin P t e).1

/-- **conservativity**: with the empty plan, the run of the model with listeners carries, after every history, exactly the
configuration of the original model -/
theorem runL_conservative (P : Prog) (nf : Nat) (evs : List Ev) : (runL P (initL nf []) evs).c = run P (init nf) evs :=
  (runL_twin P evs (twin_init nf)).sim.c

end L
end PMF
