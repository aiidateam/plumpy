import PlumpyModel.PM.Proof11d
import PlumpyModel.PM.Proof14
/-!
# C05 — transparency: wake-ups between a pause request that interrupted a pending wait and the next tick

Phase `QW2` generalises `QW` of `Proof12`: the wait of the run with pauses carries the interruption of the pause request and
possibly a *parked* wake-up (`Waiting._deliver` on an interrupted wait), while the wait of the reference run has received that
wake-up directly.  Through the view `unint` (the interruption removed, the parked outcome put on the future) this is `InStep`.
At the next tick the run with pauses re-arms its wait; if the pause then takes effect it is held on a wait whose outcome is
already there (`LagW`, the reference run does not tick); if the pause was retracted by `play` both runs resume the wait in
that tick — the run with pauses one loop iteration later, hence the fuel hypothesis with one iteration of slack (`fuelOkN`).
-/
namespace PMF

/-! ### the fuel is irrelevant once the loop is known to end within it -/

theorem stepK_mono (P : Prog) (k k' : Cfg → Cfg) (kd kd' : Cfg → Bool)
    (h : ∀ e, kd e = true → kd' e = true ∧ k' e = k e) (c : Cfg) (hd : stepDoneK P kd c = true) :
    stepDoneK P kd' c = true ∧ stepBodyK P k' c = stepBodyK P k c := by
  rw [stepDoneK_eq] at hd ⊢
  rw [stepBodyK_eq, stepBodyK_eq]
  cases hn : stepNext P c with
  | none => exact ⟨rfl, rfl⟩
  | some e => rw [hn] at hd; exact h e hd

theorem loopDone_crashed (P : Prog) (m : Nat) (c : Cfg) (e : Exc) (h : c.pc = .crashed e) : loopDone P (m + 1) c = true := by
  unfold loopDone; rw [h]
theorem loopDone_term (P : Prog) (m : Nat) (c : Cfg) (ht : terminal c.st.label = true) : loopDone P (m + 1) c = true := by
  unfold loopDone; split
  · rfl
  · simp [ht]
theorem loopDone_closed (P : Prog) (m : Nat) (c : Cfg) (hc : c.closed = true) : loopDone P (m + 1) c = true := by
  unfold loopDone; split
  · rfl
  · simp [hc]
theorem loopDone_blocked (P : Prog) (m : Nat) (c : Cfg) (pf : Nat) (hp : c.paused = some pf) (hf : c.pfs[pf]? = some false) :
    loopDone P (m + 1) c = true := by
  unfold loopDone; split
  · rfl
  · simp [hp, hf]
theorem loop_mono (P : Prog) : ∀ (n : Nat) (c : Cfg), loopDone P n c = true →
    loopDone P (n + 1) c = true ∧ loopHead P (n + 1) c = loopHead P n c := by
  intro n
  induction n with
  | zero => intro c h; simp [loopDone] at h
  | succ n ih =>
    intro c h
    by_cases hcr : ∃ e, c.pc = .crashed e
    · obtain ⟨e, he⟩ := hcr
      rw [loopHead_crashed P _ c e he, loopHead_crashed P _ c e he]
      exact ⟨loopDone_crashed P _ c e he, rfl⟩
    · have hn : NotCrashed c := fun e he => hcr ⟨e, he⟩
      by_cases ht : terminal c.st.label = true
      · rw [loopHead_term P _ c hn ht, loopHead_term P _ c hn ht]
        exact ⟨loopDone_term P _ c ht, rfl⟩
      · have htf : terminal c.st.label = false := by simpa using ht
        by_cases hc : c.closed = true
        · rw [loopHead_closed P _ c hn htf hc, loopHead_closed P _ c hn htf hc]
          exact ⟨loopDone_closed P _ c hc, rfl⟩
        · have hcf : c.closed = false := by simpa using hc
          cases hb : heldB c with
          | true =>
            obtain ⟨pf, hp, hf⟩ := (heldB_iff c).mp hb
            rw [loopHead_blocked P _ c pf hn htf hcf hp hf, loopHead_blocked P _ c pf hn htf hcf hp hf]
            exact ⟨loopDone_blocked P _ c pf hp hf, rfl⟩
          | false =>
            have hu := Unheld.of_heldB hb
            rw [loopDone_unheld P n c hn htf hcf hu] at h
            rw [loopDone_unheld P (n + 1) c hn htf hcf hu, loopHead_unheld P (n + 1) c hn htf hcf hu,
              loopHead_unheld P n c hn htf hcf hu]
            exact stepK_mono P _ _ _ _ ih c h

theorem loop_mono_le (P : Prog) (n : Nat) (c : Cfg) (h : loopDone P n c = true) :
    ∀ m, n ≤ m → loopDone P m c = true ∧ loopHead P m c = loopHead P n c := by
  intro m hm
  induction m with
  | zero =>
    have : n = 0 := by omega
    subst this; exact ⟨h, rfl⟩
  | succ m ih =>
    by_cases he : n = m + 1
    · subst he; exact ⟨h, rfl⟩
    · obtain ⟨i1, i2⟩ := ih (by omega)
      obtain ⟨j1, j2⟩ := loop_mono P m c i1
      exact ⟨j1, j2.trans i2⟩

/-- mirrors `tickDone` with fuel `n` instead of `fuel0` -/
def tickDoneN (P : Prog) (n : Nat) (c : Cfg) : Bool :=
  match c.pc with
  | .notStarted => loopDone P n c
  | .awaitPaused pf =>
      if c.pfs[pf]? = some true then
        match c.paused with
        | some pf' => if c.pfs[pf']? = some false then true else stepDoneK P (loopDone P n) c
        | none => stepDoneK P (loopDone P n) c
      else true
  | .inUser b => if b.awaits = 0 then loopDone P n (finishUser c b.out) else true
  | .awaitWaiting wf =>
      match c.wfs[wf]? with
      | some .pending => true
      | some w =>
          let fn := match c.st with | .waiting fn .. => fn | _ => 0
          loopDone P n (wake c fn wf w)
      | none => true
  | _ => true

/-- no tick of the history comes within `fuel0 - n` iterations of exhausting the fuel of the model's step loop -/
def fuelOkN (P : Prog) (n : Nat) : Cfg → List Ev → Bool
  | _, [] => true
  | c, e :: es => (match e with | .tick => tickDoneN P n c | _ => true) && fuelOkN P n (step P c e).1 es

theorem tickDoneN_fuel0 (P : Prog) (c : Cfg) : tickDoneN P fuel0 c = tickDone P c := rfl

theorem tickDoneN_entry (P : Prog) (n : Nat) (c : Cfg) (h : isAwaitPaused c.pc = false) :
    tickDoneN P n c = match tickEntry c with | some c0 => loopDone P n c0 | none => true := by
  unfold tickDoneN tickEntry
  cases hpc : c.pc with
  | awaitPaused pf => rw [hpc] at h; cases h
  | inUser b => dsimp only; split <;> rfl
  | awaitWaiting wf =>
    dsimp only
    cases c.wfs[wf]? with
    | none => rfl
    | some w => cases w <;> rfl
  | _ => rfl

theorem tickDoneN_le (P : Prog) (n m : Nat) (hnm : n ≤ m) (c : Cfg) (h : tickDoneN P n c = true) : tickDoneN P m c = true := by
  have loop : ∀ e, loopDone P n e = true → loopDone P m e = true := fun e he => (loop_mono_le P n e he m hnm).1
  cases hp : isAwaitPaused c.pc with
  | false =>
    rw [tickDoneN_entry P _ c hp] at h ⊢
    cases hn : tickEntry c with
    | none => rfl
    | some c0 => rw [hn] at h; exact loop c0 h
  | true =>
    have body : stepDoneK P (loopDone P n) c = true → stepDoneK P (loopDone P m) c = true :=
      fun hb => (stepK_mono P id id _ _ (fun e he => ⟨loop e he, rfl⟩) c hb).1
    unfold tickDoneN at h ⊢
    revert h
    cases hpc : c.pc with
    | awaitPaused pf =>
      dsimp only
      split
      · cases c.paused with
        | none => exact body
        | some pf' =>
          dsimp only
          split
          · exact id
          · exact body
      · exact id
    | _ => rw [hpc] at hp; cases hp

theorem fuelOkN_le (P : Prog) (n : Nat) (hn : n ≤ fuel0) : ∀ (evs : List Ev) (c : Cfg), fuelOkN P n c evs = true →
    fuelOk P c evs = true := by
  intro evs
  induction evs with
  | nil => intro c _; rfl
  | cons e es ih =>
    intro c h
    simp only [fuelOkN, Bool.and_eq_true] at h
    simp only [fuelOk, Bool.and_eq_true]
    refine ⟨?_, ih _ h.2⟩
    cases e with
    | tick => rw [← tickDoneN_fuel0]; exact tickDoneN_le P n fuel0 hn c h.1
    | _ => rfl

theorem fuelOkN_append (P : Prog) (n : Nat) : ∀ (xs ys : List Ev) (c : Cfg),
    fuelOkN P n c (xs ++ ys) = (fuelOkN P n c xs && fuelOkN P n (run P c xs) ys) := by
  intro xs
  induction xs with
  | nil => intro ys c; simp [fuelOkN, run]
  | cons x rest ih =>
    intro ys c
    simp only [List.cons_append, fuelOkN, ih, Bool.and_assoc]
    rfl

/-- view of a configuration whose current wait carries the interruption of a pause request: the interruption removed and
the parked wake-up (if any) put on the wait future -/
def unint (c : Cfg) : Cfg :=
  match c.st with
  | .waiting fn wf wk aw =>
      match c.wfs[wf]? with
      | some (.interrupted _) => { c with st := .waiting fn wf none aw, wfs := setAt c.wfs wf (wk.getD .pending) }
      | _ => c
  | _ => c

theorem unint_int (c : Cfg) (fn wf : Nat) (wk aw) (k : Nat) (hst : c.st = .waiting fn wf wk aw)
    (hw : c.wfs[wf]? = some (.interrupted k)) :
    unint c = { c with st := .waiting fn wf none aw, wfs := setAt c.wfs wf (wk.getD .pending) } := by
  unfold unint; rw [hst]; dsimp only; rw [hw]

theorem unint_off (c : Cfg) : Off [.st, .wfs] c (unint c) := by
  unfold unint; split
  · split
    · off_fields
    · exact Off.rfl' c
  · exact Off.rfl' c

theorem unint_congr (c c' : Cfg) (h1 : c'.st = c.st) (h2 : c'.wfs = c.wfs) :
    (unint c').st = (unint c).st ∧ (unint c').wfs = (unint c).wfs := by
  unfold unint
  rw [h1, h2]
  split
  · split
    · exact ⟨rfl, rfl⟩
    · exact ⟨h1, h2⟩
  · exact ⟨h1, h2⟩

theorem unint_awaiting (c : Cfg) : awaiting (unint c).st = awaiting c.st := by
  unfold unint; split
  · rename_i hst
    split
    · rw [hst]; rfl
    · rfl
  · rfl

/-- a parked wake-up is an outcome -/
def ParkOk (wk : Option WF) : Prop := ∀ o, wk = some o → o ≠ .pending ∧ ∀ k, o ≠ .interrupted k

theorem deliver_unint (c : Cfg) (o : WF) (fn wf : Nat) (wk aw) (k : Nat) (hst : c.st = .waiting fn wf wk aw)
    (hw : c.wfs[wf]? = some (.interrupted k)) (hp : ParkOk wk) : deliver (unint c) o = unint (deliver c o) := by
  cases c
  rename_i st _ _ _ _ _ _ _ wfs _ _ _ _ _ _ _ _ _ _ _ _ _ _ _ _
  simp only at hst hw
  subst hst
  have hg : ∀ x : WF, (setAt wfs wf x)[wf]? = some x := fun x => setAt_self_get _ _ _ _ hw
  cases wk with
  | none =>
    simp only [unint, deliver, hw, hg, Option.getD_none, Option.isNone_none, if_true]
    simp [setAt]
  | some o' =>
    obtain ⟨h1, h2⟩ := hp o' rfl
    simp only [unint, deliver, hw, hg, Option.getD_some, Option.isNone_some]
    cases o' with
    | pending => exact absurd rfl h1
    | interrupted k' => exact absurd rfl (h2 k')
    | result v => simp [hw]
    | failed e => simp [hw]

/-- the run with pauses between the pause request that interrupted its pending wait and the next tick -/
def QShape (c : Cfg) (fn wf : Nat) (aw : List (Nat × Nat)) : Prop :=
  ∃ wk k, c.st = .waiting fn wf wk aw ∧ c.wfs[wf]? = some (.interrupted k) ∧ c.pc = .awaitWaiting wf ∧ ParkOk wk ∧
    c.interrupt ≠ none

theorem parkOk_none : ParkOk none := by intro o h; cases h

theorem deliver_qshape (c : Cfg) (o : WF) (fn wf : Nat) (aw) (ho : o ≠ .pending ∧ ∀ k, o ≠ .interrupted k)
    (h : QShape c fn wf aw) : QShape (deliver c o) fn wf aw := by
  obtain ⟨wk, k, hst, hw, hpc, hp, hi⟩ := h
  refine deliver_elim (Q := (QShape · fn wf aw)) c o ⟨wk, k, hst, hw, hpc, hp, hi⟩ (fun _ _ _ _ hst' hp' => ?_)
    fun _ _ _ _ hst' _ => ?_
  · cases hst.symm.trans hst'; cases hw.symm.trans hp'
  · cases hst.symm.trans hst'
    exact ⟨some o, k, rfl, hw, hpc, by intro o' ho'; cases ho'; exact ho, hi⟩

theorem Upd.run_unint (u : Upd) (c : Cfg) (fn wf : Nat) (aw) (h : QShape c fn wf aw) :
    u.run (unint c) = unint (u.run c) ∧ ∃ aw', QShape (u.run c) fn wf aw' := by
  have h0 := h
  obtain ⟨wk, k, hst, hw, hpc, hp, hi⟩ := h0
  have shape : ∀ x : Cfg, x.st = c.st → x.wfs = c.wfs → x.pc = c.pc → x.interrupt = c.interrupt → QShape x fn wf aw :=
    fun x h1 h2 h3 h4 => ⟨wk, k, h1.trans hst, by rw [h2]; exact hw, h3.trans hpc, hp, by rw [h4]; exact hi⟩
  have comm : ∀ (f : Fld) (v : f.type), f ∈ [Fld.ctx, .efs, .efCb, .ready] → (unint c).set f v = unint (c.set f v) := by
    intro f v hf
    rw [unint_int c fn wf wk aw k hst hw]
    simp only [List.mem_cons, List.not_mem_nil, or_false] at hf
    rcases hf with rfl | rfl | rfl | rfl
    · exact (unint_int (c.set .ctx v) fn wf wk aw k hst hw).symm
    · exact (unint_int (c.set .efs v) fn wf wk aw k hst hw).symm
    · exact (unint_int (c.set .efCb v) fn wf wk aw k hst hw).symm
    · exact (unint_int (c.set .ready v) fn wf wk aw k hst hw).symm
  cases u with
  | deliver o ok => exact ⟨deliver_unint c o fn wf wk aw k hst hw hp, aw, deliver_qshape c o fn wf aw ok h⟩
  | aw l =>
    have e : setAw c l = { c with st := .waiting fn wf wk l } := by simp only [setAw, hst]
    refine ⟨?_, l, ?_⟩
    · show setAw (unint c) l = unint (setAw c l)
      rw [e, unint_int c fn wf wk aw k hst hw, unint_int { c with st := .waiting fn wf wk l } fn wf wk l k rfl hw]
      rfl
    · show QShape (setAw c l) fn wf l
      rw [e]; exact ⟨wk, k, rfl, hw, hpc, hp, hi⟩
  | ctx X => exact ⟨comm .ctx X (by decide), aw, shape _ rfl rfl rfl rfl⟩
  | efs E => exact ⟨comm .efs E (by decide), aw, shape _ rfl rfl rfl rfl⟩
  | efCb L => exact ⟨comm .efCb L (by decide), aw, shape _ rfl rfl rfl rfl⟩
  | ready R => exact ⟨comm .ready R (by decide), aw, shape _ rfl rfl rfl rfl⟩

theorem runAll_unint (l : List Upd) (c : Cfg) (fn wf : Nat) (aw) (h : QShape c fn wf aw) :
    runAll l (unint c) = unint (runAll l c) ∧ ∃ aw', QShape (runAll l c) fn wf aw' :=
  runAll_rel (R := fun x y => x = unint y ∧ ∃ aw', QShape y fn wf aw') l
    (fun u _ _ y hxy => by obtain ⟨rfl, aw', hq⟩ := hxy; exact u.run_unint y fn wf aw' hq) ⟨rfl, aw, h⟩

theorem awaitableDone_unint (c : Cfg) (f : Nat) (fn wf : Nat) (aw) (h : QShape c fn wf aw) :
    awaitableDone (unint c) f = unint (awaitableDone c f) := by
  have o := unint_off c
  rw [awaitableDone_plan, awaitableDone_plan, unint_awaiting, o.efKeys, o.efs, o.ctx]
  exact (runAll_unint _ c fn wf aw h).1

theorem wake_unint (P : Prog) (c : Cfg) (e : Ev) (hw : isWake e = true) (fn wf : Nat) (aw) (h : QShape c fn wf aw) :
    (step P (unint c) e).1 = unint (step P c e).1 ∧ ∃ aw', QShape (step P c e).1 fn wf aw' := by
  have o := unint_off c
  rw [step_plan P _ e hw, step_plan P c e hw, planOf_congr e (unint_awaiting c) o.efKeys o.efs o.efCb o.ready o.ctx]
  exact runAll_unint _ c fn wf aw h

/-- a pause request interrupted the pending wait of the run with pauses, wake-ups may have been parked on it since; the wait
of the reference run has received them: through `unint` both runs are at the same point -/
structure QW2 (c d : Cfg) : Prop where
  shape : ∃ fn wf aw, QShape c fn wf aw
  view : InStep (unint c) d

theorem qw_to_qw2 {c d : Cfg} (h : QW c d) : QW2 c d := by
  obtain ⟨fn, wf, aw, wf', k, hst, hst', hw, hw', hpc, hpd⟩ := h.wait
  refine ⟨⟨fn, wf, aw, none, k, hst, hw, hpc, parkOk_none, h.intSome⟩, ?_⟩
  rw [unint_int c fn wf none aw k hst hw]
  refine ⟨⟨h.sh, Or.inr ⟨fn, wf, aw, wf', .pending, rfl, hst', setAt_self_get _ _ _ _ hw, hw', by intro k' hk'; cases hk'⟩,
    h.ckill, h.dint, h.dpaused⟩, h.intOk.of_eq rfl rfl, ?_, fun _ => ⟨h.stepping, h.paused⟩, ?_⟩
  · show PcRelAt c.pc _ _
    rw [hpc]
    exact ⟨fn, none, aw, wf', rfl, hst', hpd⟩
  · intro hr
    have : isRunningPc c.pc = false := hr
    rw [hpc] at this; cases this

theorem wake_qw2 (P : Prog) (c d : Cfg) (e : Ev) (h : isWake e = true) (hl : QW2 c d) :
    QW2 (step P c e).1 (step P d e).1 := by
  obtain ⟨fn, wf, aw, hs⟩ := hl.shape
  obtain ⟨hu, aw', hs'⟩ := wake_unint P c e h fn wf aw hs
  exact ⟨⟨fn, wf, aw', hs'⟩, hu ▸ wake_inStep P _ _ e h hl.view⟩

theorem unint_pframe {c c' : Cfg} (f : PFrame c c') : PFrame (unint c) (unint c') := by
  obtain ⟨s1, s2⟩ := unint_congr c c' f.2.1 f.2.2.1
  exact ⟨(sh_of_off (unint_off c')).trans (f.1.trans (sh_of_off (unint_off c)).symm), s1, s2,
    (unint_off c').pc.trans (f.2.2.2.trans (unint_off c).pc.symm)⟩

theorem QW2.stepping {c d : Cfg} (h : QW2 c d) : c.stepping = true ∧ c.paused = none ∧ c.killing = none ∧ IntOk c := by
  obtain ⟨fn, wf, aw, wk, k, hst, hw, hpc, hp, hi⟩ := h.shape
  have o := unint_off c
  have hr := h.view.run (by rw [o.pc, hpc]; rfl)
  exact ⟨o.stepping.symm.trans hr.1, o.paused.symm.trans hr.2, o.killing.symm.trans h.view.core.ckill,
    h.view.intOk.of_eq o.interrupt.symm o.actions.symm⟩

theorem QW2.frame {c c' d : Cfg} (h : QW2 c d) (f : PFrame c c') (hi : c'.interrupt ≠ none) (hio : IntOk c')
    (hp : c'.paused = none) : QW2 c' d := by
  obtain ⟨fn, wf, aw, wk, k, hst, hw, hpc, hpk, _⟩ := h.shape
  have o := unint_off c'
  refine ⟨⟨fn, wf, aw, wk, k, by rw [f.2.1]; exact hst, by rw [f.2.2.1]; exact hw, by rw [f.2.2.2]; exact hpc, hpk, hi⟩, ?_⟩
  refine h.view.frame (unint_pframe f) (hio.of_eq o.interrupt o.actions) (fun hr => ?_) (fun _ => o.paused.trans hp)
  rw [(unint_off c).pc, hpc] at hr
  cases hr

theorem QW2.off {W : List Fld} {c c' d : Cfg} (h : QW2 c d) (o : Off W c c')
    (hW : ∀ f ∈ phaseF, f ∉ W := by decide) : QW2 c' d := by
  obtain ⟨_, hpn, _, hio⟩ := h.stepping
  obtain ⟨_, _, _, _, _, _, _, _, _, hi⟩ := h.shape
  have hi' := o.interrupt (hW _ (by decide))
  exact h.frame (.of_phase o hW) (by rw [hi']; exact hi) (hio.of_eq hi' (o.actions (hW _ (by decide))))
    ((o.paused (hW _ (by decide))).trans hpn)

theorem pause_qw2 (c d : Cfg) (h : QW2 c d) : QW2 (pause c).1 d := by
  obtain ⟨hs, hpn, _, _⟩ := h.stepping
  obtain ⟨fn, wf, aw, wk, k, hst, hw, _⟩ := h.shape
  refine pause_elim (Q := fun x => QW2 x d) c h (fun x i hx => hx.off (hand_off x i)) (fun _ _ _ _ => ?_)
    (fun _ hs' _ _ _ => absurd (hs.symm.trans hs') (by decide))
  have o := requestInterrupt_off c .pause
  obtain ⟨r5, r6, _⟩ := requestInterrupt_pause c
  exact (h.frame ⟨sh_of_off o, o.st, requestInterrupt_wfs_of_interrupted c hst hw, o.pc⟩ r6 r5 (o.paused.trans hpn)).off
    (Off.set (requestInterrupt c .pause) .pausing (requestInterrupt c .pause).interrupt)

theorem play_qw2 (c d : Cfg) (h : QW2 c d) : QW2 (play c).1 d := by
  obtain ⟨_, _, _, hio⟩ := h.stepping
  obtain ⟨_, _, _, _, _, _, _, _, _, hi⟩ := h.shape
  obtain ⟨f, hio', hp⟩ := play_shape c
  exact h.frame f (by rw [(play_off c).interrupt]; exact hi) (hio' hio) hp

/-- the stepping task notices the interruption: it re-arms the wait (with the parked wake-up, if any) and ends the step, the
pending pause taking effect -/
def rearm (c : Cfg) : Cfg :=
  match c.st with
  | .waiting fn wf _ _ =>
      match c.wfs[wf]? with
      | some (.interrupted k) => wake c fn wf (.interrupted k)
      | _ => c
  | _ => c

theorem tick_qw2 (P : Prog) (c d : Cfg) (h : QW2 c d) (hinv : InvP c) (hI : Inv c) :
    (heldB (rearm c) = true → LagW (tickStepper P c) d) ∧
    (heldB (rearm c) = false → tickDoneN P (fuel0 - 1) d = true → SL P (tickStepper P c) (tickStepper P d)) := by
  obtain ⟨hstep, hpn, hk, hio⟩ := h.stepping
  obtain ⟨fn, wf, aw, wk, k, hst, hw, hpc, hpk, hi⟩ := h.shape
  have hre : rearm c = wake c fn wf (.interrupted k) := by
    unfold rearm; rw [hst]; dsimp only; rw [hw]
  have hwinv := invP_closed.wake c fn wf (.interrupted k) hinv
  rw [tickStepper_wait_done P c fn wf wk aw (.interrupted k) hpc hst hw nofun, hre]
  rw [wake_interrupted_dispatch c fn wf k fn wk aw hst hi] at hwinv ⊢
  -- through the view both runs are suspended on waits with the same outcome
  have hv := h.view
  rw [unint_int c fn wf wk aw k hst hw] at hv
  obtain ⟨fn0, aw0, wf', w, hst0, hst', hpd, hcw, hdw, hni⟩ := hv.at_wait hpc
  cases hst0
  obtain rfl : wk.getD .pending = w := Option.some.inj ((setAt_self_get c.wfs wf _ _ hw).symm.trans hcw)
  have hlive : terminal d.st.label = false := by rw [hst']; rfl
  have hcl : d.closed = false := (congrArg ShRec.closed hv.core.sh).symm.trans (not_closed_of_live hI (by rw [hst]; rfl))
  have hdstep : d.stepping = true := (congrArg ShRec.stepping hv.core.sh).symm.trans hstep
  -- the run with pauses re-arms its wait and ends the step; `d` is ahead of that by the stepping flag
  have hm := endNone_mid { c with st := .waiting fn c.wfs.length none aw, wfs := c.wfs ++ [wk.getD .pending] } d
    ⟨hv.core.sh, Or.inr ⟨fn, c.wfs.length, aw, wf', wk.getD .pending, rfl, hst', by simp, hdw, hni⟩, hv.core.ckill,
      hv.core.dint, hv.core.dpaused⟩ (hio.of_eq rfl rfl) hlive (.of_pc hpc) (.of_pc hpd)
  have hdeq := unfinished_eq d (.awaitWaiting wf') hdstep hv.core.dint hpd
  generalize finally_ (dispatch { c with st := .waiting fn c.wfs.length none aw, wfs := c.wfs ++ [wk.getD .pending] } none) = e
    at hm hwinv ⊢
  obtain ⟨wfe, hest, hewf⟩ : ∃ wfe, e.st = .waiting fn wfe none aw ∧ e.wfs[wfe]? = some (wk.getD .pending) := by
    rcases hm.core.st with ⟨heq, hnw⟩ | ⟨fn0, wfe, aw0, wf0, w0, h1, h2, h3, h4, _⟩
    · exact absurd (heq.trans hst') (hnw _ _ _ _)
    · cases hst'.symm.trans h2
      cases Option.some.inj (hdw.symm.trans h4)
      exact ⟨wfe, h1, h3⟩
  have hlivee : terminal e.st.label = false := by rw [hest]; rfl
  have hcle : e.closed = false := (congrArg ShRec.closed hm.core.sh).trans hcl
  constructor
  · intro hh
    obtain ⟨pf, hp, hf⟩ := (heldB_iff e).mp hh
    rw [fuel0_succ, loopHead_blocked P _ e pf hm.ncc hlivee hcle hp hf]
    have := inStep_onWait_intro _ _ (hm.setPc pf) fn wfe wf' none aw hest hst'
    rw [hdeq] at this
    exact ⟨rfl, by show isWaiting e.st = true; rw [hest]; rfl, hm.stepping, hm.int, this⟩
  · intro hh hD
    have hpe : e.paused = none := by
      cases hpa : e.paused with
      | none => rfl
      | some pf => exact absurd (hwinv.pausedPending hlivee pf hpa) (Unheld.of_heldB hh pf hpa)
    rw [fuel0_succ, loopHead_step P _ e hm.ncc hlivee hcle hpe]
    by_cases hwp : wk.getD .pending = .pending
    · rw [hwp] at hewf hdw
      rw [stepBodyK_waiting_pending P _ e fn wfe none aw hest hewf, tickStepper_wait_pending P d wf' hpd hdw,
        ← onWait_eq_of_paused_none e fn wfe none aw hest hpe]
      have := inStep_onWait_intro _ _ hm fn wfe wf' none aw hest hst'
      rw [hdeq] at this
      exact Or.inl this
    · -- both resume the wait in this tick, the run with pauses one loop iteration later
      have hde := tickEntry_wait_done d fn wf' none aw _ hpd hst' hdw hwp
      rw [stepBodyK_waiting_done P _ e fn wfe none aw _ hest hewf hwp, ← tickF_fuel0 P d, (tick_entry P d _ hde).1]
      rw [tickDoneN_entry P _ d (by rw [hpd]; rfl), hde] at hD
      rw [(loop_mono_le P _ _ hD fuel0 (by unfold fuel0; omega)).2]
      have hc2 := core_stepping _ _ true hm.core
      rw [unfinished_eq d d.pc hdstep hv.core.dint rfl] at hc2
      exact loopHead_sim P (fuel0 - 1) (fuel0 - 1) _ _ (Nat.le_refl _) (by unfold fuel0; omega)
        (mid_of_end (wake_core { e with stepping := true } d fn wfe wf' _ hc2 (IntOk.of_none hm.int) hni hwp) hm.ncc
          (.of_pc hpd))
        (invP_closed.wake _ _ _ _ (hwinv.same ⟨rfl, rfl, rfl, rfl⟩)) hD

/-- a position at which `C05_transparent_partial3` admits a wake-up request: every position at which the stepping task is not
suspended on a pause future (quiet, or between an interrupting pause request and the next tick), and those of `wakeOk` -/
def wakeOk3 (g : Bool) (c : Cfg) : Bool := !heldPc c || g || pendingWait c

def evAllowed3 (g : Bool) (c : Cfg) (e : Ev) : Bool :=
  match e with
  | .tick | .pause | .play => true
  | e => isWake e && wakeOk3 g c

def nextG3 (g : Bool) (c : Cfg) (e : Ev) : Bool :=
  match e with
  | .tick => if heldPc c then !runsBody c && g else (waitInterrupted c && heldB (rearm c))
  | .pause | .play => g
  | _ => if heldPc c then true else g

def admissible3 (P : Prog) : Bool → Cfg → List Ev → Bool
  | _, _, [] => true
  | g, c, e :: es => evAllowed3 g c e && admissible3 P (nextG3 g c e) (step P c e).1 es

/-- image of one event in the reference history: as `evImage2`, and the tick at which the stepping task re-arms an interrupted
wait and is then held by the pause is dropped (the reference run resumes the wait when the other run is released) -/
def evImage3 (g : Bool) (c : Cfg) : Ev → List Ev
  | .pause => []
  | .play => []
  | .tick =>
      if heldPc c then (if g && runsBody c then [.tick] else [])
      else if waitInterrupted c && heldB (rearm c) then [] else [.tick]
  | e => [e]

def unpaused3 (P : Prog) : Bool → Cfg → List Ev → List Ev
  | _, _, [] => []
  | g, c, e :: es => evImage3 g c e ++ unpaused3 P (nextG3 g c e) (step P c e).1 es

def Sim3 (P : Prog) (g : Bool) (c d : Cfg) : Prop :=
  (g = true ∧ LagW c d) ∨ ((g = false ∨ heldPc c = false) ∧ (InStep c d ∨ QW2 c d ∨ Lag P c d))

theorem Sim.to3 {P : Prog} {c d : Cfg} (h : Sim P c d) : InStep c d ∨ QW2 c d ∨ Lag P c d := by
  rcases h with h | h | h
  · exact Or.inl h
  · exact Or.inr (Or.inl (qw_to_qw2 h))
  · exact Or.inr (Or.inr h)

theorem Sim.sim3 {P : Prog} {c d : Cfg} (h : Sim P c d) : Sim3 P false c d := .inr ⟨.inl rfl, h.to3⟩
theorem Sim2.sim3 {P : Prog} {g : Bool} {c d : Cfg} (h : Sim2 P g c d) : Sim3 P g c d := h.imp id fun ⟨h1, h2⟩ => ⟨h1, h2.to3⟩

theorem inStep_not_held {c d : Cfg} (h : InStep c d) : heldPc c = false ∧ waitInterrupted c = false := by
  refine ⟨h.not_awaitPaused.1, ?_⟩
  · unfold waitInterrupted
    split
    · rename_i fn wf wk aw hst
      obtain ⟨wf', w, _, _, hcw, _, hni⟩ := h.core.st.waiting_inv hst
      rw [hcw]
      cases w <;> first | rfl | exact absurd rfl (hni _)
    · rfl

theorem qw2_not_held {c d : Cfg} (h : QW2 c d) : heldPc c = false ∧ waitInterrupted c = true := by
  obtain ⟨fn, wf, aw, wk, k, hst, hw, hpc, _⟩ := h.shape
  exact ⟨by simp [heldPc, hpc, isAwaitPaused], by simp only [waitInterrupted, hst, hw]⟩

theorem wake_evImage3 (c : Cfg) (e : Ev) (h : isWake e = true) (g : Bool) : evImage3 g c e = [e] := by
  cases e <;> first | rfl | cases h
theorem wake_nextG3 (c : Cfg) (e : Ev) (h : isWake e = true) (g : Bool) : nextG3 g c e = if heldPc c then true else g := by
  cases e <;> first | rfl | cases h

theorem fuelOkN_tick (P : Prog) (n : Nat) (d : Cfg) (h : fuelOkN P n d [.tick] = true) : tickDoneN P n d = true := by
  simpa [fuelOkN] using h

theorem tickDone_of_slack (P : Prog) (d : Cfg) (h : fuelOkN P (fuel0 - 1) d [.tick] = true) : tickDone P d = true :=
  tickDoneN_fuel0 P d ▸ tickDoneN_le P _ _ (Nat.sub_le _ _) d (fuelOkN_tick P _ d h)

theorem class3_eq2 (g : Bool) (c : Cfg) (e : Ev) (h : heldPc c = true ∨ waitInterrupted c = false) :
    evAllowed3 g c e = evAllowed2 g c e ∧ evImage3 g c e = evImage2 g c e ∧ nextG3 g c e = nextG g c e := by
  have hq : quiet c = !heldPc c := by
    rcases h with h | h
    · rw [quiet_not_held c h, h]; rfl
    · simp [quiet, heldPc, h]
  cases hh : heldPc c with
  | true => cases e <;> simp [evAllowed3, evAllowed2, wakeOk3, wakeOk, evImage3, evImage2, nextG3, nextG, hq, hh]
  | false =>
    have hwi : waitInterrupted c = false := h.resolve_left (by rw [hh]; decide)
    cases e <;> simp [evAllowed3, evAllowed2, wakeOk3, wakeOk, evImage3, evImage2, nextG3, nextG, hq, hh, hwi]

theorem step_sim3 (P : Prog) (g : Bool) (c d : Cfg) (e : Ev) (h : Sim3 P g c d) (hinv : InvP c) (hI : Inv c)
    (ha : evAllowed3 g c e = true) (hf : fuelOkN P (fuel0 - 1) d (evImage3 g c e) = true) :
    Sim3 P (nextG3 g c e) (step P c e).1 (run P d (evImage3 g c e)) := by
  -- every phase but `QW2` is a phase of the second class
  have of2 : (heldPc c = true ∨ waitInterrupted c = false) → Sim2 P g c d →
      Sim3 P (nextG3 g c e) (step P c e).1 (run P d (evImage3 g c e)) := fun hq h2 => by
    obtain ⟨e1, e2, e3⟩ := class3_eq2 g c e hq
    rw [e2] at hf ⊢
    rw [e3]
    exact (step_sim2 P g c d e h2 hinv hI (e1 ▸ ha) (fuelOkN_le P _ (Nat.sub_le _ _) _ d hf)).sim3
  rcases h with ⟨hg, hl⟩ | ⟨hc, hs | hs | hs⟩
  · exact of2 (.inl hl.pc) (.inl ⟨hg, hl⟩)
  · exact of2 (.inr (inStep_not_held hs).2) (.inr ⟨hc, .inl hs⟩)
  · obtain ⟨hh, hwi⟩ := qw2_not_held hs
    have hc' : ∀ c' : Cfg, c'.pc = c.pc → g = false ∨ heldPc c' = false := fun c' hpc => .inr (by rw [heldPc, hpc]; exact hh)
    rcases allowedIf_cases (b := wakeOk3 g c) ha with rfl | rfl | rfl | ⟨hw, _⟩
    · cases hb : heldB (rearm c) with
      | true =>
        rw [show evImage3 g c .tick = [] by simp [evImage3, hh, hwi, hb],
          show nextG3 g c .tick = true by simp [nextG3, hh, hwi, hb]]
        exact Or.inl ⟨rfl, (tick_qw2 P c d hs hinv hI).1 hb⟩
      | false =>
        rw [show evImage3 g c .tick = [.tick] by simp [evImage3, hh, hwi, hb]] at hf ⊢
        rw [show nextG3 g c .tick = false by simp [nextG3, hh, hwi, hb]]
        exact Or.inr ⟨Or.inl rfl, ((tick_qw2 P c d hs hinv hI).2 hb (fuelOkN_tick P _ d hf)).sim.to3⟩
    · exact Or.inr ⟨hc' _ (pause_off c).pc, Or.inr (Or.inl (pause_qw2 c d hs))⟩
    · exact Or.inr ⟨hc' _ (play_off c).pc, Or.inr (Or.inl (play_qw2 c d hs))⟩
    · rw [wake_evImage3 c e hw g, wake_nextG3 c e hw g, hh]
      exact Or.inr ⟨hc' _ (wake_hf P c e hw).1, Or.inr (Or.inl (wake_qw2 P c d e hw hs))⟩
  · exact of2 (.inl hs.1) (.inr ⟨hc, .inr (.inr hs)⟩)

theorem run_sim3 (P : Prog) : ∀ (evs : List Ev) (g : Bool) (c d : Cfg), Sim3 P g c d → InvP c → Inv c →
    admissible3 P g c evs = true → fuelOkN P (fuel0 - 1) d (unpaused3 P g c evs) = true →
    ∃ g', Sim3 P g' (run P c evs) (run P d (unpaused3 P g c evs)) := by
  intro evs
  induction evs with
  | nil => intro g c d h _ _ _ _; exact ⟨g, h⟩
  | cons e es ih =>
    intro g c d h hinv hI ha hf
    simp only [admissible3, Bool.and_eq_true] at ha
    simp only [unpaused3, fuelOkN_append, Bool.and_eq_true] at hf
    rw [show run P c (e :: es) = run P (step P c e).1 es from rfl]
    simp only [unpaused3, run_append]
    exact ih _ _ _ (step_sim3 P g c d e h hinv hI ha.1 hf.1) (invP_closed.step P c e hinv) (inv_closed.step P c e hI) ha.2 hf.2

theorem sim3_init (P : Prog) (nf : Nat) : Sim3 P false (init nf) (init nf) := Or.inr ⟨Or.inl rfl, (sim_init P nf).to3⟩


/-- what every phase of every class says about a terminated process and about the executed steps -/
structure Weak (c d : Cfg) : Prop where
  term : terminal c.st.label = true → d.st = c.st ∧ sh d = sh c
  trace : TraceExt c d

theorem Core.st_of_terminal {c d : Cfg} (h : Core c d) (ht : terminal c.st.label = true) : d.st = c.st := by
  rcases h.st with ⟨heq, _⟩ | ⟨fn, wf, aw, wf', w, h1, _⟩
  · exact heq.symm
  · rw [h1] at ht; cases ht

theorem InStep.weak {c d : Cfg} (h : InStep c d) : Weak c d :=
  ⟨fun ht => ⟨h.core.st_of_terminal ht, h.core.sh.symm⟩, .of_eq (congrArg ShRec.trace h.core.sh).symm⟩

theorem Lag.weak {P : Prog} {c d : Cfg} (h : Lag P c d) : Weak c d := by
  obtain ⟨_, d0, n, _, hD, hd, hm⟩ := h
  refine ⟨fun ht => ?_, ?_⟩
  · obtain ⟨n', rfl⟩ := loopDone_pos hD
    have h0 := hm.core.st_of_terminal ht
    rw [hd, loopHead_term P n' d0 hm.ncd (by rw [h0]; exact ht)]
    exact ⟨h0, hm.core.sh.symm⟩
  · rw [hd]
    exact ((H6.trext_closed c).loopHead P n d0 ⟨[], (congrArg ShRec.trace hm.core.sh).symm⟩).ext

/-- a phase that is `InStep` through a view (`onWait`, `unint`) of a live configuration -/
theorem Weak.of_view {c d : Cfg} (v : Cfg → Cfg) {W : List Fld} (o : Off W c (v c)) (hl : terminal c.st.label = false)
    (h : InStep (v c) d) (hW : Fld.trace ∉ W := by decide) : Weak c d :=
  ⟨fun ht => absurd (hl.symm.trans ht) (by decide), .of_eq ((congrArg ShRec.trace h.core.sh).symm.trans (o.trace hW))⟩

theorem Sim3.weak {P : Prog} {g : Bool} {c d : Cfg} (h : Sim3 P g c d) : Weak c d := by
  rcases h with ⟨_, hl⟩ | ⟨_, hs | hs | hs⟩
  · exact .of_view onWait (onWait_off c) hl.live hl.view
  · exact hs.weak
  · obtain ⟨fn, wf, aw, wk, k, hst, _⟩ := hs.shape
    exact .of_view unint (unint_off c) (by rw [hst]; rfl) hs.view
  · exact Lag.weak hs

theorem Sim.of_terminal {P : Prog} {c d : Cfg} (h : Sim P c d) (ht : terminal c.st.label = true) : d.st = c.st ∧ sh d = sh c :=
  h.sim3.weak.term ht
theorem Sim2.of_terminal {P : Prog} {g : Bool} {c d : Cfg} (h : Sim2 P g c d) (ht : terminal c.st.label = true) :
    d.st = c.st ∧ sh d = sh c := h.sim3.weak.term ht
theorem Sim3.of_terminal {P : Prog} {g : Bool} {c d : Cfg} (h : Sim3 P g c d) (ht : terminal c.st.label = true) :
    d.st = c.st ∧ sh d = sh c := h.weak.term ht

theorem Sim.never_ahead {P : Prog} {c d : Cfg} (h : Sim P c d) : TraceExt c d := h.sim3.weak.trace
theorem Sim2.never_ahead {P : Prog} {g : Bool} {c d : Cfg} (h : Sim2 P g c d) : TraceExt c d := h.sim3.weak.trace
theorem Sim3.never_ahead {P : Prog} {g : Bool} {c d : Cfg} (h : Sim3 P g c d) : TraceExt c d := h.weak.trace

theorem evImage3_eq (g : Bool) (c : Cfg) (x : Ev) :
    evImage3 g c x = match x with | .pause => [] | .play => [] | .tick => evImage3 g c .tick | e => [e] := by
  cases x <;> rfl

theorem evImage3_tick (g : Bool) (c : Cfg) : evImage3 g c .tick = [] ∨ evImage3 g c .tick = [.tick] := by
  by_cases h1 : heldPc c = true <;> by_cases h2 : (g && runsBody c) = true <;>
    by_cases h3 : (waitInterrupted c && heldB (rearm c)) = true <;> simp [evImage3, h1, h2, h3]

theorem unpaused3_erases (P : Prog) (evs : List Ev) (g : Bool) (c : Cfg) : Erases [] evs (unpaused3 P g c evs) := by
  induction evs generalizing g c with
  | nil => exact .nil
  | cons x rest ih =>
    rw [unpaused3, evImage3_eq]
    exact (ih _ _).image x _ (evImage3_tick g c)

theorem admissible2_sub3 (P : Prog) : ∀ (evs : List Ev) (g g' : Bool) (c : Cfg), (g = true → g' = true) →
    admissible2 P g c evs = true → admissible3 P g' c evs = true := by
  intro evs
  induction evs with
  | nil => intro g g' c _ _; rfl
  | cons x rest ih =>
    intro g g' c hgg h
    simp only [admissible2, Bool.and_eq_true] at h
    simp only [admissible3, Bool.and_eq_true]
    have hng : nextG g c x = true → nextG3 g' c x = true := by
      cases x with
      | tick =>
        simp only [nextG, nextG3]
        intro hh
        simp only [Bool.and_eq_true] at hh
        rw [if_pos hh.1.1, hgg hh.2, hh.1.2]; rfl
      | pause => exact hgg
      | play => exact hgg
      | _ =>
        simp only [nextG, nextG3]
        intro hh
        split
        · rfl
        · rename_i hne
          rw [if_neg hne] at hh
          exact hgg hh
    refine ⟨allowedIf_mono (b := wakeOk g c) (b' := wakeOk3 g' c) (fun hok => ?_) h.1, ih _ _ _ hng h.2⟩
    simp only [wakeOk, Bool.or_eq_true, Bool.and_eq_true] at hok
    simp only [wakeOk3, Bool.or_eq_true, Bool.not_eq_true']
    rcases hok with hq | ⟨_, hg | hp⟩
    · left; left
      cases hh : heldPc c with
      | false => rfl
      | true => rw [quiet_not_held c hh] at hq; cases hq
    · left; right; exact hgg hg
    · right; exact hp
