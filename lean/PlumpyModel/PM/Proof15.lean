import PlumpyModel.PM.Proof12
/-!
# C05 — the unrestricted transparency statement fails for a program that awaits ONE future under TWO context keys

`dupP` registers the external future 0 under the keys 5 and 6 in one `ToContext` and then returns what it finds under key 6.
`dupHist` resumes the wait, completes the future, and pauses so that the stepping task is held at the step boundary *after*
the wait; the future's done-callback runs during the hold.  It is then a callback of a state that was left, and
`awaitableDone` files the result under the key found in `efKeys` (the last one registered: 6); the next step reads it.
Without a pause the callback either runs on the WAITING state (`aw.find?`: the first key, 5) or after the next step has read
the context.  The proof explores all histories over `tick` and the three requests (each once, any order, any number of ticks
anywhere): 44 pairs of a configuration and the requests left, none of them FINISHED with result 3.

(The real `WorkChain.to_context` keeps ONE key per future — a dict keyed by the future —, so the program is outside what the
harness generates and outside `AwDistinct` of `Proof13`; see DESIGN.md, C05.)
-/
namespace PMF

deriving instance DecidableEq for Action
deriving instance DecidableEq for Cfg

def dupP : Prog := fun fn _ _ ctx =>
  match fn with
  | 0 => ⟨0, .ret (.waitOn 1 [(0, 5), (0, 6)])⟩
  | _ => ⟨0, .ret (.stop ((ctx.find? (·.1 = 6)).map (·.2)) true)⟩

def dupHist : List Ev :=
  [.tick, .resume none, .complete 0 (.result 3), .pause, .tick, .tickCb (.adone 0), .play, .tick]

def dupReqs : List Ev := [.resume none, .complete 0 (.result 3), .tickCb (.adone 0)]

/-- a configuration together with the requests not yet issued -/
abbrev DSt := Cfg × List Ev

def dupSuccs (s : DSt) : List DSt :=
  ((step dupP s.1 .tick).1, s.2) :: s.2.map (fun e => ((step dupP s.1 e).1, s.2.erase e))

def dupBfs : Nat → List DSt → List DSt → List DSt
  | 0, seen, _ => seen
  | _+1, seen, [] => seen
  | n+1, seen, s :: todo =>
    let new := ((dupSuccs s).filter (fun t => !(seen.contains t))).eraseDups
    dupBfs n (seen ++ new) (todo ++ new)

def dupReach : List DSt := dupBfs 200 [(init 1, dupReqs)] [(init 1, dupReqs)]

/-- the exploration, evaluated once for the three facts read off it -/
theorem dupReach_spec : (init 1, dupReqs) ∈ dupReach ∧ ∀ s ∈ dupReach, (∀ t ∈ dupSuccs s, t ∈ dupReach) ∧
    tickDone dupP s.1 = true ∧ (s.2 = [] → s.1.st ≠ .finished (some 3) true) := by decide +kernel

theorem dupReach_run : ∀ (evs : List Ev) (c : Cfg) (rem : List Ev), (c, rem) ∈ dupReach →
    (evs.filter (fun e => !isTick e)).Perm rem →
    fuelOk dupP c evs = true ∧ (run dupP c evs, []) ∈ dupReach := by
  intro evs
  induction evs with
  | nil =>
    intro c rem hm hp
    have : rem = [] := by simpa using hp.symm
    subst this
    exact ⟨rfl, hm⟩
  | cons e es ih =>
    intro c rem hm hp
    obtain ⟨hstep, hd, _⟩ := dupReach_spec.2 _ hm
    by_cases ht : e = .tick
    · subst ht
      have hp' : (es.filter (fun e => !isTick e)).Perm rem := by simpa [isTick] using hp
      obtain ⟨i1, i2⟩ := ih _ _ (hstep _ (List.mem_cons_self ..)) hp'
      refine ⟨?_, i2⟩
      simp only [fuelOk, hd, Bool.true_and]
      exact i1
    · have hnt : isTick e = false := by cases e <;> first | rfl | exact absurd rfl ht
      have hp' : (e :: es.filter (fun e => !isTick e)).Perm rem := by simpa [List.filter, hnt] using hp
      obtain ⟨hmem, hp2⟩ := List.cons_perm_iff_perm_erase.mp hp'
      obtain ⟨i1, i2⟩ := ih _ _ (hstep _ (List.mem_cons_of_mem _ (List.mem_map.mpr ⟨e, hmem, rfl⟩))) hp2
      refine ⟨?_, i2⟩
      have : fuelOk dupP c (e :: es) = fuelOk dupP (step dupP c e).1 es := by
        cases e <;> first | rfl | exact absurd rfl ht
      rw [this]; exact i1

/-- no history without pause and play that issues the three requests of `dupHist` once each (in any order, with any ticks)
ends FINISHED with result 3 — and none of them exhausts the fuel -/
theorem dup_no_reference (evs : List Ev) (hp : (evs.filter (fun e => !isTick e)).Perm dupReqs) :
    fuelOk dupP (init 1) evs = true ∧ (run dupP (init 1) evs).st ≠ .finished (some 3) true := by
  obtain ⟨h1, h2⟩ := dupReach_run evs (init 1) dupReqs dupReach_spec.1 hp
  exact ⟨h1, (dupReach_spec.2 _ h2).2.2 rfl⟩

theorem dupHist_result : (run dupP (init 1) dupHist).st = .finished (some 3) true := by decide +kernel
theorem dupHist_reqs : (erasePP dupHist).filter (fun e => !isTick e) = dupReqs := by decide +kernel

end PMF
