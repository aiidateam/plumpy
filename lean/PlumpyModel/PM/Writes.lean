import PlumpyModel.PM.Events
/-!
# What each function of the process-control model writes

`Off W c c'`: the configuration `c'` is `c` except possibly in the fields named in `W`.  Every function of `PM/Model.lean` below `step`
gets one lemma `f_off : Off W c (f c)` with its write set `W`; a relation that says "these fields are unchanged" then
holds of `c` and `f c` as soon as its fields are disjoint from `W` (a closed side condition, `by decide`).

A function with nested conditionals is first split once, by an eliminator whose callbacks get the conditions under which their
branch is reached: `deliver_elim`, `awaitableDone_elim`, `Enters` / `transitionTo_elim` for `transition_to`, and `pause_elim` /
`kill_elim` / `tickCb_elim`, which are those of `PM/Events.lean` at the carrier of `PM/Model.lean`.  Its write set is the first use;
a proof that follows the flow of one of these functions uses the eliminator directly.
-/
namespace PMF

inductive Fld
  | st | stepping | actions | handed | pausing | killing | interrupt | nextCookie | wfs | pfs | paused | fut | futHasKillCb
  | closed | cleanups | efs | efCb | efKeys | ctx | ready | pc | entered | notif | trace | loopErrs
deriving DecidableEq

abbrev Fld.type : Fld → Type
  | .st => SObj | .stepping => Bool | .actions => List Action | .handed => List Nat | .pausing => Option Nat
  | .killing => Option Nat | .interrupt => Option Nat | .nextCookie => Nat | .wfs => List WF | .pfs => List Bool
  | .paused => Option Nat | .fut => PFut | .futHasKillCb => Bool | .closed => Bool | .cleanups => Nat | .efs => List EFut
  | .efCb => List Nat | .efKeys => List (Nat × Nat) | .ctx => List (Nat × Val) | .ready => List Cb | .pc => Pc
  | .entered => List Label | .notif => List Notif | .trace => List Act | .loopErrs => List Exc

abbrev Cfg.get (c : Cfg) : (f : Fld) → f.type
  | .st => c.st | .stepping => c.stepping | .actions => c.actions | .handed => c.handed | .pausing => c.pausing
  | .killing => c.killing | .interrupt => c.interrupt | .nextCookie => c.nextCookie | .wfs => c.wfs | .pfs => c.pfs
  | .paused => c.paused | .fut => c.fut | .futHasKillCb => c.futHasKillCb | .closed => c.closed | .cleanups => c.cleanups
  | .efs => c.efs | .efCb => c.efCb | .efKeys => c.efKeys | .ctx => c.ctx | .ready => c.ready | .pc => c.pc
  | .entered => c.entered | .notif => c.notif | .trace => c.trace | .loopErrs => c.loopErrs

abbrev Cfg.set (c : Cfg) : (f : Fld) → f.type → Cfg
  | .st, v => { c with st := v }
  | .stepping, v => { c with stepping := v }
  | .actions, v => { c with actions := v }
  | .handed, v => { c with handed := v }
  | .pausing, v => { c with pausing := v }
  | .killing, v => { c with killing := v }
  | .interrupt, v => { c with interrupt := v }
  | .nextCookie, v => { c with nextCookie := v }
  | .wfs, v => { c with wfs := v }
  | .pfs, v => { c with pfs := v }
  | .paused, v => { c with paused := v }
  | .fut, v => { c with fut := v }
  | .futHasKillCb, v => { c with futHasKillCb := v }
  | .closed, v => { c with closed := v }
  | .cleanups, v => { c with cleanups := v }
  | .efs, v => { c with efs := v }
  | .efCb, v => { c with efCb := v }
  | .efKeys, v => { c with efKeys := v }
  | .ctx, v => { c with ctx := v }
  | .ready, v => { c with ready := v }
  | .pc, v => { c with pc := v }
  | .entered, v => { c with entered := v }
  | .notif, v => { c with notif := v }
  | .trace, v => { c with trace := v }
  | .loopErrs, v => { c with loopErrs := v }

structure Off (W : List Fld) (c c' : Cfg) : Prop where
  get : ∀ f, f ∉ W → c'.get f = c.get f

theorem Off.rfl' {W : List Fld} (c : Cfg) : Off W c c := ⟨fun _ _ => rfl⟩

theorem Off.trans {W W' : List Fld} {a b c : Cfg} (h1 : Off W a b) (h2 : Off W' b c) : Off (W ++ W') a c :=
  ⟨fun f hf => (h2.get f fun h => hf (List.mem_append_right _ h)).trans (h1.get f fun h => hf (List.mem_append_left _ h))⟩

theorem Off.mono {W W' : List Fld} {c c' : Cfg} (h : Off W c c') (hs : ∀ f ∈ W, f ∈ W') : Off W' c c' :=
  ⟨fun f hf => h.get f fun hm => hf (hs f hm)⟩

theorem Off.trans' {W : List Fld} {a b c : Cfg} (h1 : Off W a b) (h2 : Off W b c) : Off W a c :=
  (h1.trans h2).mono fun _ hf => (List.mem_append.mp hf).elim id id

section
variable {W : List Fld} {c c' : Cfg} (o : Off W c c')
include o
theorem Off.st (hW : Fld.st ∉ W := by decide) : c'.st = c.st := o.get .st hW
theorem Off.stepping (hW : Fld.stepping ∉ W := by decide) : c'.stepping = c.stepping := o.get .stepping hW
theorem Off.actions (hW : Fld.actions ∉ W := by decide) : c'.actions = c.actions := o.get .actions hW
theorem Off.handed (hW : Fld.handed ∉ W := by decide) : c'.handed = c.handed := o.get .handed hW
theorem Off.pausing (hW : Fld.pausing ∉ W := by decide) : c'.pausing = c.pausing := o.get .pausing hW
theorem Off.killing (hW : Fld.killing ∉ W := by decide) : c'.killing = c.killing := o.get .killing hW
theorem Off.interrupt (hW : Fld.interrupt ∉ W := by decide) : c'.interrupt = c.interrupt := o.get .interrupt hW
theorem Off.nextCookie (hW : Fld.nextCookie ∉ W := by decide) : c'.nextCookie = c.nextCookie := o.get .nextCookie hW
theorem Off.wfs (hW : Fld.wfs ∉ W := by decide) : c'.wfs = c.wfs := o.get .wfs hW
theorem Off.pfs (hW : Fld.pfs ∉ W := by decide) : c'.pfs = c.pfs := o.get .pfs hW
theorem Off.paused (hW : Fld.paused ∉ W := by decide) : c'.paused = c.paused := o.get .paused hW
theorem Off.fut (hW : Fld.fut ∉ W := by decide) : c'.fut = c.fut := o.get .fut hW
theorem Off.futHasKillCb (hW : Fld.futHasKillCb ∉ W := by decide) : c'.futHasKillCb = c.futHasKillCb := o.get .futHasKillCb hW
theorem Off.closed (hW : Fld.closed ∉ W := by decide) : c'.closed = c.closed := o.get .closed hW
theorem Off.cleanups (hW : Fld.cleanups ∉ W := by decide) : c'.cleanups = c.cleanups := o.get .cleanups hW
theorem Off.efs (hW : Fld.efs ∉ W := by decide) : c'.efs = c.efs := o.get .efs hW
theorem Off.efCb (hW : Fld.efCb ∉ W := by decide) : c'.efCb = c.efCb := o.get .efCb hW
theorem Off.efKeys (hW : Fld.efKeys ∉ W := by decide) : c'.efKeys = c.efKeys := o.get .efKeys hW
theorem Off.ctx (hW : Fld.ctx ∉ W := by decide) : c'.ctx = c.ctx := o.get .ctx hW
theorem Off.ready (hW : Fld.ready ∉ W := by decide) : c'.ready = c.ready := o.get .ready hW
theorem Off.pc (hW : Fld.pc ∉ W := by decide) : c'.pc = c.pc := o.get .pc hW
theorem Off.entered (hW : Fld.entered ∉ W := by decide) : c'.entered = c.entered := o.get .entered hW
theorem Off.notif (hW : Fld.notif ∉ W := by decide) : c'.notif = c.notif := o.get .notif hW
theorem Off.trace (hW : Fld.trace ∉ W := by decide) : c'.trace = c.trace := o.get .trace hW
theorem Off.loopErrs (hW : Fld.loopErrs ∉ W := by decide) : c'.loopErrs = c.loopErrs := o.get .loopErrs hW
end

/-- closes `Off W c c'` when `c'` is syntactically `c` with fields of `W` replaced: a field outside `W` is unchanged by
`rfl`, a field of `W` contradicts `f ∉ W` -/
macro "off_fields" : tactic => `(tactic| (refine ⟨fun f hf => ?_⟩; cases f <;> first | eq_refl | exact absurd (by decide) hf))

/-- a configuration from its fields: with `c.set f v` in this form `Off.set` takes one case split on the field written and one on the
field read, not one on the pair -/
def Cfg.ofFn (h : (f : Fld) → f.type) : Cfg :=
  ⟨h .st, h .stepping, h .actions, h .handed, h .pausing, h .killing, h .interrupt, h .nextCookie, h .wfs, h .pfs, h .paused,
   h .fut, h .futHasKillCb, h .closed, h .cleanups, h .efs, h .efCb, h .efKeys, h .ctx, h .ready, h .pc, h .entered, h .notif,
   h .trace, h .loopErrs⟩

theorem Cfg.get_ofFn (h : (f : Fld) → f.type) (g : Fld) : (Cfg.ofFn h).get g = h g := by
  cases g <;> eq_refl

theorem Cfg.set_eq_ofFn (c : Cfg) (f : Fld) (v : f.type) :
    c.set f v = Cfg.ofFn fun g => if e : g = f then e ▸ v else c.get g := by
  cases f <;> eq_refl

theorem Off.set (c : Cfg) (f : Fld) (v : f.type) : Off [f] c (c.set f v) :=
  ⟨fun g hg => by rw [Cfg.set_eq_ofFn, Cfg.get_ofFn, dif_neg (mt List.mem_singleton.mpr hg)]⟩

theorem Off.setIn {W : List Fld} (c : Cfg) (f : Fld) (v : f.type) (hW : f ∈ W := by decide) : Off W c (c.set f v) :=
  (Off.set c f v).mono fun _ h => List.mem_singleton.mp h ▸ hW

theorem ite_of {α} {I : α → Prop} {p : Prop} [Decidable p] {a b : α} (ha : p → I a) (hb : ¬p → I b) :
    I (if p then a else b) :=
  if h : p then if_pos h ▸ ha h else if_neg h ▸ hb h

theorem Off.ite {W : List Fld} {c a b : Cfg} {p : Prop} [Decidable p] (ha : Off W c a) (hb : Off W c b) :
    Off W c (if p then a else b) :=
  ite_of (fun _ => ha) fun _ => hb

/-- for the control calls, which return the configuration paired with a result -/
theorem Off.ite_fst {W : List Fld} {c : Cfg} {α} {x y : Cfg × α} {p : Prop} [Decidable p] (hx : Off W c x.1)
    (hy : Off W c y.1) : Off W c (if p then x else y).1 :=
  ite_of (I := fun r : Cfg × α => Off W c r.1) (fun _ => hx) fun _ => hy

section
variable (c : Cfg)

theorem setActionStatus_off (i s) : Off [.actions] c (setActionStatus c i s) := by
  unfold setActionStatus; split
  · exact Off.set c .actions _
  · exact Off.rfl' c
theorem cancelAction_off (i) : Off [.actions] c (cancelAction c i) :=
  Off.ite (setActionStatus_off ..) (Off.rfl' c)
theorem cancelInterrupt_off : Off [.actions] c (cancelInterrupt c) := by
  unfold cancelInterrupt; split
  · exact cancelAction_off ..
  · exact Off.rfl' c
theorem setInterrupt_off (n) : Off [.actions, .interrupt] c (setInterrupt c n) :=
  (cancelInterrupt_off c).trans (Off.set _ .interrupt _)
theorem setInterrupt_interrupt (n) : (setInterrupt c n).interrupt = n := rfl
theorem setInterruptFromExc_off (k n) : Off [.actions, .interrupt] c (setInterruptFromExc c k n) :=
  ((cancelInterrupt_off c).trans' (Off.set _ .actions (_ ++ [⟨k, n, .pending⟩]))).trans (Off.set _ .interrupt _)
theorem freshFutIfCancelled_off : Off [.fut, .futHasKillCb] c (freshFutIfCancelled c) :=
  Off.ite ((Off.set c .fut .pending).trans (Off.set _ .futHasKillCb _)) (Off.rfl' c)
theorem setFutExc_off (e) : Off [.fut, .futHasKillCb] c (setFutExc c e) :=
  Off.trans' (Off.ite ((Off.set c .fut .pending).trans (Off.set _ .futHasKillCb _)) (Off.rfl' c)) (Off.setIn _ .fut _)
theorem onClose_off : Off [.closed, .cleanups] c (onClose c) :=
  Off.ite (Off.rfl' c) ((Off.set c .closed true).trans (Off.set _ .cleanups _))
theorem releasePause_off : Off [.pfs] c (releasePause c) := by
  unfold releasePause; split
  · exact Off.ite (Off.set c .pfs _) (Off.rfl' c)
  · exact Off.rfl' c
theorem onTerminated_off : Off [.pfs, .closed, .cleanups] c (onTerminated c) :=
  (releasePause_off c).trans (onClose_off _)
/-- `Waiting.exit`: only a WAITING state does something when it is left — its wait, if still pending, is completed with a result,
and the done-callbacks of its awaitables are dropped -/
theorem exitState_elim {Q : Cfg → Prop} (h : (∀ fn wf wk aw, c.st ≠ .waiting fn wf wk aw) → Q c)
    (hdone : ∀ fn wf wk aw, c.st = .waiting fn wf wk aw → c.wfs[wf]? = some .pending →
      Q { c with wfs := setAt c.wfs wf (.result none), efCb := c.efCb.filter fun f => !(aw.any (·.1 = f)) })
    (hleft : ∀ fn wf wk aw, c.st = .waiting fn wf wk aw → c.wfs[wf]? ≠ some .pending →
      Q { c with efCb := c.efCb.filter fun f => !(aw.any (·.1 = f)) }) : Q (exitState c) := by
  unfold exitState; split
  · rename_i fn wf wk aw hst
    dsimp only
    exact ite_of (I := fun d : Cfg => Q { d with efCb := d.efCb.filter fun f => !(aw.any (·.1 = f)) }) (hdone fn wf wk aw hst)
      (hleft fn wf wk aw hst)
  · rename_i hn; exact h hn
theorem exitState_off : Off [.wfs, .efCb] c (exitState c) :=
  exitState_elim c (fun _ => Off.rfl' c)
    (fun _ wf _ _ _ _ => (Off.set c .wfs (setAt c.wfs wf (.result none))).trans (Off.set _ .efCb _))
    fun _ _ _ _ _ _ => Off.setIn c .efCb _
theorem enteringHooks_off {s : SObj} {c2 : Cfg} (h : enteringHooks c s = .ok c2) : Off [.fut, .futHasKillCb] c c2 := by
  have fresh (r : PFut) (h : (if (freshFutIfCancelled c).fut = .pending then Except.ok { freshFutIfCancelled c with fut := r }
      else .error Exc.invalidState) = .ok c2) : Off [.fut, .futHasKillCb] c c2 := by
    by_cases hp : (freshFutIfCancelled c).fut = .pending
    · rw [if_pos hp] at h; cases h; exact (freshFutIfCancelled_off c).trans' (Off.setIn _ .fut _)
    · rw [if_neg hp] at h; cases h
  unfold enteringHooks at h
  split at h
  · exact fresh _ h
  · exact fresh _ h
  · cases h; exact setFutExc_off c _
  · cases h; exact Off.rfl' c
theorem enterState_off (s : SObj) : Off [.efKeys, .efCb, .ready] c (enterState c s) := by
  unfold enterState; split
  · rename_i aw
    induction aw generalizing c with
    | nil => exact Off.rfl' c
    | cons p rest ih =>
      refine Off.trans' ((Off.setIn c .efKeys (p :: c.efKeys)).trans' ?_) (ih _)
      dsimp only
      split
      · exact Off.setIn _ .efCb _
      · exact Off.setIn _ .ready _
      · exact Off.rfl' _
  · exact Off.rfl' c
/-- the entered hooks as two field updates: `on_killed` clears `_killing`; the listeners are told of every state but CREATED -/
theorem enteredHooks_eq (s : SObj) : enteredHooks c s =
    { c with killing := if s.label = .killed then none else c.killing, notif := (enteredNotif s).toList ++ c.notif } := by
  unfold enteredHooks; cases enteredNotif s <;> dsimp only <;> split <;> rfl
theorem enteredHooks_off (s : SObj) : Off [.killing, .notif] c (enteredHooks c s) := by
  rw [enteredHooks_eq]; off_fields
theorem setState_off (s : SObj) : Off [.st, .entered] c (setState c s) :=
  (Off.set c .st s).trans (Off.set _ .entered _)
/-- `Waiting.interrupt`: only a WAITING state whose wait is still pending is interrupted, by completing the wait -/
theorem interruptState_elim {Q : Cfg → Prop} (k : Nat) (h : Q c)
    (hint : ∀ fn wf wk aw, c.st = .waiting fn wf wk aw → c.wfs[wf]? = some .pending →
      Q { c with wfs := setAt c.wfs wf (.interrupted k) }) : Q (interruptState c k) := by
  unfold interruptState; split
  · rename_i fn wf wk aw hst
    exact ite_of (hint fn wf wk aw hst) fun _ => h
  · exact h
theorem interruptState_off (k) : Off [.wfs] c (interruptState c k) :=
  interruptState_elim c k (Off.rfl' c) fun _ _ _ _ _ _ => Off.set c .wfs _
theorem doPauseHooks_off : Off [.pausing, .paused, .pfs, .notif] c (doPauseHooks c) := by off_fields
theorem hand_off (i) : Off [.handed] c (hand c i) :=
  Off.ite (Off.rfl' c) (Off.set c .handed _)
theorem requestInterrupt_off (k) : Off [.nextCookie, .actions, .interrupt, .wfs] c (requestInterrupt c k) := by
  unfold requestInterrupt
  exact (Off.set c .nextCookie _).trans
    ((setInterruptFromExc_off _ _ _).trans (interruptState_off _ _))
/-- the wait futures after `requestInterrupt`: those of `c`, the pending wait (if any) interrupted under the fresh cookie -/
theorem requestInterrupt_wfs (k) : (requestInterrupt c k).wfs = (interruptState c c.nextCookie).wfs := by
  have o := (Off.set c .nextCookie (c.nextCookie + 1)).trans (setInterruptFromExc_off _ k c.nextCookie)
  unfold requestInterrupt interruptState
  rw [o.st, o.wfs]
  split <;> (try split) <;> first | rfl | exact o.wfs
/-- the ways a delivery can go: nothing happens (no WAITING state, or its wait has an outcome, or one is parked already); the
outcome completes the pending wait; the wait carries an interruption and the outcome is parked in the empty wake-up slot -/
theorem deliver_elim {Q : Cfg → Prop} (o : WF) (h : Q c)
    (hstore : ∀ fn wf wk aw, c.st = .waiting fn wf wk aw → c.wfs[wf]? = some .pending → Q { c with wfs := setAt c.wfs wf o })
    (hpark : ∀ fn wf aw k, c.st = .waiting fn wf none aw → c.wfs[wf]? = some (.interrupted k) →
      Q { c with st := .waiting fn wf (some o) aw }) : Q (deliver c o) := by
  unfold deliver
  split
  · rename_i fn wf wk aw hst
    split
    · rename_i hp; exact hstore fn wf wk aw hst hp
    · rename_i k hk
      cases wk with
      | none => exact hpark fn wf aw k hst hk
      | some _ => exact h
    · exact h
  · exact h
theorem deliver_off (o) : Off [.wfs, .st] c (deliver c o) :=
  deliver_elim c o (Off.rfl' c) (fun _ _ _ _ _ _ => Off.setIn c .wfs _) fun _ _ _ _ _ _ => Off.setIn c .st _
theorem cancelFut_off : Off [.fut, .ready] c (cancelFut c).1 :=
  Off.ite_fst ((Off.set c .fut .cancelled).trans (Off.set _ .ready _)) (Off.rfl' c)
theorem complete_off (f o) : Off [.efs, .efCb, .ready] c (complete c f o) := by
  unfold complete; split
  · exact (Off.set c .efs _).trans (Off.ite ((Off.set _ .efCb (c.efCb.erase f)).trans (Off.set _ .ready _)) (Off.rfl' _))
  · exact Off.rfl' c
theorem cmdToState_off (cmd : Cmd) : Off [.wfs] c (cmdToState c cmd).1 := by
  unfold cmdToState; split
  · exact Off.rfl' c
  · exact Off.set c .wfs _
  · exact Off.set c .wfs _
  · exact Off.rfl' c
  · exact Off.rfl' c
/-- the `except` clauses of `step()`: a failed step empties the slot and excepts; a step that returns hands on what it returned;
an interruption finds the action that caused it in the slot, or installs one (interrupted from outside a request) -/
theorem prepare_elim {Q : Cfg × Option SObj → Prop} (r : StepEnd)
    (failed : ∀ e, Q (setInterrupt c none, some (.excepted e)))
    (next : ∀ n, r = .next n → Q (c, n))
    (held : ∀ k i, r = .interruption k → c.interrupt = some i → Q (c, none))
    (fresh : ∀ k, r = .interruption k → c.interrupt = none → Q (setInterruptFromExc c (kindOfCookie c k) k, none)) :
    Q (prepare c r) := by
  unfold prepare
  split
  · exact failed _
  · exact next _ rfl
  · split
    · rename_i i hi; exact held _ i rfl hi
    · rename_i hn; exact fresh _ rfl hn
  · exact failed _
theorem prepare_off (r : StepEnd) : Off [.actions, .interrupt] c (prepare c r).1 :=
  prepare_elim (Q := fun p => Off _ c p.1) c r (fun _ => setInterrupt_off ..) (fun _ _ => Off.rfl' c) (fun _ _ _ _ => Off.rfl' c)
    fun _ _ _ => setInterruptFromExc_off ..
theorem finally_off : Off [.stepping, .actions, .interrupt] c (finally_ c) :=
  (Off.set c .stepping false).trans (setInterrupt_off _ _)
theorem finally_interrupt : (finally_ c).interrupt = none := rfl
theorem finally_stepping : (finally_ c).stepping = false := (setInterrupt_off _ none).stepping
end

theorem prepare_some (c : Cfg) (r : StepEnd) (s : SObj) :
    (prepare c r).2 = some s → (r = .next (some s) ∧ (prepare c r).1 = c) ∨ ∃ e, s = .excepted e := by
  refine prepare_elim (Q := fun p => p.2 = some s → (r = .next (some s) ∧ p.1 = c) ∨ ∃ e, s = .excepted e) c r
    (fun _ h => ?_) (fun _ hr h => ?_) (fun _ _ _ _ => nofun) fun _ _ _ => nofun
  · cases h; exact .inr ⟨_, rfl⟩
  · cases h; exact .inl ⟨hr, rfl⟩

/-- `_awaitable_done` is built from three updates: the future leaves the awaiting set of the current state, a value is
stored in the context, an outcome (a result or a failure, never an interruption) is delivered to the wait -/
theorem awaitableDone_elim {Q : Cfg → Prop} (c : Cfg) (f : Nat) (h : Q c)
    (hctx : ∀ (d : Cfg) key v, Q d → Q { d with ctx := (key, v) :: d.ctx.filter (·.1 ≠ key) })
    (hleave : ∀ fn wf wk aw p, c.st = .waiting fn wf wk aw → aw.find? (·.1 = f) = some p →
      Q { c with st := .waiting fn wf wk (aw.filter (·.1 ≠ f)) })
    (hdel : ∀ d o, (∀ k, o ≠ .interrupted k) → Q d → Q (deliver d o)) : Q (awaitableDone c f) := by
  unfold awaitableDone
  have hold : Q (match c.efKeys.find? (·.1 = f), c.efs[f]? with
      | some (_, key), some (EFut.result v) => { c with ctx := (key, v) :: c.ctx.filter (·.1 ≠ key) }
      | _, _ => c) := by
    split
    · exact hctx c _ _ h
    · exact h
  dsimp only
  split
  · rename_i fn wf wk aw hst
    split
    · exact hold
    · rename_i hfind
      have h1 := hleave fn wf wk aw _ hst hfind
      split
      · split
        · exact hdel _ _ (fun _ hk => nomatch hk) (hctx _ _ _ h1)
        · exact hctx _ _ _ h1
      · exact hdel _ _ (fun _ hk => nomatch hk) h1
      · exact h1
  · exact hold

theorem awaitableDone_off (c : Cfg) (f) : Off [.st, .ctx, .wfs] c (awaitableDone c f) :=
  awaitableDone_elim c f (Off.rfl' c) (fun d _ _ h => h.trans' (Off.setIn d .ctx _)) (fun _ _ _ _ _ _ _ => Off.setIn c .st _)
    fun d o _ h => h.trans' ((deliver_off d o).mono (by decide))

/-- the fields a transition can write: the state object and its log, the futures it completes or resolves, the work chain's
callbacks, the notifications, `_killing` (cleared by `on_killed`), closedness -/
def transW : List Fld :=
  [.st, .entered, .wfs, .efCb, .efKeys, .ready, .fut, .futHasKillCb, .killing, .notif, .pfs, .closed, .cleanups]

/-- on a process that is not closed the forced transition into EXCEPTED is the entered phase of a transition whose entering
hook (`on_except`) cannot fail -/
theorem forceExcepted_open (c : Cfg) (e : Exc) (h : c.closed = false) : forceExcepted c e = enterNext (setFutExc c e) (.excepted e) := by
  unfold forceExcepted; rw [if_neg (by rw [h]; decide)]; rfl
/-- entering a state writes neither the wait futures nor the process future -/
def enterW : List Fld := [.efKeys, .efCb, .ready, .st, .entered, .killing, .notif, .pfs, .closed, .cleanups]

theorem enterNext_off (c : Cfg) (s) : Off enterW c (enterNext c s) :=
  have h := (enterState_off c s).trans ((setState_off _ s).trans (enteredHooks_off _ s))
  Off.ite (h.trans (onTerminated_off _)) (h.mono (by decide))

/-- how `transition_to` from `c` into `s` can go: `d` is the configuration after the exit phase, `s'` the state that is entered
in the end — the requested one along an allowed edge; or EXCEPTED, because the edge is not allowed (there is no exit phase then)
or because the entering hook of `s` failed -/
inductive Enters (c : Cfg) (s : SObj) : Cfg → SObj → Prop
  | ok : s.label ∈ allowed c.st.label → Enters c s (exitState c) s
  | refused (e : Exc) : s.label ∉ allowed c.st.label → Enters c s c (.excepted e)
  | failed (e : Exc) : s.label ∈ allowed c.st.label → Enters c s (exitState c) (.excepted e)

theorem Enters.off {c d : Cfg} {s s' : SObj} (h : Enters c s d s') : Off [.wfs, .efCb] c d := by
  cases h
  · exact exitState_off c
  · exact Off.rfl' c
  · exact exitState_off c

/-- `transition_to`, traversed once: a closed process only has its state object replaced; otherwise the entering hooks of the
state entered in the end succeed (those of EXCEPTED cannot fail) and it is entered -/
theorem transitionTo_elim {Q : Cfg → Prop} (c : Cfg) (s : SObj)
    (hclosed : c.closed = true → ∀ d s', Enters c s d s' → Q { d with st := s' })
    (hopen : c.closed = false → ∀ d s' c2, Enters c s d s' → enteringHooks d s' = .ok c2 → Q (enterNext c2 s')) :
    Q (transitionTo c s) := by
  have hfe : ∀ d e, Enters c s d (.excepted e) → Q (forceExcepted d e) := by
    intro d e he
    by_cases hc : c.closed = true
    · unfold forceExcepted; rw [if_pos (he.off.closed.trans hc)]; exact hclosed hc d _ he
    · have hc' := eq_false_of_ne_true hc
      rw [forceExcepted_open d e (he.off.closed.trans hc')]
      exact hopen hc' d _ _ he rfl
  unfold transitionTo
  by_cases hal : s.label ∈ allowed c.st.label
  · rw [if_pos hal]
    dsimp only
    by_cases hcl : c.closed = true
    · rw [if_pos hcl]; exact hclosed hcl _ _ (.ok hal)
    · rw [if_neg hcl]
      split
      · exact hfe _ _ (.failed _ hal)
      · rename_i c2 hc2; exact hopen (eq_false_of_ne_true hcl) _ _ c2 (.ok hal) hc2
  · rw [if_neg hal]; exact hfe _ _ (.refused _ hal)

theorem transitionTo_off (c : Cfg) (s) : Off transW c (transitionTo c s) :=
  transitionTo_elim c s (fun _ d s' he => (he.off.mono (by decide)).trans' (Off.setIn d .st s'))
    fun _ d s' c2 he hok => ((he.off.trans (enteringHooks_off _ hok)).trans (enterNext_off c2 s')).mono (by decide)

structure Kn (c c' : Cfg) : Prop where
  imp : c.killing = none → c'.killing = none
theorem Kn.rfl' (c : Cfg) : Kn c c := ⟨fun h => h⟩
theorem Kn.trans {a b c : Cfg} (h1 : Kn a b) (h2 : Kn b c) : Kn a c := ⟨fun h => h2.imp (h1.imp h)⟩
theorem Kn.of_eq {c c' : Cfg} (h : c'.killing = c.killing) : Kn c c' := ⟨fun g => h.trans g⟩
theorem Kn.of_off {W : List Fld} {c c' : Cfg} (o : Off W c c') (hW : Fld.killing ∉ W := by decide) : Kn c c' :=
  .of_eq (o.killing hW)

theorem enteredHooks_kn (c : Cfg) (s : SObj) : Kn c (enteredHooks c s) :=
  ⟨fun h => enteredHooks_eq c s ▸ ite_of (I := (· = none)) (fun _ => rfl) fun _ => h⟩

theorem enterNext_kn (c : Cfg) (s) : Kn c (enterNext c s) := by
  unfold enterNext
  dsimp only
  have h := ((Kn.of_off (enterState_off c s)).trans (.of_off (setState_off _ s))).trans (enteredHooks_kn _ s)
  by_cases ht : terminal s.label = true
  · rw [if_pos ht]; exact h.trans (.of_off (onTerminated_off _))
  · rw [if_neg ht]; exact h

theorem transitionTo_kn (c : Cfg) (s) : Kn c (transitionTo c s) :=
  transitionTo_elim (Q := Kn c) c s (fun _ d s' he => (Kn.of_off he.off).trans (.of_eq rfl))
    fun _ d s' c2 he hok => (Kn.of_off (he.off.trans (enteringHooks_off _ hok))).trans (enterNext_kn c2 s')

def pauseW : List Fld := [.handed, .nextCookie, .actions, .interrupt, .wfs, .pausing, .paused, .pfs, .notif]
def playW : List Fld := [.actions, .pausing, .pfs, .paused, .notif]
def killW : List Fld := [.handed, .nextCookie, .actions, .interrupt] ++ transW

theorem pause_elim {Q : Cfg → Prop} (c : Cfg) (h0 : Q c) (hh : ∀ d i, Q d → Q (hand d i))
    (hr : terminal c.st.label = false → c.stepping = true → c.pausing = none → c.killing = none →
      Q { requestInterrupt c .pause with pausing := (requestInterrupt c .pause).interrupt })
    (hp : terminal c.st.label = false → c.stepping = false → c.paused = none → c.pausing = none → c.killing = none →
      Q (doPauseHooks c)) : Q (pause c).1 :=
  Task.pause_base c ▸ Task.pause_elim Task.baseE c h0 hh hr hp

theorem kill_elim {Q : Cfg → Prop} (c : Cfg) (h0 : Q c) (hh : ∀ d i, Q d → Q (hand d i))
    (hr : terminal c.st.label = false → c.stepping = true → c.killing = none →
      Q { requestInterrupt c .kill with killing := (requestInterrupt c .kill).interrupt })
    (hk : terminal c.st.label = false → c.stepping = false → c.killing = none → Q (transitionTo c .killed)) :
    Q (kill c).1 :=
  Task.kill_base c ▸ Task.kill_elim Task.baseE c h0 hh hr hk

theorem pause_off (c : Cfg) : Off pauseW c (pause c).1 :=
  pause_elim c (Off.rfl' c) (fun d i o => o.trans' ((hand_off d i).mono (by decide)))
    (fun _ _ _ _ => ((requestInterrupt_off c .pause).trans (Off.set _ .pausing _)).mono (by decide))
    fun _ _ _ _ _ => (doPauseHooks_off c).mono (by decide)

/-- the ways `play()` can go: nothing is paused and no pause is pending; a pause request that has not taken effect is retracted
(its action cancelled, the alias cleared); the process is un-paused — its pause future released if it is still pending —, and the
listeners are told -/
theorem play_elim {Q : Cfg → Prop} (c : Cfg) (h0 : c.paused = none → c.pausing = none → Q c)
    (hretract : ∀ i, c.paused = none → c.pausing = some i → Q { cancelAction c i with pausing := none })
    (hrelease : ∀ pf, c.paused = some pf → c.pfs[pf]? = some false →
      Q { c with pfs := setAt c.pfs pf true, paused := none, notif := .played :: c.notif })
    (hplayed : ∀ pf, c.paused = some pf → c.pfs[pf]? ≠ some false → Q { c with paused := none, notif := .played :: c.notif }) :
    Q (play c).1 := by
  unfold play
  split
  · rename_i hpa
    split
    · rename_i i hi; exact hretract i hpa hi
    · rename_i hi; exact h0 hpa hi
  · rename_i pf hpa
    dsimp only
    exact ite_of (I := fun d : Cfg => Q { d with paused := none, notif := .played :: d.notif }) (hrelease pf hpa) (hplayed pf hpa)

theorem play_off (c : Cfg) : Off playW c (play c).1 :=
  play_elim c (fun _ _ => Off.rfl' c) (fun i _ _ => ((cancelAction_off c i).trans (Off.set _ .pausing none)).mono (by decide))
    (fun _ _ _ => ((Off.set c .pfs _).trans ((Off.set _ .paused none).trans (Off.set _ .notif _))).mono (by decide))
    fun _ _ _ => ((Off.set c .paused none).trans (Off.set _ .notif _)).mono (by decide)

theorem play_paused (c : Cfg) : (play c).1.paused = none :=
  play_elim (Q := fun d => d.paused = none) c (fun h _ => h) (fun i h _ => (cancelAction_off c i).paused.trans h)
    (fun _ _ _ => rfl) fun _ _ _ => rfl

theorem play_ret (c : Cfg) : (play c).2 = .bool true := by unfold play; split <;> (try split) <;> rfl

theorem kill_off (c : Cfg) : Off killW c (kill c).1 :=
  kill_elim c (Off.rfl' c) (fun d i o => o.trans' ((hand_off d i).mono (by decide)))
    (fun _ _ _ => ((requestInterrupt_off c .kill).trans (Off.set _ .killing _)).mono (by decide))
    fun _ _ _ => (transitionTo_off c .killed).mono fun _ => List.mem_append_right _

/-- a `resume` on a state that is not WAITING is refused, as is a delivery -/
theorem resume_eq_deliver (c : Cfg) (v : Option Val) : (resume c v).1 = deliver c (.result v) := by
  unfold resume deliver; split <;> rfl

theorem resume_off (c : Cfg) (v) : Off [.wfs, .st] c (resume c v).1 :=
  resume_eq_deliver c v ▸ deliver_off c _

theorem fail_off (c : Cfg) (e) : Off transW c (fail c e).1 :=
  Off.ite_fst (Off.rfl' c) (transitionTo_off ..)

/-- `try_killing` keeps the action it is handed to itself -/
theorem tryKilling_off (c : Cfg) : Off ([.nextCookie, .actions, .interrupt] ++ transW) c (tryKilling c) :=
  ⟨fun f hf =>
    if h : f = .handed then h ▸ rfl
    else ((Off.set (kill c).1 .handed c.handed).get f (mt List.mem_singleton.mp h)).trans
      ((kill_off c).get f fun hm => (List.mem_cons.mp hm).elim h hf)⟩

/-- what the closing part of `Process.step` can write: a transition, the enactment of a pending request, `finally` -/
def endW : List Fld := [.pc, .pausing, .paused, .actions, .interrupt, .stepping] ++ transW

theorem runAction_off (c : Cfg) (i next) : Off endW c (runAction c i next) := by
  unfold runAction
  split
  · exact Off.rfl' c
  · refine Off.ite (Off.setIn c .pc _) ?_
    have ht (s) : Off endW c (transitionTo c s) := (transitionTo_off c s).mono fun _ => List.mem_append_right _
    have hp (d : Cfg) : Off endW d (setActionStatus (doPauseHooks d) i .done) :=
      ((doPauseHooks_off d).trans (setActionStatus_off ..)).mono (by decide)
    split
    · cases next with
      | none => exact hp c
      | some s => exact (ht s).trans' (hp _)
    · exact (ht .killed).trans' (((Off.set _ .killing none).trans (setActionStatus_off ..)).mono (by decide))

theorem dispatch_off (c : Cfg) (next) : Off endW c (dispatch c next) := by
  unfold dispatch
  have ht : Off endW c (match next with | some s => transitionTo c s | none => c) := by
    cases next with
    | none => exact Off.rfl' c
    | some s => exact (transitionTo_off c s).mono fun _ => List.mem_append_right _
  refine Off.ite (Off.rfl' c) ?_
  split
  · exact Off.ite (runAction_off ..) ht
  · exact ht

theorem endOfStep_off (c : Cfg) (r) : Off endW c (endOfStep c r) := by
  unfold endOfStep
  exact ((prepare_off c r).mono (by decide)).trans'
    ((dispatch_off _ _).trans' ((finally_off _).mono (by decide)))

theorem finishUser_off (c : Cfg) (o) : Off endW c (finishUser c o) := by
  unfold finishUser; split
  · exact ((cmdToState_off c _).mono (by decide)).trans' (endOfStep_off _ _)
  · exact endOfStep_off ..

/-- the re-arming of an interrupted wait does nothing unless the current state is the WAITING state whose wait is `wf`; that state
then waits on a fresh future, which holds the parked wake-up if there is one -/
theorem L.rearm_elim {Q : Cfg → Prop} (c : Cfg) (wf : Nat) (h : Q c)
    (hre : ∀ f wk aw, c.st = .waiting f wf wk aw →
      Q { c with st := .waiting f c.wfs.length none aw, wfs := c.wfs ++ [match wk with | some o => o | none => .pending] }) :
    Q (L.rearm c wf) := by
  unfold L.rearm; split
  · rename_i f wf' wk aw hst
    exact ite_of (fun e => hre f wk aw (e ▸ hst)) fun _ => h
  · exact h

theorem L.rearm_off (c : Cfg) (wf : Nat) : Off [.st, .wfs] c (L.rearm c wf) :=
  L.rearm_elim c wf (Off.rfl' c) fun _ _ _ _ => (Off.set c .st _).trans (Off.set _ .wfs _)

theorem wake_off (c : Cfg) (fn wf w) : Off endW c (wake c fn wf w) := by
  cases w with
  | interrupted k => exact ((L.rearm_off c wf).mono (by decide)).trans' (endOfStep_off _ _)
  | pending => exact Off.rfl' c
  | _ => exact endOfStep_off ..

/-- what a callback of the stepping task can write: the end of a step, and the trace of started step functions -/
def tickW : List Fld := .trace :: endW

theorem task_off (c₀ : Cfg) :
    Task.Hoare Task.base (fun _ _ => True) (fun _ => True) (Off tickW c₀) (Off tickW c₀) (Off tickW c₀) :=
  .single (fun _ _ _ => trivial) (fun c r _ h => h.trans' ((endOfStep_off c r).mono fun _ => List.mem_cons_of_mem _))
    (fun c h => h.trans' (Off.setIn c .stepping true)) (fun c v h => h.trans' (Off.setIn c .pc v))
    (fun c _ _ _ _ _ h => h.trans' (Off.setIn c .trace _))
    (fun c cmd _ h => ⟨h.trans' ((cmdToState_off c cmd).mono (by decide)), trivial⟩)
    (fun c wf h => h.trans' ((L.rearm_off c wf).mono (by decide)))

theorem tickStepper_off (P : Prog) (c : Cfg) : Off tickW c (tickStepper P c) :=
  Task.tickStepper_base P c ▸ (task_off c).tickStepper P (ProgCmds.true P) c (PcCmds.true _) (Off.rfl' c)

theorem tickCb_elim {Q : Cfg → Prop} (c : Cfg) (cb : Cb) (h : Q c)
    (hun : c.ready.contains cb = true → Q { c with ready := c.ready.erase cb })
    (hadone : ∀ d f, cb = .adone f → Q d → Q (awaitableDone d f)) (htry : ∀ d, Q d → Q (tryKilling d))
    (hfail : ∀ d e, Q d → Q (fail d e).1) : Q (tickCb c cb) :=
  Task.tickCb_base c cb ▸ Task.tickCb_elim Task.baseE c cb h hun hadone
    (fun d hd => Task.tryKilling_base d ▸ htry d hd) hfail

/-- a scheduled callback: an awaitable's done-callback, `try_killing`, a `call_soon` callback (which may `fail`) -/
def cbW : List Fld := [.ready, .ctx, .nextCookie, .actions, .interrupt] ++ transW

theorem tickCb_off (c : Cfg) (cb) : Off cbW c (tickCb c cb) :=
  tickCb_elim c cb (Off.rfl' c) (fun _ => Off.setIn c .ready _) (fun d f _ h => h.trans' ((awaitableDone_off d f).mono (by decide)))
    -- `cbW` is `.ready :: .ctx ::` what `try_killing` writes
    (fun d h => h.trans' ((tryKilling_off d).mono fun _ h => List.mem_cons_of_mem _ (List.mem_cons_of_mem _ h)))
    fun d e h => h.trans' ((fail_off d e).mono fun _ => List.mem_append_right _)

/-- the induction over a history; `Ok c es` is a condition on the rest `es` of the history played from `c`, handed on from
event to event -/
theorem run_ind (P : Prog) {I : Cfg → Prop} {Ok : Cfg → List Ev → Prop}
    (hstep : ∀ c e es, Ok c (e :: es) → I c → I (step P c e).1 ∧ Ok (step P c e).1 es)
    (c0 : Cfg) (evs : List Ev) (hok : Ok c0 evs) (h : I c0) : I (run P c0 evs) := by
  induction evs generalizing c0 with
  | nil => exact h
  | cons e es ih => exact ih _ (hstep c0 e es hok h).2 (hstep c0 e es hok h).1

end PMF
