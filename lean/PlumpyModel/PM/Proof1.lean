import PlumpyModel.PM.Closed
/-!
# C01, first half: the entered states form a path of the lifecycle graph

`Inv` reads the label of the state object, the entered log and closedness.  Only a transition writes them
(`transitionTo_inv`); every other leaf update of the model relates its two configurations by `Same`, so a predicate that
respects `Same` needs only its own lemma for a transition (`StepClosed.of_same`).
-/
namespace PMF

/-- newest-first log: every step is an allowed edge -/
def edgesOk : List Label → Bool
  | b :: a :: rest => decide (b ∈ allowed a) && edgesOk (a :: rest)
  | _ => true

structure Inv (c : Cfg) : Prop where
  chain : edgesOk c.entered = true
  head  : c.entered.head? = some c.st.label
  closedTerm : c.closed = true → terminal c.st.label = true

def Same (c c' : Cfg) : Prop := c'.st.label = c.st.label ∧ c'.entered = c.entered ∧ c'.closed = c.closed

theorem Same.rfl' (c : Cfg) : Same c c := ⟨rfl, rfl, rfl⟩
theorem Same.trans {a b c : Cfg} (h1 : Same a b) (h2 : Same b c) : Same a c :=
  ⟨h2.1.trans h1.1, h2.2.1.trans h1.2.1, h2.2.2.trans h1.2.2⟩
theorem Inv.same {c c' : Cfg} (h : Inv c) (s : Same c c') : Inv c' :=
  ⟨by rw [s.2.1]; exact h.chain, by rw [s.2.1, s.1]; exact h.head, by rw [s.2.2, s.1]; exact h.closedTerm⟩

theorem inv_init (nf : Nat) : Inv (init nf) := by
  exact ⟨by simp [init, edgesOk], by rfl, by simp [init]⟩

theorem Same.of_off {W : List Fld} {c c' : Cfg} (o : Off W c c')
    (hW : ∀ f ∈ [Fld.st, .entered, .closed], f ∉ W := by decide) : Same c c' :=
  ⟨congrArg SObj.label (o.st (hW _ (by decide))), o.entered (hW _ (by decide)), o.closed (hW _ (by decide))⟩

theorem Inv.off {W : List Fld} {c c' : Cfg} (h : Inv c) (o : Off W c c')
    (hW : ∀ f ∈ [Fld.st, .entered, .closed], f ∉ W := by decide) : Inv c' := h.same (.of_off o hW)

/-- a delivery may park the outcome in the state object; the label stays -/
theorem deliver_same (c : Cfg) (o) : Same c (deliver c o) :=
  deliver_elim c o (Same.rfl' c) (fun _ _ _ _ _ _ => ⟨rfl, rfl, rfl⟩) fun _ _ _ _ hst _ => ⟨by rw [hst]; rfl, rfl, rfl⟩

theorem live_excepted (l : Label) (h : terminal l = false) : Label.excepted ∈ allowed l := by
  cases l <;> simp_all [terminal, allowed]

theorem edgesOk_cons {a b : Label} {rest : List Label} (h : edgesOk (a :: rest) = true) (hab : b ∈ allowed a) :
    edgesOk (b :: a :: rest) = true := by
  simp [edgesOk, hab, h]

theorem onClose_inv (c : Cfg) (h : Inv c) (ht : terminal c.st.label = true) : Inv (onClose c) := by
  unfold onClose; split
  · exact h
  · exact ⟨h.chain, h.head, fun _ => ht⟩

theorem onTerminated_inv (c : Cfg) (h : Inv c) (ht : terminal c.st.label = true) : Inv (onTerminated c) :=
  onClose_inv _ (h.off (releasePause_off c)) (by rw [(releasePause_off c).st]; exact ht)

theorem setState_inv (c : Cfg) (s : SObj) (h : Inv c) (hin : s.label ∈ allowed c.st.label)
    (hnc : c.closed = false) : Inv (setState c s) := by
  refine ⟨?_, by simp [setState], by simp [setState, hnc]⟩
  cases hent : c.entered with
  | nil => have := h.head; simp [hent] at this
  | cons a rest =>
    have hh := h.head; simp [hent] at hh; subst hh
    have hc := h.chain; rw [hent] at hc
    simp only [setState, hent]
    exact edgesOk_cons hc hin

theorem not_closed_of_live {c : Cfg} (h : Inv c) (hl : terminal c.st.label = false) : c.closed = false := by
  cases hc : c.closed with
  | false => rfl
  | true => have := h.closedTerm hc; simp [hl] at this

theorem enterNext_inv (c : Cfg) (s : SObj) (h : Inv c) (hin : s.label ∈ allowed c.st.label)
    (hnc : c.closed = false) : Inv (enterNext c s) := by
  unfold enterNext
  have he := Same.of_off (enterState_off c s)
  have h2 : Inv (enteredHooks (setState (enterState c s) s) s) :=
    (setState_inv _ _ (h.same he) (by rw [he.1]; exact hin) (by rw [he.2.2]; exact hnc)).off (enteredHooks_off _ s)
  dsimp only
  split
  · rename_i ht
    exact onTerminated_inv _ h2 (by rw [(enteredHooks_off _ s).st]; simpa [setState] using ht)
  · exact h2

/-- inside a transition the state object, the log and closedness are those of the start -/
theorem inv_phases (c₀ : Cfg) (s : SObj) (h : Inv c₀) (hl : terminal c₀.st.label = false) :
    Phases c₀ s (Same c₀) (Same c₀) (fun s' c => Inv c ∧ s'.label ∈ allowed c.st.label ∧ c.closed = false) Inv :=
  have hnc := not_closed_of_live h hl
  have exc : ∀ c e, Same c₀ c → Inv (setFutExc c e) ∧ Label.excepted ∈ allowed (setFutExc c e).st.label ∧
      (setFutExc c e).closed = false := fun c e a =>
    have a' := a.trans (.of_off (setFutExc_off c e))
    ⟨h.same a', by rw [a'.1]; exact live_excepted _ hl, by rw [a'.2.2]; exact hnc⟩
  { start := .rfl' _
    opn := fun c a => a.2.2.trans hnc
    exit := fun c a => a.trans (.of_off (exitState_off c))
    again := fun _ b => b
    entering := fun hin c c2 b hok =>
      have a' := b.trans (.of_off (enteringHooks_off c hok))
      ⟨h.same a', by rw [a'.1]; exact hin, by rw [a'.2.2]; exact hnc⟩
    failed := fun _ c e b => exc c e b
    refused := fun _ e => exc c₀ e (.rfl' _)
    enter := fun s' c r => enterNext_inv c s' r.1 r.2.1 r.2.2 }

theorem transitionTo_inv (c : Cfg) (s : SObj) (h : Inv c) (hl : terminal c.st.label = false) :
    Inv (transitionTo c s) :=
  (inv_phases c s h hl).transitionTo

theorem awaitableDone_same (c : Cfg) (f) : Same c (awaitableDone c f) :=
  awaitableDone_elim c f (Same.rfl' c) (fun _ _ _ h => h.trans ⟨rfl, rfl, rfl⟩)
    (fun _ _ _ _ _ hst _ => ⟨by rw [hst]; rfl, rfl, rfl⟩) fun d o _ h => h.trans (deliver_same d o)

theorem StepClosed.of_same {I : Cfg → Prop} (same : ∀ {c c'}, I c → Same c c' → I c')
    (trans : ∀ c s, terminal c.st.label = false → I c → I (transitionTo c s)) : StepClosed I where
  ctl o h := same h (.of_off o)
  trans := trans
  paused c h := same h (.of_off (doPauseHooks_off c))
  played c h := same h (.of_off (play_off c))
  interrupted c k h := same h (.of_off (interruptState_off c k))
  activate _ _ _ _ _ _ h := same h ⟨rfl, rfl, rfl⟩
  alloc c cmd h := same h (.of_off (cmdToState_off c cmd))
  rearmG _ _ _ _ _ hst h := same h ⟨by rw [hst]; rfl, rfl, rfl⟩
  deliver c o h := same h (deliver_same c o)
  adone c f h := same h (awaitableDone_same c f)
  complete c f o h := same h (.of_off (complete_off c f o))
  cancelFut c h := same h (.of_off (cancelFut_off c))
  unsched c _ _ h := same h (.of_off (Off.set c .ready _))
  sched c _ h := same h (.of_off (Off.set c .ready _))

theorem inv_closed : StepClosed Inv := .of_same Inv.same fun c s hl h => transitionTo_inv c s h hl

theorem runAction_inv (c : Cfg) (i : Nat) (next : Option SObj) (h : Inv c) (hl : terminal c.st.label = false) :
    Inv (runAction c i next) := inv_closed.runAction c i next hl h

theorem dispatch_inv (c : Cfg) (next : Option SObj) (h : Inv c) : Inv (dispatch c next) := inv_closed.dispatch c next h

theorem endOfStep_inv (c : Cfg) (r : StepEnd) (h : Inv c) : Inv (endOfStep c r) := inv_closed.endOfStep c r h

/-- **C01 (model level), first half**: for every user program, every initial program shape and every
history of ticks and control requests, the entered-state log is a path of the lifecycle graph that
starts in CREATED and ends at the current state. -/
theorem C01_edges_legal (P : Prog) (nf : Nat) (evs : List Ev) :
    edgesOk (run P (init nf) evs).entered = true ∧
    (run P (init nf) evs).entered.head? = some (run P (init nf) evs).st.label :=
  let h := inv_closed.run P (init nf) evs (inv_init nf)
  ⟨h.chain, h.head⟩

end PMF

