import PlumpyModel.PM.Closed
import PlumpyModel.PM.Steps
/-!
# The control skeleton of the model with listeners, traversed once

Every `…L` function of `PM/Listener.lean` composes a few *leaf* updates of `LCfg` — the primitive updates of a transition,
the pause hooks, `play`, a deferred request, the flags `_transitioning` / `_executing`, the oracle's bookkeeping — with calls of
the notification function `F`.  A predicate `I` on `LCfg` that is closed under the leaves is preserved by every `…L` function,
for every `F` that preserves it; and by `fireN n` for every `n`, since a notification is itself built from the leaves and the
requests.  (For a reflexive, transitive relation `R` take `I := R l₀`.)

`ReqLeaves` asks for the leaves of a transition; `StepLeaves F` takes a transition and the pause hooks as wholes, so that a
predicate whose passage through a transition needs an argument of its own (`PhasesL`) still gets the rest.

To prove `J : Cfg → Prop` of every configuration of `runL`: a `StepClosed J` (the leaves of the base model); `J`'s own lemma
for `transitionToL F` under the hypothesis that `F` keeps `J` (and a frame property `G F` that every `fireN n` has, e.g.
`FHkPhase` of `PM/LProof1.lean`, if the argument needs to know what the notifications inside a transition leave alone); then
`StepLeaves.of_base_fireN` and `StepLeaves.runL`.
-/
namespace PMF
namespace L

theorem fireK_cases (R : Req → LCfg → LCfg) (h : Hook) (l : LCfg) :
    (fireK R h l = { l with cnt := bump l.cnt h }) ∨
    (∃ e, e ∈ l.plan ∧ fireK R h l = R e.2.2 (logIssued { { l with cnt := bump l.cnt h } with plan := l.plan.erase e } h e.2.2)) := by
  unfold fireK; dsimp only
  split
  · exact Or.inl rfl
  · split
    · exact Or.inl rfl
    · rename_i e he
      exact Or.inr ⟨e, List.mem_of_find?_eq_some he, rfl⟩

structure TransLeaves (I : LCfg → Prop) : Prop where
  setTrans : ∀ l t, I l → I { l with trans := t }
  exit : ∀ l, I l → I (l.upd exitState)
  /-- the event hooks of a closed process are gone: the state object is just replaced -/
  stClosed : ∀ l s, l.c.closed = true → I l → I (l.upd fun c => { c with st := s })
  entering : ∀ l s c2, enteringHooks l.c s = .ok c2 → I l → I { l with c := c2 }
  futExc : ∀ l e, I l → I (l.upd fun c => setFutExc c e)
  enterState : ∀ l s, I l → I (l.upd fun c => enterState c s)
  setState : ∀ l s, I l → I (l.upd fun c => setState c s)
  entered : ∀ l s, I l → I (l.upd fun c => enteredHooks c s)
  terminated : ∀ l, I l → I (l.upd onTerminated)
  paused : ∀ l, I l → I (l.upd doPauseHooks)
  clearPausing : ∀ l, I l → I (l.upd fun c => { c with pausing := none })

/-- a predicate that looks at the fields `Rd` of the `Cfg` component only, none of which a transition or the pause hooks write -/
theorem TransLeaves.of_off {I : LCfg → Prop} (Rd : List Fld)
    (off : ∀ {W l c'}, Off W l.c c' → (∀ f ∈ Rd, f ∉ W) → I l → I { l with c := c' })
    (setTrans : ∀ l t, I l → I { l with trans := t })
    (hRd : ∀ f ∈ Rd, f ∉ transW ++ [.pausing, .paused, .pfs, .notif] := by decide) : TransLeaves I := by
  have sub : ∀ {W l c'}, Off W l.c c' → (∀ f ∈ W, f ∈ transW ++ [.pausing, .paused, .pfs, .notif]) → I l → I { l with c := c' } :=
    fun o hW => off o fun f hf hm => hRd f hf (hW f hm)
  exact {
    setTrans := setTrans
    exit := fun l => sub (exitState_off l.c) (by decide)
    stClosed := fun l s _ => sub (Off.set l.c .st s) (by decide)
    entering := fun l _ _ hok => sub (enteringHooks_off l.c hok) (by decide)
    futExc := fun l e => sub (setFutExc_off l.c e) (by decide)
    enterState := fun l s => sub (enterState_off l.c s) (by decide)
    setState := fun l s => sub (setState_off l.c s) (by decide)
    entered := fun l s => sub (enteredHooks_off l.c s) (by decide)
    terminated := fun l => sub (onTerminated_off l.c) (by decide)
    paused := fun l => sub (doPauseHooks_off l.c) (by decide)
    clearPausing := fun l => sub (Off.set l.c .pausing none) (by decide) }

namespace TransLeaves
variable {I : LCfg → Prop} {F : Hook → LCfg → LCfg} (H : TransLeaves I) (hF : ∀ h l, I l → I (F h l))
include H hF

theorem enteredHooksL (l : LCfg) (s : SObj) (h : I l) : I (enteredHooksL F l s) := by
  unfold L.enteredHooksL; dsimp only
  split
  · exact hF _ _ (H.entered l s h)
  · exact H.entered l s h

theorem forceExceptedL (l : LCfg) (e : Exc) (h : I l) : I (forceExceptedL F l e) := by
  unfold L.forceExceptedL
  split
  · rename_i hc
    exact H.stClosed l _ hc h
  · exact H.terminated _ (H.enteredHooksL hF _ _ (H.setState _ _ (hF _ _ (H.futExc _ e (H.setTrans l _ h)))))

theorem enterNextL (l : LCfg) (s : SObj) (h : I l) : I (enterNextL F l s) := by
  unfold L.enterNextL; dsimp only
  have h1 := H.enteredHooksL hF _ s (H.setState _ s (H.enterState l s h))
  split
  · exact H.terminated _ h1
  · exact h1

theorem exitPhaseL (l : LCfg) (s : SObj) (h : I l) : I (exitPhaseL F l s) := by
  unfold L.exitPhaseL; dsimp only
  have h1 := H.exit _ (hF .exiting l h)
  split
  · exact H.exit _ (hF .exiting _ h1)
  · exact h1

theorem transitionToL (l : LCfg) (s : SObj) (h : I l) : I (transitionToL F l s) := by
  unfold L.transitionToL; dsimp only
  apply H.setTrans
  have h0 := H.setTrans l (some s.label) h
  split
  · split
    · rename_i hc
      exact H.stClosed (LCfg.upd _ exitState) s ((exitState_off _).closed.trans hc) (H.exit _ h0)
    · have h1 := H.exitPhaseL hF _ s h0
      split
      · exact H.forceExceptedL hF _ _ h1
      · rename_i c2 hok
        exact H.enterNextL hF _ s (hF _ _ (H.entering _ s c2 hok h1))
  · exact H.forceExceptedL hF _ _ h0

theorem doPauseL (l : LCfg) (h : I l) : I (doPauseL F l) := by
  unfold L.doPauseL; dsimp only
  exact H.clearPausing _ (hF _ _ (H.paused l h))

end TransLeaves

theorem pauseL_elim {Q : LCfg → Prop} (F : Hook → LCfg → LCfg) (l : LCfg) (h0 : Q l)
    (hh : ∀ d i, Q d → Q (d.upd fun c => hand c i))
    (hr : terminal l.c.st.label = false → l.c.stepping = true → l.c.pausing = none → l.c.killing = none →
      Q { l with c := { requestL l .pause with pausing := (requestL l .pause).interrupt } })
    (hp : terminal l.c.st.label = false → l.c.stepping = false → l.c.paused = none → l.c.pausing = none → l.c.killing = none →
      Q (doPauseL F l)) : Q (pauseL F l).1 :=
  Task.pause_lis F l ▸ Task.pause_elim (Task.lisE F) l h0 hh hr hp

/-- `Task.kill_cases`: nothing is asked of `l` itself where `kill()` goes on -/
theorem killL_cases {Q : LCfg → Prop} (F : Hook → LCfg → LCfg) (l : LCfg) (h0 : terminal l.c.st.label = true → Q l)
    (hx : terminal l.c.st.label = false → ∀ i, l.c.killing = some i → Q (l.upd fun c => hand c i))
    (hh : ∀ d i, Q d → Q (d.upd fun c => hand c i))
    (hr : terminal l.c.st.label = false → l.c.stepping = true → l.c.killing = none →
      Q { l with c := { requestL l .kill with killing := (requestL l .kill).interrupt } })
    (hk : terminal l.c.st.label = false → l.c.stepping = false → l.c.killing = none → Q (transitionToL F l .killed)) :
    Q (killL F l).1 :=
  Task.kill_lis F l ▸ Task.kill_cases (Task.lisE F) l h0 hx hh hr hk

theorem killL_elim {Q : LCfg → Prop} (F : Hook → LCfg → LCfg) (l : LCfg) (h0 : Q l)
    (hh : ∀ d i, Q d → Q (d.upd fun c => hand c i))
    (hr : terminal l.c.st.label = false → l.c.stepping = true → l.c.killing = none →
      Q { l with c := { requestL l .kill with killing := (requestL l .kill).interrupt } })
    (hk : terminal l.c.st.label = false → l.c.stepping = false → l.c.killing = none → Q (transitionToL F l .killed)) :
    Q (killL F l).1 :=
  killL_cases F l (fun _ => h0) (fun _ i _ => hh l i h0) hh hr hk

theorem failL_elim {Q : LCfg → Prop} (F : Hook → LCfg → LCfg) (l : LCfg) (e : Exc) (h0 : Q l)
    (hf : terminal l.c.st.label = false → Q (transitionToL F l (.excepted e))) : Q (failL F l e).1 :=
  Task.fail_elim (Task.lisE F) l e h0 hf

/-- `play()` un-pauses; the listeners are told only if the process was paused -/
theorem playL_elim {Q : LCfg → Prop} (F : Hook → LCfg → LCfg) (l : LCfg) (h0 : Q (l.upd fun c => (play c).1))
    (hp : Q (l.upd fun c => (play c).1) → Q (F .played (l.upd fun c => (play c).1))) : Q (playL F l).1 := by
  unfold playL; split
  · exact h0
  · exact hp h0

theorem tickCbL_elim {Q : LCfg → Prop} (F : Hook → LCfg → LCfg) (l : LCfg) (cb : Cb) (h : Q l)
    (hun : l.c.ready.contains cb = true → Q (l.upd fun c => { c with ready := c.ready.erase cb }))
    (hadone : ∀ d f, cb = .adone f → Q d → Q (d.upd fun c => awaitableDone c f)) (htry : ∀ d, Q d → Q (tryKillingL F d))
    (hfail : ∀ d e, Q d → Q (failL F d e).1) : Q (tickCbL F l cb) :=
  Task.tickCb_lis F l cb ▸ Task.tickCb_elim (Task.lisE F) l cb h hun hadone
    (fun d hd => Task.tryKilling_lis F d ▸ htry d hd) hfail

/-- what `pauseL / playL / killL` do besides a transition and the pause hooks -/
structure CallLeaves (I : LCfg → Prop) : Prop where
  hand : ∀ l i, I l → I (l.upd fun c => hand c i)
  /-- `pause()` while stepping: the request goes to the interrupt-action slot, the alias `_pausing` is set -/
  requestPause : ∀ l, l.c.stepping = true → I l →
    I { l with c := { requestL l .pause with pausing := (requestL l .pause).interrupt } }
  requestKill : ∀ l, l.c.stepping = true → I l →
    I { l with c := { requestL l .kill with killing := (requestL l .kill).interrupt } }
  played : ∀ l, I l → I (l.upd fun c => (play c).1)

namespace CallLeaves
variable {I : LCfg → Prop} {F : Hook → LCfg → LCfg} (C : CallLeaves I)
include C

/-- outside a step `pause()` pauses at once -/
theorem pauseL (doPause : ∀ l, l.c.stepping = false → I l → I (doPauseL F l)) (l : LCfg) (h : I l) : I (pauseL F l).1 :=
  pauseL_elim F l h C.hand (fun _ hs _ _ => C.requestPause l hs h) fun _ hs _ _ _ => doPause l hs h

theorem playL (hF : ∀ h l, I l → I (F h l)) (l : LCfg) (h : I l) : I (playL F l).1 :=
  playL_elim F l (C.played l h) (hF _ _)

/-- outside a step `kill()` makes the transition at once, if the process is live -/
theorem killL (kill : ∀ l, terminal l.c.st.label = false → l.c.stepping = false → I l → I (transitionToL F l .killed))
    (l : LCfg) (h : I l) : I (killL F l).1 :=
  killL_elim F l h C.hand (fun _ hs _ => C.requestKill l hs h) fun hl hs _ => kill l hl hs h

theorem reqK (hF : ∀ h l, I l → I (F h l))
    (kill : ∀ l, terminal l.c.st.label = false → l.c.stepping = false → I l → I (transitionToL F l .killed))
    (doPause : ∀ l, l.c.stepping = false → I l → I (doPauseL F l)) (r : Req) (l : LCfg) (h : I l) : I (reqK F r l) := by
  cases r
  · exact C.pauseL doPause l h
  · exact C.playL hF l h
  · exact C.killL kill l h

end CallLeaves

theorem failL_closed {I : LCfg → Prop} {F : Hook → LCfg → LCfg}
    (trans : ∀ l s, terminal l.c.st.label = false → I l → I (transitionToL F l s)) (l : LCfg) (e : Exc) (h : I l) :
    I (failL F l e).1 :=
  failL_elim F l e h fun hl => trans l _ hl h

/-- induction on the nesting depth; `P` is whatever else the requests need to know about the notification function -/
theorem fireN_closed {I : LCfg → Prop} {P : (Hook → LCfg → LCfg) → Prop} (hP : ∀ n, P (fireN n))
    (count : ∀ h l, I l → I { l with cnt := bump l.cnt h })
    (issue : ∀ l h e, e ∈ l.plan → I l → I (logIssued { l with plan := l.plan.erase e } h e.2.2))
    (req : ∀ F, P F → (∀ h l, I l → I (F h l)) → ∀ r l, I l → I (reqK F r l)) (n : Nat) :
    ∀ h l, I l → I (fireN n h l) := by
  induction n with
  | zero => exact count
  | succ n ih =>
    intro h l hi
    unfold fireN
    rcases fireK_cases (reqK (fireN n)) h l with h1 | ⟨e, he, h1⟩
    · rw [h1]; exact count h l hi
    · rw [h1]; exact req _ (hP n) ih _ _ (issue _ h e he (count h l hi))

/-- while a step is in progress every request of the oracle is deferred: for a predicate that implies `_stepping` the branches of
`pause() / kill()` that act at once are not reached -/
theorem CallLeaves.fireN_stepping {I : LCfg → Prop} (C : CallLeaves I) (hs : ∀ l, I l → l.c.stepping = true)
    (count : ∀ h l, I l → I { l with cnt := bump l.cnt h })
    (issue : ∀ l h e, e ∈ l.plan → I l → I (logIssued { l with plan := l.plan.erase e } h e.2.2)) (n : Nat) :
    ∀ h l, I l → I (fireN n h l) :=
  fireN_closed (P := fun _ => True) (fun _ => trivial) count issue
    (fun _ _ hF => C.reqK hF (fun l _ hns a => absurd (hs l a) (by rw [hns]; decide))
      fun l hns a => absurd (hs l a) (by rw [hns]; decide)) n

structure ReqLeaves (I : LCfg → Prop) : Prop extends TransLeaves I, CallLeaves I where
  count : ∀ h l, I l → I { l with cnt := bump l.cnt h }
  issue : ∀ l h e, e ∈ l.plan → I l → I (logIssued { l with plan := l.plan.erase e } h e.2.2)

namespace ReqLeaves
variable {I : LCfg → Prop} {F : Hook → LCfg → LCfg} (H : ReqLeaves I)
include H

theorem reqK (hF : ∀ h l, I l → I (F h l)) (r : Req) (l : LCfg) (h : I l) : I (reqK F r l) :=
  H.toCallLeaves.reqK hF (fun l _ _ => H.transitionToL hF l _) (fun l _ => H.doPauseL hF l) r l h

theorem fireN (n : Nat) : ∀ h l, I l → I (fireN n h l) :=
  fireN_closed (P := fun _ => True) (fun _ => trivial) H.count H.issue (fun _ _ hF => H.reqK hF) n

end ReqLeaves

structure EventLeaves (I : LCfg → Prop) : Prop where
  ctl : ∀ {l c'}, Off ctlW l.c c' → I l → I { l with c := c' }
  setExecuting : ∀ l b, I l → I { l with executing := b }
  /-- a step function is started; the loop has checked that no pending pause future is in effect -/
  activate : ∀ l fn args kw, l.c.st = .running fn args kw → Unheld l.c → I l →
    I (l.upd fun c => { c with trace := { fn := fn, args := args, kw := kw, paused := c.paused.isSome } :: c.trace })
  alloc : ∀ l cmd, I l → I { l with c := (cmdToState l.c cmd).1 }
  rearm : ∀ l wf, I l → I (l.upd fun c => rearm c wf)
  adone : ∀ l f, I l → I (l.upd fun c => awaitableDone c f)
  resume : ∀ l v, I l → I (l.upd fun c => (resume c v).1)
  cancelFut : ∀ l, I l → I (l.upd fun c => (cancelFut c).1)
  complete : ∀ l f o, I l → I (l.upd fun c => complete c f o)

theorem requestL_off (l : LCfg) (k : AKind) : Off [.nextCookie, .actions, .interrupt, .wfs] l.c (requestL l k) := by
  unfold requestL; split
  · exact requestInterrupt_off ..
  · exact ((Off.set l.c .nextCookie _).trans (setInterruptFromExc_off ..)).mono (by decide)

theorem requestL_st (l : LCfg) (k : AKind) : (requestL l k).st = l.c.st := (requestL_off l k).st

/-- a request made during a step, recorded with its alias -/
theorem requestPause_off (l : LCfg) : Off [.nextCookie, .actions, .interrupt, .wfs, .pausing] l.c
    { requestL l .pause with pausing := (requestL l .pause).interrupt } := (requestL_off l .pause).trans (Off.set _ .pausing _)
theorem requestKill_off (l : LCfg) : Off [.nextCookie, .actions, .interrupt, .wfs, .killing] l.c
    { requestL l .kill with killing := (requestL l .kill).interrupt } := (requestL_off l .kill).trans (Off.set _ .killing _)

theorem requestL_closed {J : Cfg → Prop} (HJ : BodyClosed J) (l : LCfg) (k : AKind) (h : J l.c) : J (requestL l k) := by
  unfold requestL; split
  · exact HJ.requestInterrupt l.c k h
  · exact HJ.off (setInterruptFromExc_off ..) (HJ.off (Off.set l.c .nextCookie _) h)

theorem EventLeaves.of_base {J : Cfg → Prop} (HJ : BodyClosed J) : EventLeaves fun l => J l.c where
  ctl o h := HJ.ctl o h
  setExecuting _ _ h := h
  activate l fn args kw hst hp h := HJ.activate l.c fn args kw hst hp h
  alloc l cmd h := HJ.alloc l.c cmd h
  rearm l wf h := HJ.toTask.rearm l.c wf h
  adone l f h := HJ.adone l.c f h
  resume l v h := HJ.resume l.c v h
  cancelFut l h := HJ.cancelFut l.c h
  complete l f o h := HJ.complete l.c f o h

theorem CallLeaves.of_base {J : Cfg → Prop} (HJ : BodyClosed J) : CallLeaves fun l => J l.c where
  hand l i h := HJ.off (hand_off l.c i) h
  requestPause l _ h := HJ.off (Off.set (requestL l .pause) .pausing _) (requestL_closed HJ l .pause h)
  requestKill l _ h := HJ.off (Off.set (requestL l .kill) .killing _) (requestL_closed HJ l .kill h)
  played l h := HJ.played l.c h

/-- the leaves of `runActionL`, the `while` loop and `dispatchL` with what the closing part knows where it uses them (`ClosingG` of
`PM/Closed.lean`): `T` guards the target of a transition, `M c i next` the action `i` that is run with the next state `next`;
`B i` holds when the body of action `i` has run and its outcome is about to be stored -/
structure ClosingL (F : Hook → LCfg → LCfg) (I : LCfg → Prop) (B : Nat → LCfg → Prop) (T : Cfg → SObj → Prop)
    (M : Cfg → Nat → Option SObj → Prop) : Prop where
  /-- the outcome of the action is stored, unless it was cancelled while it ran -/
  done : ∀ d i, B i d → I (if actionStatus d.c i = .pending then d.upd (fun c => setActionStatus c i .done) else d)
  /-- an action that already ran is run again -/
  rerun : ∀ l i a next, M l.c i next → l.c.actions[i]? = some a → a.status ≠ .pending → I l →
    I (l.upd fun c => { c with pc := .crashed .alreadyRan })
  /-- the `while` loop goes round only for a pending action -/
  again : ∀ l i, l.c.interrupt = some i → actionStatus l.c i = .pending → I l → M l.c i none
  /-- the nominal transition: no action is in the slot, or a cancelled one -/
  trans : ∀ l s, terminal l.c.st.label = false → (∀ i, l.c.interrupt = some i → actionStatus l.c i = .cancelled) → T l.c s → I l →
    I (transitionToL F l s)
  /-- `do_kill()`: the transition, then `_killing` is cleared -/
  kill : ∀ l i next, terminal l.c.st.label = false → M l.c i next → I l →
    B i ((transitionToL F l .killed).upd fun c => { c with killing := none })
  /-- `_do_pause()` -/
  pauseNone : ∀ l i a, terminal l.c.st.label = false → M l.c i none → l.c.actions[i]? = some a → a.kind = .pause → I l →
    B i (doPauseL F l)
  /-- `_do_pause(next_state)`: the transition, and the pause hooks if the pause was not retracted while the transition ran -/
  pauseNext : ∀ l i a s, terminal l.c.st.label = false → M l.c i (some s) → l.c.actions[i]? = some a → a.kind = .pause → T l.c s →
    I l → B i (transitionToL F l s) ∧ B i (doPauseL F (transitionToL F l s))

namespace ClosingL
variable {F : Hook → LCfg → LCfg} {I : LCfg → Prop} {B : Nat → LCfg → Prop} {T : Cfg → SObj → Prop}
  {M : Cfg → Nat → Option SObj → Prop} (H : ClosingL F I B T M)
include H

theorem runActionL (l : LCfg) (i : Nat) (next : Option SObj) (hl : terminal l.c.st.label = false) (hM : M l.c i next)
    (hT : ∀ s, next = some s → T l.c s) (h : I l) : I (runActionL F l i next) := by
  unfold L.runActionL
  split
  · exact h
  · rename_i a ha
    refine ite_of (fun hne => H.rerun l i a next hM ha hne h) fun _ => H.done _ i ?_
    cases hk : a.kind with
    | kill => exact H.kill l i next hl hM h
    | pause =>
      cases next with
      | none => exact H.pauseNone l i a hl hM ha hk h
      | some s =>
        have hp := H.pauseNext l i a s hl hM ha hk (hT s rfl) h
        exact ite_of (fun _ => hp.1) fun _ => hp.2

theorem enactLoop : ∀ (n : Nat) (l : LCfg), I l → I (enactLoop F n l)
  | 0, _, h => h
  | n+1, l, h => by
    unfold L.enactLoop
    split
    · rename_i i hi
      split
      · rename_i hc
        simp only [Bool.and_eq_true, decide_eq_true_eq, Bool.not_eq_true'] at hc
        exact enactLoop n _ (H.runActionL l i none hc.2 (H.again l i hi hc.1 h) (fun _ e => nomatch e) h)
      · exact h
    · exact h

theorem dispatchL (l : LCfg) (next : Option SObj)
    (hM : ∀ i, l.c.interrupt = some i → actionStatus l.c i ≠ .cancelled → M l.c i next) (hT : ∀ s, next = some s → T l.c s)
    (h : I l) : I (dispatchL F l next) := by
  unfold L.dispatchL
  split
  · exact h
  · rename_i hl
    have hl : terminal l.c.st.label = false := by simpa using hl
    apply H.enactLoop
    have nominal : (∀ i, l.c.interrupt = some i → actionStatus l.c i = .cancelled) →
        I (match (generalizing := false) next with | some s => transitionToL F l s | none => l) := fun hs => by
      cases next with
      | none => exact h
      | some s => exact H.trans l s hl hs (hT s rfl) h
    unfold dispatch1L
    split
    · rename_i i hi
      exact ite_of (fun hnc => H.runActionL l i next hl (hM i hi hnc) hT h) fun hc =>
        nominal fun j hj => by rw [hi] at hj; cases hj; simpa using hc
    · rename_i hn
      exact nominal fun j hj => by rw [hn] at hj; cases hj

end ClosingL

/-- without guards: `runActionL`, the `while` loop and `dispatchL` are built from transitions, the pause hooks and bookkeeping -/
theorem ClosingL.of_closed {I : LCfg → Prop} {F : Hook → LCfg → LCfg}
    (ctl : ∀ {l c'}, Off ctlW l.c c' → I l → I { l with c := c' })
    (trans : ∀ l s, terminal l.c.st.label = false → I l → I (transitionToL F l s)) (doPause : ∀ l, I l → I (doPauseL F l)) :
    ClosingL F I (fun _ => I) (fun _ _ => True) fun _ _ _ => True where
  done d i h := ite_of (fun _ => ctl ((setActionStatus_off ..).mono (by decide)) h) fun _ => h
  rerun l _ _ _ _ _ _ h := ctl (Off.setIn l.c .pc _) h
  again _ _ _ _ _ := trivial
  trans l s hl _ _ h := trans l s hl h
  kill l _ _ hl _ h := ctl (Off.setIn _ .killing none) (trans l .killed hl h)
  pauseNone l _ _ _ _ _ _ h := doPause l h
  pauseNext l _ _ s hl _ _ _ _ h := ⟨trans l s hl h, doPause _ (trans l s hl h)⟩

theorem dispatchL_closed {I : LCfg → Prop} {F : Hook → LCfg → LCfg}
    (ctl : ∀ {l c'}, Off ctlW l.c c' → I l → I { l with c := c' })
    (trans : ∀ l s, terminal l.c.st.label = false → I l → I (transitionToL F l s)) (doPause : ∀ l, I l → I (doPauseL F l))
    (l : LCfg) (next : Option SObj) (h : I l) : I (dispatchL F l next) :=
  (ClosingL.of_closed ctl trans doPause).dispatchL l next (fun _ _ _ => trivial) (fun _ _ => trivial) h

/-- the stepping task: what it does besides the closing part of a step (`Task.Keeps`), and `endOfStepL` as a whole -/
structure TaskLeaves (F : Hook → LCfg → LCfg) (I : LCfg → Prop) : Prop extends Task.Keeps (Task.lis F) I where
  endOfStep : ∀ l r, I l → I (endOfStepL F l r)

namespace TaskLeaves
variable {I : LCfg → Prop} {F : Hook → LCfg → LCfg} (T : TaskLeaves F I)
include T

/-- the stepping task is traversed in `PM/Task.lean`; one predicate is its special case -/
theorem hoare : Task.Hoare (Task.lis F) (fun _ _ => True) (fun _ => True) I I I :=
  .single (fun _ _ _ => trivial) (fun l r _ => T.endOfStep l r) T.start T.setPc T.activate
    (fun l cmd _ h => ⟨T.alloc l cmd h, trivial⟩) T.rearm

theorem finishUserL (l : LCfg) (o : Outcome) (h : I l) : I (finishUserL F l o) :=
  Task.finishUser_lis F l o ▸ T.hoare.finishUser l o (fun _ _ => trivial) h

theorem loopHeadL (P : Prog) (fuel : Nat) (l : LCfg) (h : I l) : I (loopHeadL F P fuel l) :=
  Task.loopHead_lis F P fuel l ▸ T.hoare.loopHead P (ProgCmds.true P) fuel l h

theorem tickStepperL (P : Prog) (l : LCfg) (h : I l) : I (tickStepperL F P l) :=
  Task.tickStepper_lis F P l ▸ T.hoare.tickStepper P (ProgCmds.true P) l (PcCmds.true _) h

end TaskLeaves

structure StepLeaves (F : Hook → LCfg → LCfg) (I : LCfg → Prop) : Prop extends CallLeaves I, EventLeaves I where
  hook : ∀ h l, I l → I (F h l)
  trans : ∀ l s, terminal l.c.st.label = false → I l → I (transitionToL F l s)
  doPause : ∀ l, I l → I (doPauseL F l)
  /-- the event loop takes a scheduled callback off its list -/
  unsched : ∀ l cb, l.c.ready.contains cb = true → I l → I (l.upd fun c => { c with ready := c.ready.erase cb })
  /-- `call_soon` -/
  sched : ∀ l r, I l → I (l.upd fun c => { c with ready := c.ready ++ [.usercb r] })

namespace StepLeaves
variable {I : LCfg → Prop} {F : Hook → LCfg → LCfg} (H : StepLeaves F I)
include H

theorem off {W : List Fld} {l : LCfg} {c' : Cfg} (o : Off W l.c c') (h : I l) (hW : ∀ f ∈ W, f ∈ ctlW := by decide) :
    I { l with c := c' } := H.ctl (o.mono hW) h

theorem pauseL (l : LCfg) (h : I l) : I (pauseL F l).1 := H.toCallLeaves.pauseL (fun l _ => H.doPause l) l h
theorem playL (l : LCfg) (h : I l) : I (playL F l).1 := H.toCallLeaves.playL H.hook l h
theorem killL (l : LCfg) (h : I l) : I (killL F l).1 := H.toCallLeaves.killL (fun l hl _ => H.trans l _ hl) l h
theorem failL (l : LCfg) (e : Exc) (h : I l) : I (failL F l e).1 := failL_closed H.trans l e h
theorem reqK (r : Req) (l : LCfg) (h : I l) : I (reqK F r l) :=
  H.toCallLeaves.reqK H.hook (fun l hl _ => H.trans l _ hl) (fun l _ => H.doPause l) r l h

theorem dispatchL (l : LCfg) (next : Option SObj) (h : I l) : I (dispatchL F l next) :=
  dispatchL_closed H.ctl H.trans H.doPause l next h

theorem endOfStepL (l : LCfg) (r : StepEnd) (h : I l) : I (endOfStepL F l r) := by
  unfold L.endOfStepL; dsimp only
  exact H.off (finally_off _)
    (H.dispatchL _ _ (H.off (l := { l with executing := false }) (prepare_off l.c r) (H.setExecuting l false h)))

theorem task : TaskLeaves F I where
  endOfStep := H.endOfStepL
  setPc l _ h := H.off (Off.set l.c .pc _) h
  start l h := H.setExecuting _ true (H.off (Off.set l.c .stepping true) h)
  activate := H.activate
  alloc := H.alloc
  rearm := H.rearm

theorem tickStepperL (P : Prog) (l : LCfg) (h : I l) : I (tickStepperL F P l) := H.task.tickStepperL P l h

/-- the leaves of the calls and of the event loop (`PM/Events.lean`), with a transition, the pause hooks and `playL` as wholes -/
theorem events : Task.EventClosed (Task.lisE F) I fun _ _ => True where
  hand := H.hand
  requestPause l _ hs _ _ := H.requestPause l hs
  requestKill l _ hs _ := H.requestKill l hs
  pauseNow l _ _ _ _ _ := H.doPause l
  killNow l hl _ _ := H.trans l _ hl
  failNow l _ hl := H.trans l _ hl
  played := H.playL
  absorb _ h := h
  setHanded l v := H.off (Off.set l.c .handed v)
  resume l v _ := H.resume l v
  adone := H.adone
  complete := H.complete
  cancelFut := H.cancelFut
  unsched := H.unsched
  sched := H.sched

theorem tickCbL (l : LCfg) (cb : Cb) (h : I l) : I (tickCbL F l cb) := Task.tickCb_lis F l cb ▸ H.events.tickCb l cb h

theorem stepLF (P : Prog) (l : LCfg) (ev : Ev) (h : I l) : I (stepLF F P l ev).1 :=
  Task.step_lis F P l ev ▸
    H.events.step P l ev (fun h => Task.tickStepper_lis F P l ▸ H.tickStepperL P l h) (fun _ _ => trivial) h

end StepLeaves

theorem runL_ind {I : LCfg → Prop} (P : Prog) (step : ∀ l ev, I l → I (stepL P l ev).1) (l0 : LCfg) (evs : List Ev) (h : I l0) :
    I (runL P l0 evs) := by
  induction evs generalizing l0 with
  | nil => exact h
  | cons e es ih => exact ih _ (step l0 e h)

theorem StepLeaves.runL {I : LCfg → Prop} (H : ∀ n, StepLeaves (fireN n) I) (P : Prog) (l0 : LCfg) (evs : List Ev) (h : I l0) :
    I (runL P l0 evs) :=
  runL_ind P (fun l => (H _).stepLF P l) l0 evs h

theorem StepLeaves.of_base {J : Cfg → Prop} {F : Hook → LCfg → LCfg} (HJ : StepClosed J) (fire : ∀ h l, J l.c → J (F h l).c)
    (trans : ∀ l s, terminal l.c.st.label = false → J l.c → J (transitionToL F l s).c) : StepLeaves F fun l => J l.c :=
  { CallLeaves.of_base HJ.toBodyClosed, EventLeaves.of_base HJ.toBodyClosed with
    hook := fire
    trans := trans
    doPause := fun l h => HJ.off (Off.set _ .pausing none) (fire .paused (l.upd doPauseHooks) (HJ.paused l.c h))
    unsched := fun l cb hc h => HJ.unsched l.c cb hc h
    sched := fun l r h => HJ.sched l.c r h }

/-- `T`: the predicate's own argument for a transition, for any notification function that preserves `J` and has the frame
`G`, which every `fireN n` has -/
theorem StepLeaves.of_base_fireN {J : Cfg → Prop} (HJ : StepClosed J) {G : (Hook → LCfg → LCfg) → Prop} (hG : ∀ n, G (fireN n))
    (T : ∀ F, G F → (∀ h l, J l.c → J (F h l).c) → ∀ l s, terminal l.c.st.label = false → J l.c → J (transitionToL F l s).c)
    (n : Nat) : StepLeaves (fireN n) fun l => J l.c :=
  have fire : ∀ n h l, J l.c → J (fireN n h l).c :=
    fireN_closed (I := fun l => J l.c) hG (fun _ _ h => h) (fun _ _ _ _ h => h) fun F hF hI => (of_base HJ hI (T F hF hI)).reqK
  .of_base HJ (fire n) (T _ (hG n) (fire n))

/-! On a terminated process the closing part of a step enacts nothing: no notification is reached, whatever `F` is. -/

theorem dispatchL_terminal (F : Hook → LCfg → LCfg) (l : LCfg) (next : Option SObj) (ht : terminal l.c.st.label = true) :
    dispatchL F l next = l := by
  unfold dispatchL; rw [if_pos ht]

theorem endOfStepL_terminal_c (F : Hook → LCfg → LCfg) (l : LCfg) (r : StepEnd) (ht : terminal l.c.st.label = true) :
    (endOfStepL F l r).c = endOfStep l.c r := by
  have hp : terminal (prepare l.c r).1.st.label = true := by rw [(prepare_off l.c r).st]; exact ht
  unfold endOfStepL endOfStep; dsimp only
  rw [dispatchL_terminal F _ _ hp, dispatch_terminal _ _ hp]; rfl

/-! "No transition is in progress" (between two events) needs nothing but the skeleton: a transition ends by clearing the flag and
nothing else writes it. -/

def NoTr (l : LCfg) : Prop := l.trans = none

theorem transitionToL_trans (F : Hook → LCfg → LCfg) (l : LCfg) (s : SObj) : (transitionToL F l s).trans = none := by
  unfold transitionToL; rfl

theorem noTr_body {F : Hook → LCfg → LCfg} (hF : ∀ h l, NoTr l → NoTr (F h l)) : StepLeaves F NoTr where
  hand _ _ h := h
  requestPause _ _ h := h
  requestKill _ _ h := h
  played _ h := h
  ctl _ h := h
  setExecuting _ _ h := h
  activate _ _ _ _ _ _ h := h
  alloc _ _ h := h
  rearm _ _ h := h
  adone _ _ h := h
  resume _ _ h := h
  cancelFut _ h := h
  complete _ _ _ h := h
  hook := hF
  trans l s _ _ := transitionToL_trans F l s
  doPause l h := hF .paused (l.upd doPauseHooks) h
  unsched _ _ _ h := h
  sched _ _ h := h

theorem fireN_noTr (n : Nat) : ∀ h l, NoTr l → NoTr (fireN n h l) :=
  fireN_closed (P := fun _ => True) (fun _ => trivial) (fun _ _ h => h) (fun _ _ _ _ h => h) (fun _ _ hF => (noTr_body hF).reqK) n

/-- a closed process has no hooks left, so nothing is notified -/
theorem transitionToL_closed (F : Hook → LCfg → LCfg) (l : LCfg) (s : SObj) (hc : l.c.closed = true) :
    transitionToL F l s = { l with c := transitionTo l.c s, trans := none } := by
  unfold transitionToL transitionTo forceExceptedL forceExcepted; dsimp only
  by_cases hin : s.label ∈ allowed l.c.st.label
  · rw [if_pos hin, if_pos hin, if_pos hc, if_pos hc]; rfl
  · rw [if_neg hin, if_neg hin, if_pos hc, if_pos hc]; rfl

theorem enterNextL_eq (F : Hook → LCfg → LCfg) (d : LCfg) (s : SObj) :
    enterNextL F d s =
      match (enteredNotif s).bind hookOfNotif with
      | some h => F h (d.upd fun c => enterNext c s)
      | none => d.upd fun c => enterNext c s := by
  cases s <;> rfl

/-- only a RUNNING or WAITING state that has been entered notifies the listeners -/
theorem hook_live {s : SObj} {h : Hook} (hh : (enteredNotif s).bind hookOfNotif = some h) : terminal s.label = false := by
  cases s <;> first | rfl | cases hh

theorem forceExceptedL_open (F : Hook → LCfg → LCfg) (d : LCfg) (e : Exc) (hc : d.c.closed = false) :
    forceExceptedL F d e =
      enterNextL F (F .entering ({ d with trans := some .excepted }.upd fun c => setFutExc c e)) (.excepted e) := by
  unfold forceExceptedL; rw [if_neg (by rw [hc]; decide)]; rfl

/-- a transition of an open process in phases, on the whole configuration (`Phases` of `PM/Closed.lean` is the case of predicates on
the `Cfg` component): `A` until `do_exit()` has run, `B` until the ENTERING hooks have run, `R s'` while `s'` is about to be entered,
`E s'` once it is entered; the notifications between the phases keep them -/
structure PhasesL (F : Hook → LCfg → LCfg) (l₀ : LCfg) (s : SObj) (A B : LCfg → Prop) (R E : SObj → LCfg → Prop)
    (J : LCfg → Prop) : Prop where
  start : A { l₀ with trans := some s.label }
  opn : ∀ d, A d → d.c.closed = false
  exiting : ∀ d, A d → A (F .exiting d)
  exit : ∀ d, A d → B (d.upd exitState)
  /-- `StateEntryFailed`: the exit phase runs a second time -/
  again : ∀ d, B d → A d
  entering : s.label ∈ allowed l₀.c.st.label → ∀ d c2, B d → enteringHooks d.c s = .ok c2 → R s { d with c := c2 }
  failed : s.label ∈ allowed l₀.c.st.label → ∀ d e, B d →
    R (.excepted e) ({ d with trans := some .excepted }.upd fun c => setFutExc c e)
  refused : s.label ∉ allowed l₀.c.st.label → ∀ e,
    R (.excepted e) ({ l₀ with trans := some .excepted }.upd fun c => setFutExc c e)
  hookR : ∀ s' d, R s' d → R s' (F .entering d)
  enter : ∀ s' d, R s' d → E s' (d.upd fun c => enterNext c s')
  /-- `on_process_running` / `on_process_waiting`; a terminal state notifies nobody -/
  entered : ∀ s' h d, (enteredNotif s').bind hookOfNotif = some h → E s' d → E s' (F h d)
  done : ∀ s' d, E s' d → J { d with trans := none }

theorem PhasesL.transitionToL {F : Hook → LCfg → LCfg} {l : LCfg} {s : SObj} {A B : LCfg → Prop} {R E : SObj → LCfg → Prop}
    {J : LCfg → Prop} (H : PhasesL F l s A B R E J) : J (transitionToL F l s) := by
  have enter : ∀ s' d, R s' d → J { enterNextL F (F .entering d) s' with trans := none } := fun s' d r => by
    apply H.done s'
    rw [enterNextL_eq]
    have e := H.enter _ _ (H.hookR _ _ r)
    split
    · rename_i h hh
      exact H.entered _ _ _ hh e
    · exact e
  unfold L.transitionToL; dsimp only
  split
  · rename_i hin
    rw [if_neg (by rw [H.opn _ H.start]; decide)]
    have round : ∀ d : LCfg, A d → B ((F .exiting d).upd exitState) := fun d hd => H.exit _ (H.exiting d hd)
    have hb : B (exitPhaseL F { l with trans := some s.label } s) := by
      unfold exitPhaseL; dsimp only
      split
      · exact round _ (H.again _ (round _ H.start))
      · exact round _ H.start
    split
    · rw [forceExceptedL_open F _ _ (H.opn _ (H.again _ hb))]
      exact enter _ _ (H.failed hin _ _ hb)
    · rename_i c2 hok
      exact enter _ _ (H.entering hin _ c2 hb hok)
  · rename_i hin
    rw [forceExceptedL_open F _ _ (H.opn _ H.start)]
    exact enter _ _ (H.refused hin _)

theorem _root_.PMF.Phases.transitionToL {F : Hook → LCfg → LCfg} {l : LCfg} {s : SObj} {A B : Cfg → Prop}
    {R : SObj → Cfg → Prop} {J : Cfg → Prop} (H : Phases l.c s A B R J) (hA : ∀ d, A d.c → A (F .exiting d).c)
    (hR : ∀ s' d, R s' d.c → R s' (F .entering d).c) (hJ : ∀ h d, J d.c → J (F h d).c) : J (transitionToL F l s).c :=
  PhasesL.transitionToL (A := fun d => A d.c) (B := fun d => B d.c) (R := fun s' d => R s' d.c) (E := fun _ d => J d.c)
    (J := fun d => J d.c)
    { start := H.start, opn := fun d => H.opn d.c, exiting := hA, exit := fun d => H.exit d.c, again := fun d => H.again d.c
      entering := fun hin d => H.entering hin d.c, failed := fun hin d => H.failed hin d.c, refused := H.refused
      hookR := hR, enter := fun s' d => H.enter s' d.c, entered := fun _ h d _ => hJ h d, done := fun _ _ h => h }

end L
end PMF
