import PlumpyModel.PM.Steps
import PlumpyModel.PM.Proof1
/-!
# C05: no user code runs while the process is paused

`InvP` is closed under every leaf update of the model (`invP_closed`).  The one leaf where it matters is the activation of a
step function: the loop starts it only when no pending pause future is in effect, and while the process is live a set
`_paused` future is pending, so `_paused` is not set.
-/
namespace PMF

structure InvP (c : Cfg) : Prop where
  traceOk : ∀ a ∈ c.trace, a.paused = false
  pausedPending : terminal c.st.label = false → ∀ pf, c.paused = some pf → c.pfs[pf]? = some false

def SameP (c c' : Cfg) : Prop :=
  c'.st.label = c.st.label ∧ c'.trace = c.trace ∧ c'.paused = c.paused ∧ c'.pfs = c.pfs

theorem InvP.same {c c' : Cfg} (h : InvP c) (s : SameP c c') : InvP c' :=
  ⟨by rw [s.2.1]; exact h.traceOk, by rw [s.1, s.2.2.1, s.2.2.2]; exact h.pausedPending⟩

theorem SameP.of_label {W : List Fld} {c c' : Cfg} (hl : c'.st.label = c.st.label) (o : Off W c c')
    (hW : ∀ f ∈ [Fld.trace, .paused, .pfs], f ∉ W := by decide) : SameP c c' :=
  ⟨hl, o.trace (hW _ (by decide)), o.paused (hW _ (by decide)), o.pfs (hW _ (by decide))⟩

theorem SameP.of_off {W : List Fld} {c c' : Cfg} (o : Off W c c')
    (hW : ∀ f ∈ [Fld.st, .trace, .paused, .pfs], f ∉ W := by decide) : SameP c c' :=
  .of_label (congrArg SObj.label (o.st (hW _ (by decide)))) o fun f hf => hW f (List.mem_cons_of_mem _ hf)

theorem InvP.off {W : List Fld} {c c' : Cfg} (h : InvP c) (o : Off W c c')
    (hW : ∀ f ∈ [Fld.st, .trace, .paused, .pfs], f ∉ W := by decide) : InvP c' := h.same (.of_off o hW)

theorem invP_init (nf : Nat) : InvP (init nf) := ⟨fun _ ha => (nomatch ha), fun _ _ hp => (nomatch hp)⟩

theorem deliver_sameP (c : Cfg) (o) : SameP c (deliver c o) := .of_label (deliver_same c o).1 (deliver_off c o)

theorem awaitableDone_invP (c : Cfg) (f) (h : InvP c) : InvP (awaitableDone c f) :=
  h.same (.of_label (awaitableDone_same c f).1 (awaitableDone_off c f))

theorem live_of_allowed {l m : Label} (h : m ∈ allowed l) : terminal l = false := by
  cases l <;> first | rfl | cases h

theorem transitionTo_keep (c : Cfg) (s : SObj) :
    (transitionTo c s).trace = c.trace ∧
    (terminal (transitionTo c s).st.label = true ∨
      (terminal c.st.label = false ∧ (transitionTo c s).paused = c.paused ∧ (transitionTo c s).pfs = c.pfs)) := by
  have o := transitionTo_off c s
  refine ⟨o.trace, (transitionTo_elim c s
    (Q := fun x => terminal x.st.label = true ∨ (terminal c.st.label = false ∧ x.pfs = c.pfs)) ?_ ?_).imp_right
      fun h => ⟨h.1, o.paused, h.2⟩⟩
  · rintro _ d s' (hal | e | e)
    · exact (Bool.eq_false_or_eq_true (terminal s.label)).imp id fun _ => ⟨live_of_allowed hal, (exitState_off c).pfs⟩
    all_goals exact .inl rfl
  · intro _ d s' c2 he hok
    rcases Bool.eq_false_or_eq_true (terminal s'.label) with ht | ht
    · exact .inl (by rw [enterNext_st]; exact ht)
    · -- only a terminal state releases the stepper (`pfs` written)
      have o := he.off.trans (enteringHooks_off _ hok)
      cases he with
      | ok hal => exact .inr ⟨live_of_allowed hal, (H6.enterNext_live c2 s ht).2.2.1.trans o.pfs⟩
      | _ => cases ht

theorem transitionTo_invP (c : Cfg) (s : SObj) (h : InvP c) : InvP (transitionTo c s) := by
  obtain ⟨htr, hk⟩ := transitionTo_keep c s
  refine ⟨by rw [htr]; exact h.traceOk, fun hl pf hp => ?_⟩
  rcases hk with ht | ⟨hcl, hpa, hpf⟩
  · rw [ht] at hl; cases hl
  · rw [hpf]; exact h.pausedPending hcl pf (hpa ▸ hp)

/-- pausing installs a fresh, pending pause future -/
theorem doPauseHooks_invP (c : Cfg) (h : InvP c) : InvP (doPauseHooks c) := by
  refine ⟨h.traceOk, fun _ pf hp => ?_⟩
  cases hp
  exact List.getElem?_concat_length ..

theorem play_invP (c : Cfg) (h : InvP c) : InvP (play c).1 :=
  play_elim c (fun _ _ => h) (fun i _ _ => (h.off (cancelAction_off c i)).same ⟨rfl, rfl, rfl, rfl⟩)
    (fun _ _ _ => ⟨h.traceOk, fun _ _ hp => nomatch hp⟩) fun _ _ _ => ⟨h.traceOk, fun _ _ hp => nomatch hp⟩

theorem invP_closed : StepClosed InvP where
  ctl o h := h.off o
  trans c s _ h := transitionTo_invP c s h
  paused c h := doPauseHooks_invP c h
  played c h := play_invP c h
  interrupted c k h := h.off (interruptState_off c k)
  activate c fn args kw hst hnp h := by
    -- live and `_paused` set would mean a pending pause future (`InvP`), which the loop has excluded
    have hp : c.paused = none := by
      cases hpa : c.paused with
      | none => rfl
      | some pf => exact absurd (h.pausedPending (by rw [hst]; rfl) pf hpa) (hnp pf hpa)
    refine ⟨fun a ha => ?_, h.pausedPending⟩
    rcases List.mem_cons.mp ha with rfl | ha
    · rw [hp]; rfl
    · exact h.traceOk a ha
  alloc c cmd h := h.off (cmdToState_off c cmd)
  rearmG _ _ _ _ _ hst h := h.same ⟨by rw [hst]; rfl, rfl, rfl, rfl⟩
  deliver c o h := h.same (deliver_sameP c o)
  adone c f h := awaitableDone_invP c f h
  complete c f o h := h.off (complete_off c f o)
  cancelFut c h := h.off (cancelFut_off c)
  unsched _ _ _ h := h.same ⟨rfl, rfl, rfl, rfl⟩
  sched _ _ h := h.same ⟨rfl, rfl, rfl, rfl⟩

/-- the step body starts a step function only when not paused: `step_until_terminated` awaits `self._paused` in a `while`,
so the pause is checked again after every wake-up -/
theorem stepBodyK_invP (P : Prog) (k : Cfg → Cfg) (hk : ∀ d, InvP d → InvP (k d)) (c : Cfg) (h : InvP c)
    (hnp : terminal c.st.label = false → c.paused = none) : InvP (stepBodyK P k c) :=
  invP_closed.stepBodyK P hk c (fun hl _ hp => by rw [hnp hl] at hp; cases hp) h

theorem tickStepper_invP (P : Prog) (c : Cfg) (h : InvP c) : InvP (tickStepper P c) := invP_closed.tickStepper P c h

/-- **C05 (model level), core clause**: for every user program and every history of ticks, scheduled callbacks
and pause / play / kill / resume / fail / cancel / complete requests, no step function or continuation is ever
started while the process reports paused. -/
theorem C05_no_user_code_while_paused (P : Prog) (nf : Nat) (evs : List Ev) :
    ∀ a ∈ (run P (init nf) evs).trace, a.paused = false :=
  (invP_closed.run P _ evs (invP_init nf)).traceOk

end PMF
