import PlumpyModel.PM.LProof17
/-!
# `PMF.L` — progress with listeners: the closing part of a step, the step loop, every event, every history

`Inv10L` is `Inv10` of PM/Proof10.lean for the model with listeners (with the lifecycle invariant `Inv` in the place of `Inv2`
for "a live process is not closed"): it holds in every configuration reached by `runL`, for every plan (`runL_inv10L`).
On a terminated process a wake-up of the stepping task consults no listener (`tickStepperL_terminal_c`), so
`stepper_returns_gen` applies (through `InvS.ticks_end`): **`step_until_terminated()` returns also when listeners issue requests**
(`stepperL_returns`).
-/
namespace PMF
namespace L

theorem Hq.qq {l l' : LCfg} (h : Hq l.c) (q : QQ l l') : Hq l'.c := by
  intro pf hp; rw [q.pc] at hp; exact q.pfs.2 pf (h pf hp)

theorem pending_of_status {c : Cfg} {i : Nat} (h : actionStatus c i = .pending) :
    ∀ a, c.actions[i]? = some a → a.status = .pending := by
  intro a ha; simpa [actionStatus, ha] using h

section
variable {F : Hook → LCfg → LCfg}

/-- **the linking invariant through `runActionL`, the `while` loop and `dispatchL`** (`inv10_closing` of `PM/Proof10.lean` with
listeners): the leaves on the `Cfg` component are those of the base -/
theorem inv10_closingL (hF : FJ F) :
    ClosingL F (fun l => InvS l.c ∧ Hq l.c ∧ Inv l.c) (fun _ l => InvS l.c ∧ Hq l.c ∧ Inv l.c) TargetOk RunOk :=
  have trans : ∀ l s, terminal l.c.st.label = false → TargetOk l.c s → InvS l.c ∧ Hq l.c ∧ Inv l.c →
      InvS (transitionToL F l s).c ∧ Hq (transitionToL F l s).c ∧ Inv (transitionToL F l s).c := fun l s hl hT h =>
    ⟨transitionToL_invS hF l s h.1 h.2.2 hl hT, Hq.qq h.2.1 (transitionToL_qq hF.q l s), transitionToL_inv hF.g1 l s h.2.2 hl⟩
  { done := fun d i h => ite_of (I := fun l : LCfg => InvS l.c ∧ Hq l.c ∧ Inv l.c)
      (fun _ => closing_store inv_closed.toBodyClosed ((setActionStatus_off d.c i .done).mono (by decide)) h) fun _ => h
    rerun := fun l i a next hM ha hne _ => absurd (hM.1 a ha) hne
    again := fun l i _ hp _ => ⟨pending_of_status hp, fun _ => rfl⟩
    trans := fun l s hl _ hT h => trans l s hl hT h
    kill := fun l _ _ hl _ h =>
      closing_store inv_closed.toBodyClosed (Off.setIn _ .killing none) (trans l .killed hl (targetOk_killed _) h)
    pauseNone := fun l i _ hl _ _ _ h =>
      ⟨doPauseL_invS hF l h.1 h.2.2 h.2.1 (fun _ _ => hl), Hq.qq h.2.1 (doPauseL_qq hF.q l), hF.g1.closed.doPause l h.2.2⟩
    pauseNext := fun l i _ s hl hM _ _ hT h =>
      have q1 := transitionToL_qq hF.q l s
      have t1 := trans l s hl hT h
      ⟨t1, doPauseL_invS hF _ t1.1 t1.2.2 t1.2.1 (fun pf hpf => nomatch hM.2 ⟨pf, q1.pc ▸ hpf⟩),
        Hq.qq t1.2.1 (doPauseL_qq hF.q _), hF.g1.closed.doPause _ t1.2.2⟩ }

theorem endOfStepL_tick (hF : FJ F) (l : LCfg) (r : StepEnd) (h : StepIn Inv l.c)
    (hr : ∀ s, r = .next (some s) → TargetOk l.c s) : Tick Inv (endOfStepL F l r).c := by
  have o := prepare_off l.c r
  unfold endOfStepL; dsimp only
  obtain ⟨d1, d2, d3⟩ := (inv10_closingL hF).dispatchL { l with executing := false, c := (prepare l.c r).1 } (prepare l.c r).2
    (fun i => RunOk.of_ia (prepare_ia l.c r h.ia) (prepare_hn_pc l.c r h.qi))
    (prepare_target l.c r hr) ⟨h.s.ar (.of_off o), h.q.ar (.of_off o), h.d.off o⟩
  exact ⟨finally_invS _ d1, finally_hq _ d2, d3.off (finally_off _), finally_interrupt _, finally_stepping _⟩

end

/-- the linking invariant of PM/Proof10.lean for the model with listeners (between two events) -/
structure Inv10L (l : LCfg) : Prop where
  s : InvS l.c
  i : Inv l.c
  ia : IA l.c
  qi : PMF.Quiet l.c → l.c.interrupt = none
  qs : PMF.Quiet l.c → l.c.stepping = false

theorem Inv10L.old {l : LCfg} (h : Inv10L l) : Inv10 l.c := ⟨h.s, h.ia, h.qi, h.qs⟩
theorem inv10L_of_old {l : LCfg} (h : Inv10 l.c) (hi : Inv l.c) : Inv10L l := ⟨h.s, hi, h.ia, h.qi, h.qs⟩

theorem inv10L_init (nf : Nat) (plan : Plan) : Inv10L (initL nf plan) := inv10L_of_old (inv10_init nf) (inv_init nf)

/-- an event that is not a wake-up of the stepping task: the frame `QQ` carries the rest of the invariant -/
theorem Inv10.of_qq {l l' : LCfg} (h : Inv10 l.c) (q : QQ l l') (s : InvS l'.c) : Inv10 l'.c := by
  refine ⟨s, q.ia h.ia, fun hq => ?_, fun hq => q.stepping.trans (h.qs (hq.of_pc q.pc))⟩
  rw [q.int (h.qs (hq.of_pc q.pc))]; exact h.qi (hq.of_pc q.pc)

theorem inv10L_of_qq {l l' : LCfg} (h : Inv10L l) (q : QQ l l') (s : InvS l'.c) (i : Inv l'.c) : Inv10L l' :=
  inv10L_of_old (Inv10.of_qq h.old q s) i

section
variable {F : Hook → LCfg → LCfg}

theorem tickStepperL_inv10L (hF : FJ F) (P : Prog) (l : LCfg) (h : Inv10L l) : Inv10L (tickStepperL F P l) :=
  have := Task.tickStepper_lis F P l ▸ inv10_tick (O := Task.lis F) inv_closed.toBodyClosed
    (fun _ h hl => not_closed_of_live h hl) (fun l r ht h => endOfStepL_tick hF l r h ht) P l ⟨h.old, h.i⟩
  inv10L_of_old this.1 this.2

theorem reqK_inv10L (hF : FJ F) (r : Req) (l : LCfg) (h : Inv10L l) : Inv10L (reqK F r l) :=
  inv10L_of_qq h (reqK_qq hF.q r l) (reqK_invS hF r l h.s h.i) (hF.g1.closed.reqK r l h.i)

theorem tickCbL_inv10L (hF : FJ F) (l : LCfg) (cb : Cb) (h : Inv10L l) : Inv10L (tickCbL F l cb) :=
  tickCbL_elim (Q := Inv10L) F l cb h
    (fun _ => inv10L_of_old (h.old.off (Off.set _ .ready _)) (h.i.same ⟨rfl, rfl, rfl⟩))
    (fun _ _ _ q => inv10L_of_old (awaitableDone_inv10 _ _ q.old) (inv_closed.adone _ _ q.i))
    (fun d q =>
      have h2 := reqK_inv10L hF .kill d q
      have o : Off [.handed] (reqK F .kill d).c (tryKillingL F d).c := Off.set _ .handed _
      inv10L_of_old (h2.old.off o) (h2.i.same (.of_off o)))
    fun _ _ q => inv10L_of_qq q (failL_qq hF.q _ _) (failL_invS hF _ _ q.s q.i) (hF.g1.closed.failL _ _ q.i)

theorem stepLF_inv10L (hF : FJ F) (P : Prog) (l : LCfg) (ev : Ev) (h : Inv10L l) : Inv10L (stepLF F P l ev).1 := by
  cases ev <;> simp only [stepLF]
  · exact tickStepperL_inv10L hF P l h
  · exact tickCbL_inv10L hF l _ h
  · exact reqK_inv10L hF .pause l h
  · exact reqK_inv10L hF .play l h
  · exact reqK_inv10L hF .kill l h
  · exact inv10L_of_old (resume_inv10 l.c _ h.old) (inv_closed.resume l.c _ h.i)
  · exact inv10L_of_qq h (failL_qq hF.q l _) (failL_invS hF l _ h.s h.i) (hF.g1.closed.failL l _ h.i)
  · exact inv10L_of_old (h.old.off (cancelFut_off l.c)) (inv_closed.cancelFut l.c h.i)
  · exact inv10L_of_old (h.old.off (complete_off l.c _ _)) (inv_closed.complete l.c _ _ h.i)
  · exact inv10L_of_old (h.old.off (Off.set _ .ready _)) (h.i.same ⟨rfl, rfl, rfl⟩)
end

/-- **the linking invariant holds in every configuration reached by `runL`**, for every plan -/
theorem runL_inv10L (P : Prog) (l0 : LCfg) (evs : List Ev) (h : Inv10L l0) : Inv10L (runL P l0 evs) :=
  runL_ind P (fun l => stepLF_inv10L (fireN_fj _) P l) l0 evs h

/-- **a wake-up of the stepping task on a terminated process is the wake-up of `PM/Model.lean`**, on any carrier whose closing
part does to a terminated process what `endOfStep` does -/
theorem _root_.PMF.Task.terminal_sim {X : Type} {O : Task.Ops X}
    (eosT : ∀ x r, terminal (O.get x).st.label = true → O.get (O.eos x r) = endOfStep (O.get x) r) :
    Task.Sim2 O Task.base fun x c => O.get x = c ∧ terminal c.st.label = true where
  view h := .of_eq h.1.symm
  start h := ⟨by rw [O.get_start, h.1], h.2⟩
  eos r h := by
    obtain ⟨rfl, ht⟩ := h
    exact ⟨eosT _ r ht, Fix.terminal ((fix_closed ht).endOfStep _ r (Fix.rfl' _)) ht⟩
  setPc p h := ⟨by rw [O.get_setPc, h.1]; rfl, h.2⟩
  activate fn args kw h := ⟨by rw [O.get_activate, h.1]; rfl, h.2⟩
  alloc cmd h := ⟨by rw [O.get_alloc, h.1]; rfl, by
    show terminal (cmdToState _ cmd).1.st.label = true; rw [(cmdToState_off _ cmd).st]; exact h.2⟩
  rearm wf h := ⟨by rw [O.get_rearm, h.1]; rfl, by show terminal (rearm _ wf).st.label = true; rw [rearm_fix _ _ h.2]; exact h.2⟩

section
variable {F : Hook → LCfg → LCfg}

theorem tickStepperL_terminal_c (P : Prog) (l : LCfg) (ht : terminal l.c.st.label = true) :
    (tickStepperL F P l).c = tickStepper P l.c := by
  have := ((Task.terminal_sim (O := Task.lis F) (endOfStepL_terminal_c F)).tickStepper P
    (x := l) (y := l.c) ⟨rfl, ht⟩).1
  rwa [Task.tickStepper_lis, Task.tickStepper_base] at this
end

/-- `n` wake-ups of the stepping task in the model with listeners -/
def ticksL (P : Prog) : Nat → LCfg → LCfg
  | 0, l => l
  | n + 1, l => ticksL P n (stepL P l .tick).1

theorem ticksL_terminal_c (P : Prog) : ∀ (n : Nat) (l : LCfg), terminal l.c.st.label = true →
    (ticksL P n l).c = ticks P n l.c
  | 0, _, _ => rfl
  | n+1, l, ht => by
    have h1 : (stepL P l .tick).1.c = tickStepper P l.c := tickStepperL_terminal_c P l ht
    have hfix : Fix l.c (stepL P l .tick).1.c := (fix_task ht).tickStepperL P l (Fix.rfl' _)
    show (ticksL P n (stepL P l .tick).1).c = ticks P n (tickStepper P l.c)
    rw [ticksL_terminal_c P n _ (Fix.terminal hfix ht), h1]

/-- **step_until_terminated() returns, with listeners**: in every terminated configuration reached by `runL` (any plan),
finitely many wake-ups of the stepping task end it normally -/
theorem stepperL_returns (P : Prog) (nf : Nat) (plan : Plan) (evs : List Ev)
    (ht : terminal (runL P (initL nf plan) evs).c.st.label = true) :
    ∃ n, (ticksL P n (runL P (initL nf plan) evs)).c.pc = .done := by
  obtain ⟨n, hn⟩ := (runL_inv10L P (initL nf plan) evs (inv10L_init nf plan)).s.ticks_end P ht
  exact ⟨n, by rw [ticksL_terminal_c P n _ ht]; exact hn⟩

end L
end PMF
