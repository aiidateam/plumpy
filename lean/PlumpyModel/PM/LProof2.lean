import PlumpyModel.PM.LProof1
import PlumpyModel.PM.Proof4
/-!
# `PMF.L` — where a transition into a terminal state ends; a pending kill takes effect

A transition into a terminal state has no notification point after the state object is assigned, so it ends in that state — or in
EXCEPTED, if entering it fails.  Hence a kill that is pending when the closing part of a step starts takes effect, whatever the
listeners request meanwhile (`endOfStepL_pending`).
-/
namespace PMF
namespace L

theorem exitState_shape (c : Cfg) : ∃ w e, exitState c = { c with wfs := w, efCb := e } :=
  exitState_elim (Q := fun d => ∃ w e, d = { c with wfs := w, efCb := e }) c (fun _ => ⟨_, _, rfl⟩) (fun _ _ _ _ _ _ => ⟨_, _, rfl⟩)
    fun _ _ _ _ _ _ => ⟨_, _, rfl⟩

def KE (c : Cfg) : Prop := c.st.label = .killed ∨ c.st.label = .excepted

section
variable {F : Hook → LCfg → LCfg}

theorem enteredHooksL_nohook (l : LCfg) (s : SObj) (ht : terminal s.label = true) :
    enteredHooksL F l s = l.upd (fun c => enteredHooks c s) := by
  unfold enteredHooksL
  cases s <;> simp [SObj.label, terminal, allowed] at ht <;> simp [enteredNotif, hookOfNotif]

theorem enterNextL_label_terminal (l : LCfg) (s : SObj) (ht : terminal s.label = true) :
    (enterNextL F l s).c.st = s := by
  rw [enterNextL_eq]
  split
  · rename_i h hh; rw [hook_live hh] at ht; cases ht
  · exact enterNext_st l.c s

theorem forceExceptedL_label (l : LCfg) (e : Exc) : (forceExceptedL F l e).c.st.label = .excepted := by
  cases hc : l.c.closed with
  | true => unfold forceExceptedL; rw [if_pos hc]; rfl
  | false => rw [forceExceptedL_open F l e hc, enterNextL_label_terminal _ _ rfl]; rfl

theorem transitionToL_terminal (l : LCfg) (s : SObj) (ht : terminal s.label = true) :
    (transitionToL F l s).c.st = s ∨ (transitionToL F l s).c.st.label = .excepted := by
  unfold transitionToL
  dsimp only
  split
  · split
    · left; rfl
    · split
      · right; exact forceExceptedL_label _ _
      · left; exact enterNextL_label_terminal _ _ ht
  · right; exact forceExceptedL_label _ _

theorem transitionToL_ke (l : LCfg) (s : SObj) (hs : s.label = .killed ∨ s.label = .excepted) :
    KE (transitionToL F l s).c := by
  have ht : terminal s.label = true := by rcases hs with h | h <;> simp [h, terminal, allowed]
  rcases transitionToL_terminal (F := F) l s ht with h | h
  · unfold KE; rw [h]; exact hs
  · exact Or.inr h

theorem enactLoop_terminal' (n : Nat) (l : LCfg) (ht : terminal l.c.st.label = true) : enactLoop F n l = l := by
  cases n with
  | zero => rfl
  | succ n =>
    unfold enactLoop
    split
    · simp [ht]
    · rfl

theorem runActionL_kill (l : LCfg) (i : Nat) (next : Option SObj) (a : Action) (ha : l.c.actions[i]? = some a)
    (hp : a.status = .pending) (hk : a.kind = .kill) : KE (runActionL F l i next).c := by
  unfold runActionL
  rw [ha]; simp only [hp, ne_eq, not_true_eq_false, if_false, hk]
  have h1 : KE ((transitionToL F l .killed).upd (fun c => { c with killing := none })).c :=
    transitionToL_ke (F := F) l .killed (Or.inl rfl)
  split
  · unfold KE at h1 ⊢
    rw [upd_c, (setActionStatus_off ..).st]; exact h1
  · exact h1

theorem endOfStepL_not_stepping (F : Hook → LCfg → LCfg) (l : LCfg) (r : StepEnd) : (endOfStepL F l r).c.stepping = false :=
  finally_stepping _

theorem finally_ke (d : LCfg) : KE (d.upd finally_).c ↔ KE d.c := by
  unfold KE; rw [upd_c, (finally_off d.c).st]

/-- with an empty slot the closing part only makes the transition; into a terminal state nothing is enacted after it -/
theorem dispatchL_to_terminal (l : LCfg) (s : SObj) (hl : terminal l.c.st.label = false) (hi : l.c.interrupt = none)
    (ht : terminal s.label = true) : dispatchL F l (some s) = transitionToL F l s := by
  have h1 : dispatch1L F l (some s) = transitionToL F l s := by unfold dispatch1L; simp only [hi]
  unfold dispatchL
  rw [if_neg (by rw [hl]; exact Bool.false_ne_true)]; dsimp only
  rw [h1]
  refine enactLoop_terminal' _ _ ?_
  rcases transitionToL_terminal (F := F) l s ht with h | h
  · rw [h]; exact ht
  · rw [h]; rfl

/-- **a pending kill takes effect in the closing part**: if the kill action `k` is the pending interrupt action when the step's
`execute` returns (or raises), then — whatever listeners and state-event callbacks request while the closing part runs — the
step ends KILLED, or EXCEPTED (the step failed, or entering KILLED failed). -/
theorem endOfStepL_pending (k : Nat) (l : LCfg) (r : StepEnd) (h : Pending k l.c) : KE (endOfStepL F l r).c := by
  obtain ⟨a, ha, hapend, hakind⟩ := pending_entry h
  obtain ⟨hl, hkill, hint, hst, hstep, hkind⟩ := h
  -- dispatch with the kill still in the slot
  have hdisp : ∀ next, KE (dispatchL F { l with executing := false } next).c := by
    intro next
    unfold dispatchL
    simp only [hl, Bool.false_eq_true, if_false]
    have h1 : KE (dispatch1L F { l with executing := false } next).c := by
      unfold dispatch1L
      have : actionStatus l.c k ≠ .cancelled := by rw [hst]; simp
      simp only [hint, this, ne_eq, not_false_eq_true, if_true]
      exact runActionL_kill _ k next a ha hapend hakind
    rw [enactLoop_terminal' _ _ (terminal_of_label h1)]; exact h1
  unfold endOfStepL; dsimp only
  rw [finally_ke]
  refine prepare_elim (Q := fun p => KE (dispatchL F { l with executing := false, c := p.1 } p.2).c) l.c r
    (fun e => ?_) (fun n _ => hdisp n) (fun _ _ _ _ => hdisp none) fun _ _ hn => nomatch hn.symm.trans hint
  -- the step failed: the slot is emptied, the process excepts
  rw [dispatchL_to_terminal _ _ (by rw [(setInterrupt_off l.c none).st]; exact hl) rfl rfl]
  exact transitionToL_ke _ _ (Or.inr rfl)
end

end L
end PMF
