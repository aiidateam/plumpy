import PlumpyModel.PM.Writes
/-!
# The control skeleton of the process-control model, traversed once

Every event of `PM/Model.lean` composes a few *leaf* updates — a transition of a live process, the pause hooks, `play`, an
interruption of the current wait, the activation of a step function, the allocation / re-arming / completion of a wait, the
workchain's callbacks, bookkeeping of the control machinery — glued by the case analysis of
`runAction / dispatch / endOfStep / finishUser / wake / stepBodyK / loopHead / tickStepper / pause / kill / tickCb / step`.
A predicate that the leaves keep is kept by every event; the glue is traversed here once.  (For a reflexive, transitive relation
`R` take `I := R c₀`.)

The leaves come in two grains.  Fine: every leaf is stated with what the skeleton knows where it reaches it — `ClosingG I B T M`
for `runAction / dispatch`, `Task.Hoare` (`PM/Task.lean`) for the stepping task, `CallClosed I D` / `EventClosed I D`
(`PM/Events.lean`, at the carrier of `PM/Model.lean`) for the control calls and the event loop.  A predicate that reads the request
bookkeeping (`Pending`, `PausingOk`, `KillingOk`, `PI`) or is broken inside the closing part (`Inv10`) needs this grain.  Coarse:
`EosClosedG I T` ⊂ `BodyClosedG I T D` ⊂ `StepClosedG I T D` have all bookkeeping in one leaf `ctl` (any update of the fields `ctlW`),
and `TaskClosedG I T A` has the closing part of a step as one leaf; `closing`, `hoare`, `toCall`, `toEvent` turn the coarse leaves
into the fine ones.  `BodyClosed I` / `StepClosed I` are the coarse forms without guards.  The event loop's own two updates of the
list of scheduled callbacks are asked only by `StepClosedG`: a predicate that the loop does not preserve ("this callback stays
scheduled") can still be `BodyClosedG`.

The guards: a transition is asked only into a target that `T` accepts, a delivery of `o` to the current wait only if `D c o`, an
allocation only for a command that `A` accepts.  The skeleton knows where a target comes from (KILLED, EXCEPTED and RUNNING it
chooses itself; the state of the command a step function returned reaches the transition in the configuration that allocated it)
and delivers only for an external `resume()`: so `T` is gone above `endOfStep`, and `D` is a condition on the `resume` events of a
history.
-/
namespace PMF

/-- bookkeeping of the control machinery: the action table and the interrupt slot, the aliases `_pausing` / `_killing`,
cookies, handed-out actions, `_stepping`, the program counter of the stepping task -/
def ctlW : List Fld := [.actions, .interrupt, .handed, .nextCookie, .stepping, .pc, .pausing, .killing]

/-- the leaves of `runAction / dispatch` with what the closing part knows where it reaches them: `T` guards the target of a
transition, `M c i next` the action `i` that is run with the next state `next` (`dispatch` runs the interrupt action, and only
one that is not cancelled); `B i` holds when the body of action `i` has run and its outcome is about to be stored.  A predicate
need not be closed under a second run of an action, nor under the pause hooks as such (`Inv10`, `PM/Proof10.lean`). -/
structure ClosingG (I : Cfg → Prop) (B : Nat → Cfg → Prop) (T : Cfg → SObj → Prop) (M : Cfg → Nat → Option SObj → Prop) :
    Prop where
  /-- the outcome of the action is stored -/
  done : ∀ d i, B i d → I (setActionStatus d i .done)
  /-- an action that already ran is run again -/
  rerun : ∀ c i a next, M c i next → c.actions[i]? = some a → a.status ≠ .pending → I c → I { c with pc := .crashed .alreadyRan }
  /-- the nominal transition: no action is in the slot, or a cancelled one -/
  trans : ∀ c s, terminal c.st.label = false → (∀ i, c.interrupt = some i → actionStatus c i = .cancelled) → T c s → I c →
    I (transitionTo c s)
  /-- `do_kill()`: the transition, then `_killing` is cleared -/
  kill : ∀ c i next, terminal c.st.label = false → M c i next → I c → B i { transitionTo c .killed with killing := none }
  /-- `_do_pause()` -/
  pauseNone : ∀ c i a, terminal c.st.label = false → M c i none → c.actions[i]? = some a → a.kind = .pause → I c →
    B i (doPauseHooks c)
  /-- `_do_pause(next_state)` -/
  pauseNext : ∀ c i a s, terminal c.st.label = false → M c i (some s) → c.actions[i]? = some a → a.kind = .pause → T c s → I c →
    B i (doPauseHooks (transitionTo c s))

namespace ClosingG
variable {I : Cfg → Prop} {B : Nat → Cfg → Prop} {T : Cfg → SObj → Prop} {M : Cfg → Nat → Option SObj → Prop}
  (H : ClosingG I B T M)
include H

theorem runAction (c : Cfg) (i next) (hl : terminal c.st.label = false) (hM : M c i next)
    (hT : ∀ s, next = some s → T c s) (h : I c) : I (runAction c i next) := by
  unfold PMF.runAction
  split
  · exact h
  · rename_i a ha
    refine ite_of (fun hne => H.rerun c i a next hM ha hne h) fun _ => ?_
    cases hk : a.kind with
    | kill => exact H.done _ i (H.kill c i next hl hM h)
    | pause =>
      cases next with
      | none => exact H.done _ i (H.pauseNone c i a hl hM ha hk h)
      | some s => exact H.done _ i (H.pauseNext c i a s hl hM ha hk (hT s rfl) h)

theorem dispatch (c : Cfg) (next) (hM : ∀ i, c.interrupt = some i → actionStatus c i ≠ .cancelled → M c i next)
    (hT : ∀ s, next = some s → T c s) (h : I c) : I (dispatch c next) := by
  unfold PMF.dispatch
  refine ite_of (fun _ => h) fun hl => ?_
  have hl := eq_false_of_ne_true hl
  have nominal : (∀ i, c.interrupt = some i → actionStatus c i = .cancelled) →
      I (match (generalizing := false) next with | some s => transitionTo c s | none => c) := fun hs => by
    cases next with
    | none => exact h
    | some s => exact H.trans c s hl hs (hT s rfl) h
  split
  · rename_i i hi
    exact ite_of (fun hnc => H.runAction c i next hl (hM i hi hnc) hT h) fun hc =>
      nominal fun j hj => by rw [hi] at hj; cases hj; simpa using hc
  · rename_i hn
    exact nominal fun j hj => by rw [hn] at hj; cases hj

end ClosingG

theorem ClosingG.of_rel {R : Cfg → Cfg → Prop} (trans : ∀ {a b c}, R a b → R b c → R a c)
    (done : ∀ c i, R c (setActionStatus c i .done)) (unkill : ∀ c, R c { c with killing := none })
    (pc : ∀ c v, R c { c with pc := v }) (tr : ∀ c s, R c (transitionTo c s)) (paused : ∀ c, R c (doPauseHooks c)) (c₀ : Cfg) :
    ClosingG (R c₀) (fun _ => R c₀) (fun _ _ => True) fun _ _ _ => True where
  done d i h := trans h (done d i)
  rerun c _ _ _ _ _ _ h := trans h (pc c _)
  trans c s _ _ _ h := trans h (tr c s)
  kill c _ _ _ _ h := trans (trans h (tr c .killed)) (unkill _)
  pauseNone c _ _ _ _ _ _ h := trans h (paused c)
  pauseNext c _ _ s _ _ _ _ _ h := trans (trans h (tr c s)) (paused _)

/-- what `finishUser / wake / stepBodyK / loopHead / tickStepper` do around `endOfStep`, the closing part of a step taken as a
whole: a predicate need not be closed under the single updates of `endOfStep` (`Committed`, `PM/Proof4.lean`) -/
structure TaskClosedG (I : Cfg → Prop) (T : Cfg → SObj → Prop) (A : Cmd → Prop) : Prop where
  pc : ∀ c v, I c → I { c with pc := v }
  stepping : ∀ c, I c → I { c with stepping := true }
  tgt : ∀ c s, s.label ≠ .waiting → T c s
  activate : ∀ c fn args kw, c.st = .running fn args kw → Unheld c → I c →
    I { c with trace := { fn := fn, args := args, kw := kw, paused := c.paused.isSome } :: c.trace }
  /-- `A`: a condition on the commands the step functions of the program return -/
  allocG : ∀ c cmd, A cmd → I c → I (cmdToState c cmd).1 ∧ T (cmdToState c cmd).1 (cmdToState c cmd).2
  rearmG : ∀ c f wf wk aw, c.st = .waiting f wf wk aw → I c →
    I { c with st := .waiting f c.wfs.length none aw, wfs := c.wfs ++ [match wk with | some o => o | none => .pending] }
  eosG : ∀ c r, (∀ s, r = .next (some s) → T c s) → I c → I (endOfStep c r)

abbrev TaskClosed (I : Cfg → Prop) : Prop := TaskClosedG I (fun _ _ => True) fun _ => True

namespace TaskClosedG
variable {I : Cfg → Prop} {T : Cfg → SObj → Prop} {A : Cmd → Prop} (H : TaskClosedG I T A)
include H

theorem rearm (c : Cfg) (wf : Nat) (h : I c) : I (L.rearm c wf) :=
  L.rearm_elim c wf h fun f wk aw hst => H.rearmG c f wf wk aw hst h

theorem hoare : Task.Hoare Task.base T A I I I :=
  .single H.tgt H.eosG H.stepping H.pc H.activate H.allocG H.rearm

theorem finishUser (c : Cfg) (o) (h : I c) (ho : ∀ cmd, o = .ret cmd → A cmd := by exact fun _ _ => trivial) :
    I (finishUser c o) := Task.finishUser_base c o ▸ H.hoare.finishUser c o ho h

theorem wake (c : Cfg) (fn wf w) (h : I c) : I (wake c fn wf w) := by
  cases w with
  | result v => exact H.eosG _ _ (fun s e => by cases e; exact H.tgt _ _ nofun) h
  | interrupted k => exact H.eosG _ _ (fun _ e => nomatch e) (H.rearm c wf h)
  | failed e => exact H.eosG _ _ (fun _ e => nomatch e) h
  | pending => exact h

theorem stepBodyK (P : Prog) {k : Cfg → Cfg} (hk : ∀ c, I c → I (k c)) (c : Cfg)
    (hp : terminal c.st.label = false → Unheld c) (h : I c)
    (hP : ProgCmds A P := by exact ProgCmds.true _) : I (stepBodyK P k c) :=
  Task.stepBodyK_base P k c ▸ H.hoare.stepBodyK P hP hk c hp h

theorem loopHead (P : Prog) (fuel : Nat) (hP : ProgCmds A P := by exact ProgCmds.true _) :
    ∀ c : Cfg, I c → I (loopHead P fuel c) := fun c h => Task.loopHead_base P fuel c ▸ H.hoare.loopHead P hP fuel c h

theorem tickF (P : Prog) (fuel : Nat) (c : Cfg) (h : I c) (hP : ProgCmds A P := by exact ProgCmds.true _)
    (hpc : PcCmds A c := by exact PcCmds.true _) : I (tickF P fuel c) :=
  Task.tickF_base P fuel c ▸ H.hoare.tickF P hP fuel c hpc h

theorem tickStepper (P : Prog) (c : Cfg) (h : I c) (hP : ProgCmds A P := by exact ProgCmds.true _)
    (hpc : PcCmds A c := by exact PcCmds.true _) : I (tickStepper P c) := H.tickF P fuel0 c h hP hpc

end TaskClosedG

theorem TaskClosed.and {I J : Cfg → Prop} (H : TaskClosed I) (K : TaskClosed J) : TaskClosed fun c => I c ∧ J c where
  pc c v h := ⟨H.pc c v h.1, K.pc c v h.2⟩
  stepping c h := ⟨H.stepping c h.1, K.stepping c h.2⟩
  tgt _ _ _ := trivial
  activate c fn args kw hst hp h := ⟨H.activate c fn args kw hst hp h.1, K.activate c fn args kw hst hp h.2⟩
  allocG c cmd a h := ⟨⟨(H.allocG c cmd a h.1).1, (K.allocG c cmd a h.2).1⟩, trivial⟩
  rearmG c f wf wk aw hst h := ⟨H.rearmG c f wf wk aw hst h.1, K.rearmG c f wf wk aw hst h.2⟩
  eosG c r t h := ⟨H.eosG c r t h.1, K.eosG c r t h.2⟩

/-- the leaves of the closing part of a step (`runAction / dispatch / endOfStep`); `T` guards the target of a transition -/
structure EosClosedG (I : Cfg → Prop) (T : Cfg → SObj → Prop) : Prop where
  ctl : ∀ {c c'}, Off ctlW c c' → I c → I c'
  /-- only a wait has to be accepted, where it is allocated -/
  tgt : ∀ c s, s.label ≠ .waiting → T c s
  transG : ∀ c s, terminal c.st.label = false → T c s → I c → I (transitionTo c s)
  paused : ∀ c, I c → I (doPauseHooks c)

namespace EosClosedG
variable {I : Cfg → Prop} {T : Cfg → SObj → Prop} (H : EosClosedG I T)
include H

theorem off {W : List Fld} {c c' : Cfg} (o : Off W c c') (h : I c) (hW : ∀ f ∈ W, f ∈ ctlW := by decide) : I c' :=
  H.ctl (o.mono hW) h

theorem closing : ClosingG I (fun _ => I) T fun _ _ _ => True where
  done d i h := H.off (setActionStatus_off d i .done) h
  rerun c _ _ _ _ _ _ h := H.off (Off.set c .pc _) h
  trans c s hl _ hT h := H.transG c s hl hT h
  kill c _ _ hl _ h := H.off (Off.set _ .killing none) (H.transG c .killed hl (H.tgt _ _ nofun) h)
  pauseNone c _ _ _ _ _ _ h := H.paused c h
  pauseNext c _ _ s hl _ _ _ hT h := H.paused _ (H.transG c s hl hT h)

theorem runAction (c : Cfg) (i next) (hl : terminal c.st.label = false) (hT : ∀ s, next = some s → T c s) (h : I c) :
    I (runAction c i next) := H.closing.runAction c i next hl trivial hT h

theorem dispatch (c : Cfg) (next) (hT : ∀ s, next = some s → T c s) (h : I c) : I (dispatch c next) :=
  H.closing.dispatch c next (fun _ _ _ => trivial) hT h

theorem endOfStep (c : Cfg) (r) (hT : ∀ s, r = .next (some s) → T c s) (h : I c) : I (endOfStep c r) := by
  unfold PMF.endOfStep
  refine H.off (finally_off _) (H.dispatch _ _ (fun s hs => ?_) (H.off (prepare_off c r) h))
  rcases prepare_some c r s hs with ⟨hr, hc⟩ | ⟨e, rfl⟩
  · rw [hc]; exact hT s hr
  · exact H.tgt _ _ nofun

/-- the stepping task of a predicate closed under the leaves of the closing part: what is left are the three updates the
task makes before it -/
theorem toTask {A : Cmd → Prop}
    (activate : ∀ c fn args kw, c.st = .running fn args kw → Unheld c → I c →
      I { c with trace := { fn := fn, args := args, kw := kw, paused := c.paused.isSome } :: c.trace })
    (allocG : ∀ c cmd, A cmd → I c → I (cmdToState c cmd).1 ∧ T (cmdToState c cmd).1 (cmdToState c cmd).2)
    (rearmG : ∀ c f wf wk aw, c.st = .waiting f wf wk aw → I c →
      I { c with st := .waiting f c.wfs.length none aw, wfs := c.wfs ++ [match wk with | some o => o | none => .pending] }) :
    TaskClosedG I T A where
  pc c v := H.off (Off.set c .pc v)
  stepping c := H.off (Off.set c .stepping true)
  tgt := H.tgt
  activate := activate
  allocG := allocG
  rearmG := rearmG
  eosG := H.endOfStep

end EosClosedG

abbrev CallClosed (I : Cfg → Prop) (D : Cfg → WF → Prop) : Prop := Task.CallClosed Task.baseE I D
abbrev EventClosed (I : Cfg → Prop) (D : Cfg → WF → Prop) : Prop := Task.EventClosed Task.baseE I D

namespace CallClosed
variable {I : Cfg → Prop} {D : Cfg → WF → Prop} (H : CallClosed I D)
include H

theorem pause (c : Cfg) (h : I c) : I (pause c).1 := Task.pause_base c ▸ Task.CallClosed.pause H c h
theorem kill (c : Cfg) (h : I c) : I (kill c).1 := Task.kill_base c ▸ Task.CallClosed.kill H c h
theorem fail (c : Cfg) (e) (h : I c) : I (fail c e).1 := Task.CallClosed.fail H c e h
theorem tryKilling (c : Cfg) (h : I c) : I (tryKilling c) := Task.tryKilling_base c ▸ Task.CallClosed.tryKilling H c h

end CallClosed

namespace EventClosed
variable {I : Cfg → Prop} {D : Cfg → WF → Prop} (H : EventClosed I D)
include H

theorem tickCb (c : Cfg) (cb) (h : I c) : I (tickCb c cb) := Task.tickCb_base c cb ▸ Task.EventClosed.tickCb H c cb h

theorem step {T : Cfg → SObj → Prop} {A : Cmd → Prop} (HT : TaskClosedG I T A) (P : Prog) (c : Cfg) (ev : Ev)
    (hD : ∀ v, ev = .resume v → D c (.result v)) (h : I c) (hP : ProgCmds A P := by exact ProgCmds.true _)
    (hpc : PcCmds A c := by exact PcCmds.true _) : I (step P c ev).1 :=
  Task.step_base P c ev ▸ Task.EventClosed.step H P c ev (fun h => Task.tickStepper_base P c ▸ HT.tickStepper P c h hP hpc) hD h

theorem run {T : Cfg → SObj → Prop} (HT : TaskClosedG I T fun _ => True) (hD : ∀ c o, D c o) (P : Prog) (c0 : Cfg)
    (evs : List Ev) (h : I c0) : I (run P c0 evs) :=
  run_ind P (Ok := fun _ _ => True) (fun c e _ _ hc => ⟨H.step HT P c e (fun _ _ => hD _ _) hc, trivial⟩) c0 evs trivial h

end EventClosed

/-- `D` guards a delivery to the current wait -/
structure BodyClosedG (I : Cfg → Prop) (T : Cfg → SObj → Prop) (D : Cfg → WF → Prop) : Prop extends EosClosedG I T where
  played : ∀ c, I c → I (play c).1
  interrupted : ∀ c k, I c → I (interruptState c k)
  /-- a step function is started; the loop has checked that no pending pause future is in effect -/
  activate : ∀ c fn args kw, c.st = .running fn args kw → Unheld c → I c →
    I { c with trace := { fn := fn, args := args, kw := kw, paused := c.paused.isSome } :: c.trace }
  allocG : ∀ c cmd, I c → I (cmdToState c cmd).1 ∧ T (cmdToState c cmd).1 (cmdToState c cmd).2
  /-- the fresh future of a re-armed wait holds the parked wake-up -/
  rearmG : ∀ c f wf wk aw, c.st = .waiting f wf wk aw → I c →
    I { c with st := .waiting f c.wfs.length none aw, wfs := c.wfs ++ [match wk with | some o => o | none => .pending] }
  deliverG : ∀ c o, D c o → I c → I (deliver c o)
  adone : ∀ c f, I c → I (awaitableDone c f)
  complete : ∀ c f o, I c → I (complete c f o)
  cancelFut : ∀ c, I c → I (cancelFut c).1

structure StepClosedG (I : Cfg → Prop) (T : Cfg → SObj → Prop) (D : Cfg → WF → Prop) : Prop extends BodyClosedG I T D where
  /-- the event loop takes a scheduled callback off its list -/
  unsched : ∀ c cb, c.ready.contains cb = true → I c → I { c with ready := c.ready.erase cb }
  /-- `call_soon` -/
  sched : ∀ c r, I c → I { c with ready := c.ready ++ [.usercb r] }

namespace BodyClosedG
variable {I : Cfg → Prop} {T : Cfg → SObj → Prop} {D : Cfg → WF → Prop} (H : BodyClosedG I T D)
include H

theorem toTask : TaskClosedG I T fun _ => True :=
  H.toEosClosedG.toTask H.activate (fun c cmd _ => H.allocG c cmd) H.rearmG

theorem finishUser (c : Cfg) (o) (h : I c) : I (finishUser c o) := H.toTask.finishUser c o h
theorem wake (c : Cfg) (fn wf w) (h : I c) : I (wake c fn wf w) := H.toTask.wake c fn wf w h
theorem stepBodyK (P : Prog) {k : Cfg → Cfg} (hk : ∀ c, I c → I (k c)) (c : Cfg)
    (hp : terminal c.st.label = false → Unheld c) (h : I c) :
    I (stepBodyK P k c) := H.toTask.stepBodyK P hk c hp h
theorem loopHead (P : Prog) (fuel : Nat) : ∀ c : Cfg, I c → I (loopHead P fuel c) := H.toTask.loopHead P fuel
theorem tickStepper (P : Prog) (c : Cfg) (h : I c) : I (tickStepper P c) := H.toTask.tickStepper P c h

theorem requestInterrupt (c : Cfg) (k) (h : I c) : I (requestInterrupt c k) := by
  unfold PMF.requestInterrupt
  exact H.interrupted _ _ (H.off (setInterruptFromExc_off ..)
    (H.off (Off.set c .nextCookie _) h))

theorem resume (c : Cfg) (v) (hD : D c (.result v)) (h : I c) : I (resume c v).1 :=
  resume_eq_deliver c v ▸ H.deliverG _ _ hD h

theorem toCall : CallClosed I D where
  hand c i := H.off (hand_off c i)
  requestPause c _ _ _ _ h := H.off (Off.set _ .pausing _) (H.requestInterrupt c .pause h)
  requestKill c _ _ _ h := H.off (Off.set _ .killing _) (H.requestInterrupt c .kill h)
  pauseNow c _ _ _ _ _ := H.paused c
  killNow c hl _ _ := H.transG c .killed hl (H.tgt _ _ nofun)
  failNow c e hl := H.transG c _ hl (H.tgt _ _ nofun)
  played := H.played
  absorb _ h := h
  setHanded c x := H.off (Off.set c .handed x)
  resume := H.resume

theorem pause (c : Cfg) (h : I c) : I (pause c).1 := H.toCall.pause c h
theorem kill (c : Cfg) (h : I c) : I (kill c).1 := H.toCall.kill c h
theorem fail (c : Cfg) (e) (h : I c) : I (fail c e).1 := H.toCall.fail c e h
theorem tryKilling (c : Cfg) (h : I c) : I (tryKilling c) := H.toCall.tryKilling c h

end BodyClosedG

namespace StepClosedG
variable {I : Cfg → Prop} {T : Cfg → SObj → Prop} {D : Cfg → WF → Prop} (H : StepClosedG I T D)
include H

theorem toEvent : EventClosed I D :=
  { H.toCall with adone := H.adone, complete := H.complete, cancelFut := H.cancelFut, unsched := H.unsched, sched := H.sched }

theorem step (P : Prog) (c : Cfg) (ev : Ev) (hD : ∀ v, ev = .resume v → D c (.result v)) (h : I c) : I (step P c ev).1 :=
  H.toEvent.step H.toTask P c ev hD h

/-- `Ok c es`: a condition on the history `es` played from `c` that gives the guard of a `resume()` at its head and holds
again of the rest after the first event -/
theorem run (P : Prog) {Ok : Cfg → List Ev → Prop}
    (hOk : ∀ c e es, Ok c (e :: es) → (∀ v, e = .resume v → D c (.result v)) ∧ Ok (PMF.step P c e).1 es)
    (c0 : Cfg) (evs : List Ev) (hok : Ok c0 evs) (h : I c0) : I (PMF.run P c0 evs) :=
  run_ind P (fun c e es hg hc => ⟨H.step P c e (hOk c e es hg).1 hc, (hOk c e es hg).2⟩) c0 evs hok h

end StepClosedG

structure BodyClosed (I : Cfg → Prop) : Prop extends BodyClosedG I (fun _ _ => True) (fun _ _ => True) where
  trans : ∀ c s, terminal c.st.label = false → I c → I (transitionTo c s)
  alloc : ∀ c cmd, I c → I (cmdToState c cmd).1
  deliver : ∀ c o, I c → I (deliver c o)
  tgt := fun _ _ _ => trivial
  transG := fun c s hl _ => trans c s hl
  allocG := fun c cmd h => ⟨alloc c cmd h, trivial⟩
  deliverG := fun c o _ => deliver c o

structure StepClosed (I : Cfg → Prop) : Prop extends BodyClosed I, StepClosedG I (fun _ _ => True) (fun _ _ => True)

/-! Unguarded forms of the lemmas whose statement has a guard; the others apply to a `BodyClosed` as they are. -/

namespace BodyClosed
variable {I : Cfg → Prop} (H : BodyClosed I)
include H

theorem runAction (c : Cfg) (i next) (hl : terminal c.st.label = false) (h : I c) : I (runAction c i next) :=
  H.toBodyClosedG.runAction c i next hl (fun _ _ => trivial) h
theorem dispatch (c : Cfg) (next) (h : I c) : I (dispatch c next) := H.toBodyClosedG.dispatch c next (fun _ _ => trivial) h
theorem endOfStep (c : Cfg) (r) (h : I c) : I (endOfStep c r) := H.toBodyClosedG.endOfStep c r (fun _ _ => trivial) h
theorem resume (c : Cfg) (v) (h : I c) : I (resume c v).1 := H.toBodyClosedG.resume c v trivial h

end BodyClosed

theorem Task.Keeps.of_body {X : Type} (O : Task.Ops X) {D : Cfg → Prop} (hD : BodyClosed D) :
    Task.Keeps O fun x => D (O.get x) where
  start x h := by rw [O.get_start]; exact hD.off (Off.set _ .stepping true) h
  setPc x p h := by rw [O.get_setPc]; exact hD.off (Off.set _ .pc _) h
  activate x fn args kw hst hp h := by rw [O.get_activate]; exact hD.activate _ fn args kw hst hp h
  alloc x cmd h := by rw [O.get_alloc]; exact hD.alloc _ cmd h
  rearm x wf h := by rw [O.get_rearm]; exact hD.toBodyClosedG.toTask.rearm _ wf h

namespace StepClosed
variable {I : Cfg → Prop} (H : StepClosed I)
include H

theorem step (P : Prog) (c : Cfg) (ev : Ev) (h : I c) : I (step P c ev).1 :=
  H.toStepClosedG.step P c ev (fun _ _ => trivial) h
theorem run (P : Prog) (c0 : Cfg) (evs : List Ev) (h : I c0) : I (run P c0 evs) :=
  H.toStepClosedG.run P (Ok := fun _ _ => True) (fun _ _ _ _ => ⟨fun _ _ => trivial, trivial⟩) c0 evs trivial h

end StepClosed

/-! ### a transition in phases

`transition_to` of an open process is the exit phase, the ENTERING hooks, and then the entry of the target — or, if the target is
refused or its ENTERING hook fails, of EXCEPTED with the future resolved.  An invariant `J` that is broken inside a transition names
what holds in each phase: `A` until `do_exit()` has run, `B` until the ENTERING hooks have run, `R s'` while `s'` is about to be
entered.  `PM/ClosedL.lean` has the same traversal for `transitionToL F`, which runs notifications between the phases. -/

structure Phases (c₀ : Cfg) (s : SObj) (A B : Cfg → Prop) (R : SObj → Cfg → Prop) (J : Cfg → Prop) : Prop where
  start : A c₀
  opn : ∀ c, A c → c.closed = false
  exit : ∀ c, A c → B (exitState c)
  /-- `StateEntryFailed`: the exit phase runs a second time -/
  again : ∀ c, B c → A c
  entering : s.label ∈ allowed c₀.st.label → ∀ c c2, B c → enteringHooks c s = .ok c2 → R s c2
  /-- the ENTERING hook fails: `transition_failed` resolves the future -/
  failed : s.label ∈ allowed c₀.st.label → ∀ c e, B c → R (.excepted e) (setFutExc c e)
  refused : s.label ∉ allowed c₀.st.label → ∀ e, R (.excepted e) (setFutExc c₀ e)
  enter : ∀ s' c, R s' c → J (enterNext c s')

theorem Phases.transitionTo {c₀ : Cfg} {s : SObj} {A B : Cfg → Prop} {R : SObj → Cfg → Prop} {J : Cfg → Prop}
    (H : Phases c₀ s A B R J) : J (transitionTo c₀ s) :=
  transitionTo_elim c₀ s (fun hc => absurd (H.opn _ H.start) (by rw [hc]; exact Bool.noConfusion)) fun _ d s' c2 he hok => by
    have hb := H.exit _ H.start
    cases he with
    | ok hin => exact H.enter _ _ (H.entering hin _ c2 hb hok)
    | refused e hin => cases hok; exact H.enter _ _ (H.refused hin e)
    | failed e hin => cases hok; exact H.enter _ _ (H.failed hin _ e hb)

end PMF
