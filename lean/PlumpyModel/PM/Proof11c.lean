import PlumpyModel.PM.StepNext
import PlumpyModel.PM.Proof11b
/-!
# The stepping task keeps `Coh`, as long as a callback does not run out of fuel (C06 at the level of histories)

`LoopClosed P M I` lists what a pair of predicates — `M` at the head of the loop, `I` between two callbacks — has to supply
for `I` to survive a callback of the stepping task (`LoopClosed.tickStepper`); `Mid` / `Coh` is such a pair as long as the fuel
suffices (`coh_loop`, `Coh.enter`), and `Mid ∧ Q` / `Q` for a predicate `Q` that does not look at the program counter
(`tick_keepsG`, `PM/Proof11f.lean`).
-/
namespace PMF.H6

/-- does the step that `Process.step` is about to execute end without suspending the coroutine? -/
def stepSync (P : Prog) (c : Cfg) : Bool :=
  match c.st with
  | .running fn args kw => (P fn args kw c.ctx).awaits == 0
  | .waiting _ wf _ _ => match c.wfs[wf]? with | some .pending => false | some _ => true | none => false
  | _ => true

/-- enough fuel: within `fuel` iterations of `step_until_terminated`'s loop the coroutine suspends or ends -/
def fuelOk (P : Prog) : Nat → Cfg → Bool
  | 0, _ => false
  | fuel+1, c =>
    terminal c.st.label ||
    (match c.paused with | some pf => c.pfs[pf]? == some false | none => false) ||
    !stepSync P c || fuelOk P fuel (stepBody P 0 c)

def wakeFn (c : Cfg) : Nat := match c.st with | .waiting fn .. => fn | _ => 0

/-- the callback of the stepping task that is about to run at `c` does not run out of fuel -/
def tickFuelOk (P : Prog) (c : Cfg) : Bool :=
  match c.pc with
  | .notStarted => fuelOk P fuel0 c
  | .awaitPaused _ => !stepSync P c || fuelOk P fuel0 (stepBody P 0 c)
  | .inUser b => !(b.awaits == 0) || fuelOk P fuel0 (finishUser c b.out)
  | .awaitWaiting wf =>
      match c.wfs[wf]? with
      | some .pending => true
      | some w => fuelOk P fuel0 (wake c (wakeFn c) wf w)
      | none => true
  | _ => true

/-- no callback of the stepping task in the history `evs` (started at `c`) runs out of fuel, i.e. executes `fuel0`
(= 1000) steps of the process without suspending once -/
def histFuelOk (P : Prog) : Cfg → List Ev → Bool
  | _, [] => true
  | c, e :: es => (match e with | .tick => tickFuelOk P c | _ => true) && histFuelOk P (step P c e).1 es

theorem stepSync_eq (P : Prog) (c : Cfg) : stepSync P c = (stepNext P c).isSome := by
  unfold stepSync stepNext; dsimp only
  cases c.st with
  | running fn args kw => dsimp only; by_cases h : (P fn args kw c.ctx).awaits = 0 <;> simp [h]
  | waiting fn wf wk aw =>
    dsimp only
    cases c.wfs[wf]? with
    | none => rfl
    | some w => cases w <;> rfl
  | _ => rfl

theorem stepBody0_eq (P : Prog) (c : Cfg) : stepBody P 0 c = match stepNext P c with | some e => e | none => stepSusp P c :=
  PMF.stepBodyK_eq P (loopHead P 0) c

theorem stepBodyK_eq (P : Prog) (k : Cfg → Cfg) (c : Cfg) :
    stepBodyK P k c = if stepSync P c = true then k (stepBody P 0 c) else stepBody P 0 c := by
  rw [PMF.stepBodyK_eq, stepSync_eq, stepBody0_eq]
  cases stepNext P c <;> rfl

theorem stepBodyK_sync (P : Prog) (k : Cfg → Cfg) (c : Cfg) (h : stepSync P c = true) :
    stepBodyK P k c = k (stepBody P 0 c) := by rw [stepBodyK_eq, if_pos h]

theorem stepBodyK_susp (P : Prog) (k : Cfg → Cfg) (c : Cfg) (h : stepSync P c = false) :
    stepBodyK P k c = stepBody P 0 c := by rw [stepBodyK_eq, if_neg (by rw [h]; exact Bool.false_ne_true)]

theorem exitState_of_not_waiting (c : Cfg) (h : wfOf c.st = none) : exitState c = c :=
  exitState_notWaiting c fun _ _ _ _ hst => by rw [hst] at h; cases h

def NI (c : Cfg) : Prop := ∀ wf k, wfOf c.st = some wf → c.wfs[wf]? ≠ some (.interrupted k)

theorem endOfStep_rsp (c : Cfg) (r : StepEnd) (h : Rob c) (hni : NI c)
    (hfresh : ∀ s, r = .next (some s) → ∀ wf, wfOf s = some wf → wkOf s = none ∧ (exitState c).wfs[wf]? = some .pending) :
    Rob (endOfStep c r) ∧ (endOfStep c r).stepping = false ∧ (endOfStep c r).pc = c.pc := by
  obtain ⟨h1, h2, h3, _, h5⟩ := endOfStep_spec c r h.actOk
  -- the third alternative: the state the step asked for is fresh, or is EXCEPTED
  have hthird : ∀ s, (match r with | .next s => s | .interruption _ => none | .exception e => some (.excepted e)) = some s →
      ∀ wf, wfOf s = some wf → wkOf s = none ∧ (exitState c).wfs[wf]? = some .pending := by
    intro s hs wf hw
    cases r with
    | next s' => simp only at hs; subst hs; exact hfresh s rfl wf hw
    | interruption k => simp at hs
    | exception e => simp only [Option.some.injEq] at hs; subst hs; simp [wfOf] at hw
  refine ⟨⟨fun _ => h2, .of_none h2, .of_none h2, ?_, ?_, ?_⟩, h1, h3⟩
  · intro wf k hw hk
    exfalso
    rcases h5 with ⟨a, b⟩ | a | ⟨s, hs, a, b⟩
    · exact hni wf k (by rw [← a]; exact hw) (by rw [← b]; exact hk)
    · rw [wfOf_none_of_terminal a] at hw; cases hw
    · have := (hthird s hs wf (by rw [← a]; exact hw)).2
      rw [b, this] at hk; cases hk
  · intro wf hw
    rcases h5 with ⟨a, b⟩ | a | ⟨s, hs, a, b⟩
    · rw [b]; exact h.wfv wf (by rw [← a]; exact hw)
    · rw [wfOf_none_of_terminal a] at hw; cases hw
    · have := (hthird s hs wf (by rw [← a]; exact hw)).2
      rw [b]; exact (List.getElem?_eq_some_iff.mp this).1
  · intro o k hw
    rcases h5 with ⟨a, b⟩ | a | ⟨s, hs, a, b⟩
    · exact h.park o k (by rw [← a]; exact hw)
    · rw [wkOf_none_of_terminal a] at hw; cases hw
    · rw [a] at hw
      cases hwf : wfOf s with
      | none => rw [wkOf_none_of_wfOf_none hwf] at hw; cases hw
      | some wf => rw [(hthird s hs wf hwf).1] at hw; cases hw

theorem Rob.wfs_free {c d : Cfg} (h : Rob c) (hnw : wfOf c.st = none) (o : Off [.wfs] c d) : Rob d := by
  have hd : wfOf d.st = none := by rw [o.st]; exact hnw
  refine ⟨?_, ?_, ?_, .of_notWaiting hd, .of_notWaiting hd, .of_notWaiting hd⟩
  · intro hs; rw [o.interrupt]; exact h.int0 (o.stepping.symm.trans hs)
  · intro i hi; rw [actionStatus_of_actions o.actions]; exact h.actOk i (o.interrupt.symm.trans hi)
  · intro i hi; rw [actionStatus_of_actions o.actions, o.pausing, o.killing]; exact h.alias i (o.interrupt.symm.trans hi)

theorem finishUser_rsp (c : Cfg) (o : Outcome) (h : Rob c) (hnw : wfOf c.st = none) :
    Rob (finishUser c o) ∧ (finishUser c o).stepping = false ∧ (finishUser c o).pc = c.pc := by
  have hni : ∀ d : Cfg, d.st = c.st → NI d := by intro d hd wf k hw; rw [hd, hnw] at hw; cases hw
  unfold finishUser
  cases o with
  | raise e => exact endOfStep_rsp c _ h (hni c rfl) (by intro s hs wf hw; cases hs; simp [wfOf] at hw)
  | ret cmd =>
    -- the state the command asks for is not a wait, or is a wait on the future just allocated
    have oc := cmdToState_off c cmd
    have hf : ∀ wf, wfOf (cmdToState c cmd).2 = some wf →
        wkOf (cmdToState c cmd).2 = none ∧ (exitState (cmdToState c cmd).1).wfs[wf]? = some .pending := by
      rw [exitState_of_not_waiting _ (by rw [oc.st]; exact hnw)]
      intro wf hw
      cases cmd with
      | wait fn | waitOn fn aw => cases hw; exact ⟨rfl, List.getElem?_concat_length⟩
      | _ => cases hw
    have := endOfStep_rsp (cmdToState c cmd).1 (.next (some (cmdToState c cmd).2)) (h.wfs_free hnw oc) (hni _ oc.st)
      (by intro s hs; cases hs; exact hf)
    exact ⟨this.1, this.2.1, this.2.2.trans oc.pc⟩

theorem wake_rsp (c : Cfg) (fn wf : Nat) (w : WF) (h : Rob c) (hw : c.wfs[wf]? = some w) (hne : w ≠ .pending)
    (hwf : ∀ wf', wfOf c.st = some wf' → wf' = wf) :
    Rob (wake c fn wf w) ∧ (wake c fn wf w).stepping = false ∧ (wake c fn wf w).pc = c.pc := by
  -- the future of the current wait holds `w`: no interruption unless `w` is one
  have hni : (∀ k, w ≠ .interrupted k) → NI c := by
    intro hk wf' k h1 h2
    cases hwf wf' h1
    exact hk k (Option.some.inj (hw.symm.trans h2))
  unfold wake
  split
  · exact endOfStep_rsp c _ h (hni (by intro k g; cases g)) (by intro s hs wf' hw'; cases hs; simp [wfOf] at hw')
  · dsimp only
    split
    · rename_i f wf' wk aw hst
      cases hwf wf' (by rw [hst]; rfl)
      simp only [if_true]
      -- the wait is re-armed on a fresh future that holds the parked outcome, which is not an interruption
      have hget : ∀ k, (c.wfs ++ [match wk with | some o => o | none => WF.pending])[c.wfs.length]? ≠ some (.interrupted k) := by
        intro k g
        rw [List.getElem?_concat_length] at g
        cases wk with
        | none => cases g
        | some o => exact h.park o k (by rw [hst]; rfl) (Option.some.inj g)
      have hni' : NI { c with st := .waiting f c.wfs.length none aw,
                              wfs := c.wfs ++ [match wk with | some o => o | none => WF.pending] } := by
        intro wf'' k h1 h2
        simp [wfOf] at h1; subst h1
        exact hget k h2
      refine endOfStep_rsp _ _ ⟨h.int0, h.actOk, h.alias, fun wf'' k h1 h2 => absurd h2 (hni' wf'' k h1), ?_, ?_⟩ hni'
        (by intro s hs; cases hs)
      · intro wf'' h1
        simp [wfOf] at h1; subst h1
        simp
      · intro o k h1; simp [wkOf] at h1
    · rename_i hnw
      refine endOfStep_rsp c _ h ?_ (by intro s hs; cases hs)
      intro wf' k h1
      obtain ⟨fn', wk', aw', hst⟩ := wfOf_waiting h1
      exact absurd hst (hnw fn' wf' wk' aw')
  · exact endOfStep_rsp c _ h (hni (by intro k g; cases g)) (by intro s hs; cases hs)
  · exact absurd rfl hne

theorem ni_of_nstep (c : Cfg) (h : Rob c) (hns : c.stepping = false) : NI c := by
  intro wf k hw hk
  have := (h.intr wf k hw hk).1
  rw [hns] at this; cases this

theorem rob_stepping (c : Cfg) (h : Rob c) (hns : c.stepping = false) : Rob { c with stepping := true } := by
  have hi := h.int0 hns
  refine ⟨?_, .of_none hi, .of_none hi, ?_, h.wfv, h.park⟩
  · intro g; cases g
  · intro wf k hw hk; exact absurd hk (ni_of_nstep c h hns wf k hw)

theorem stepBody0_mid (P : Prog) (c : Cfg) (hm : Mid c) (hnp : terminal c.st.label = false → c.paused = none)
    (hs : stepSync P c = true) : Mid (stepBody P 0 c) := by
  have hR := rob_stepping c hm.rob hm.nstep
  have hN : NI { c with stepping := true } := ni_of_nstep c hm.rob hm.nstep
  have key : Rob (stepBody P 0 c) ∧ (stepBody P 0 c).stepping = false ∧ (stepBody P 0 c).pc = c.pc := by
    unfold stepSync at hs
    unfold stepBody
    cases hst : c.st with
    | created fn =>
      rw [stepBodyK_created P _ c fn hst]
      exact endOfStep_rsp _ _ hR hN (by intro s hs' wf hw; cases hs'; simp [wfOf] at hw)
    | running fn args kw =>
      have h0 : (P fn args kw c.ctx).awaits = 0 := by simpa [hst] using hs
      rw [stepBodyK_running P _ c fn args kw hst, if_pos h0]
      exact finishUser_rsp _ _ (hR.congr rfl rfl rfl rfl rfl rfl rfl rfl) (by show wfOf c.st = none; rw [hst]; rfl)
    | waiting fn wf wk aw =>
      rw [hst] at hs
      cases hw : c.wfs[wf]? with
      | none => simp [hw] at hs
      | some w =>
        have hne : w ≠ .pending := by intro g; simp [hw, g] at hs
        rw [stepBodyK_waiting_done P _ c fn wf wk aw w hst hw hne]
        exact wake_rsp _ fn wf w hR hw hne (by
          intro wf' h1; have h1' : wfOf c.st = some wf' := h1; rw [hst] at h1'; exact (Option.some.inj h1').symm)
    | finished _ _ | excepted _ | killed =>
      rw [stepBodyK_terminal P _ c (by rw [hst]; rfl)]
      exact endOfStep_rsp _ _ hR hN (by intro s hs'; cases hs')
  exact ⟨key.1, inv_closed.stepBodyK P (inv_closed.loopHead P 0) c (fun hl pf hp => by rw [hnp hl] at hp; cases hp) hm.inv,
    stepBodyK_invP P _ (invP_closed.loopHead P 0) c hm.invP hnp, key.2.1, by intro e; rw [key.2.2]; exact hm.ncr e⟩

/-- a step that suspends the coroutine: inside the user's function, or on the pending future of the wait (`wfv` rules out
a wait on a future that does not exist) -/
theorem stepBody0_susp (P : Prog) (c : Cfg) (hm : Mid c) (hs : stepSync P c = false) :
    Rob (stepBody P 0 c) ∧ PcOk (stepBody P 0 c) := by
  have hR := rob_stepping c hm.rob hm.nstep
  unfold stepSync at hs
  unfold stepBody
  cases hst : c.st with
  | running fn args kw =>
    have h0 : ¬ (P fn args kw c.ctx).awaits = 0 := by simpa [hst] using hs
    rw [stepBodyK_running P _ c fn args kw hst, if_neg h0]
    exact ⟨hR.congr rfl rfl rfl rfl rfl rfl rfl rfl, by simp [PcOk, hst, wfOf]⟩
  | waiting fn wf wk aw =>
    rw [hst] at hs
    cases hw : c.wfs[wf]? with
    | none =>
      have := hm.rob.wfv wf (by rw [hst]; rfl)
      rw [List.getElem?_eq_none_iff] at hw; omega
    | some w =>
      have hp : w = .pending := by cases w <;> first | rfl | simp [hw] at hs
      subst hp
      rw [stepBodyK_waiting_pending P _ c fn wf wk aw hst hw]
      exact ⟨hR.congr rfl rfl rfl rfl rfl rfl rfl rfl, by simp [PcOk, hst, wfOf]⟩
  | _ => simp [hst] at hs

theorem coh_setPc {c : Cfg} (hr : Rob c) (hi : Inv c) (hp : InvP c) (pc' : Pc) (h : PcOk { c with pc := pc' }) :
    Coh { c with pc := pc' } :=
  ⟨hr.congr rfl rfl rfl rfl rfl rfl rfl rfl, hi.same ⟨rfl, rfl, rfl⟩, hp.same ⟨rfl, rfl, rfl, rfl⟩, h⟩

theorem fuel0_ne : fuel0 = 999 + 1 := fuel0_succ

/-- `M` at the head of `step_until_terminated`'s loop, `I` where the coroutine suspends or ends -/
structure LoopClosed (P : Prog) (M I : Cfg → Prop) : Prop where
  ncr : ∀ c, M c → ∀ e, c.pc ≠ .crashed e
  over : ∀ c, M c → terminal c.st.label = true → I { c with pc := .done }
  closed : ∀ c, M c → terminal c.st.label = false → c.closed = true → I { c with pc := .crashed .closedErr }
  blocked : ∀ c pf, M c → c.paused = some pf → c.pfs[pf]? = some false → I { c with pc := .awaitPaused pf }
  /-- the loop has checked that no pending pause future is in effect -/
  sync : ∀ c, M c → (∀ pf, c.paused = some pf → c.pfs[pf]? ≠ some false) → stepSync P c = true → M (stepBody P 0 c)
  susp : ∀ c, M c → (∀ pf, c.paused = some pf → c.pfs[pf]? ≠ some false) → stepSync P c = false → I (stepBody P 0 c)

namespace LoopClosed
variable {P : Prog} {M I : Cfg → Prop} (H : LoopClosed P M I)
include H

theorem body (k : Cfg → Cfg) (c : Cfg) (h : M c) (hp : ∀ pf, c.paused = some pf → c.pfs[pf]? ≠ some false)
    (hk : stepSync P c = true → M (stepBody P 0 c) → I (k (stepBody P 0 c))) : I (stepBodyK P k c) := by
  cases hs : stepSync P c with
  | true => rw [stepBodyK_sync P k c hs]; exact hk hs (H.sync c h hp hs)
  | false => rw [stepBodyK_susp P k c hs]; exact H.susp c h hp hs

theorem pausedOrBody (k : Cfg → Cfg) (c : Cfg) (h : M c)
    (hk : (∀ pf, c.paused = some pf → c.pfs[pf]? ≠ some false) → stepSync P c = true → M (stepBody P 0 c) →
      I (k (stepBody P 0 c))) :
    I (match c.paused with
      | some pf => if c.pfs[pf]? = some false then { c with pc := .awaitPaused pf } else stepBodyK P k c
      | none => stepBodyK P k c) := by
  split
  · rename_i pf hpa
    exact ite_of (fun hf => H.blocked c pf h hpa hf) fun hne =>
      H.body k c h (fun pf' hp' => by rw [hpa] at hp'; cases hp'; exact hne)
        (hk fun pf' hp' => by rw [hpa] at hp'; cases hp'; exact hne)
  · rename_i hpa
    exact H.body k c h (fun pf' hp' => by rw [hpa] at hp'; cases hp') (hk fun pf' hp' => by rw [hpa] at hp'; cases hp')

/-- the fuel suffices, or a configuration at the head of the loop may be left as it is -/
theorem loopHead :
    ∀ (fuel : Nat) (c : Cfg), M c → (fuelOk P fuel c = true ∨ ∀ d, M d → I d) → I (loopHead P fuel c) := by
  intro fuel
  induction fuel with
  | zero =>
    intro c h hf
    rcases hf with hf | hf
    · simp [fuelOk] at hf
    · exact hf c h
  | succ n ih =>
    intro c h hf
    rw [loopHead_eq P n c (H.ncr c h)]
    refine ite_of (fun ht => H.over c h ht) fun ht => ite_of (fun hc => H.closed c h (eq_false_of_ne_true ht) hc) fun _ => ?_
    refine H.pausedOrBody _ c h fun hp hs hm => ih _ hm (hf.imp (fun hf => ?_) id)
    unfold fuelOk at hf
    cases hpa : c.paused with
    | none => simpa [ht, hpa, hs] using hf
    | some pf => simpa [ht, hpa, hs, hp pf hpa] using hf

/-- a callback of the stepping task; what the pair knows where the coroutine resumes is asked of `c` alone -/
theorem tickStepper (c : Cfg) (hI : I c) (hf : tickFuelOk P c = true ∨ ∀ d, M d → I d)
    (hstart : c.pc = .notStarted → M c) (hreleased : ∀ pf, c.pc = .awaitPaused pf → c.pfs[pf]? = some true → M c)
    (hawait : ∀ b, c.pc = .inUser b → I { c with pc := .inUser { b with awaits := b.awaits - 1 } })
    (hret : ∀ b, c.pc = .inUser b → b.awaits = 0 → M (finishUser c b.out))
    (hwoken : ∀ wf w, c.pc = .awaitWaiting wf → c.wfs[wf]? = some w → w ≠ .pending → M (wake c (wakeFn c) wf w)) :
    I (tickStepper P c) := by
  unfold tickFuelOk at hf
  unfold PMF.tickStepper stepBody
  split
  · rename_i hpc
    rw [hpc] at hf
    exact H.loopHead _ c (hstart hpc) hf
  · rename_i pf hpc
    rw [hpc] at hf
    refine ite_of (fun hpf => H.pausedOrBody _ c (hreleased pf hpc hpf) fun _ hs hm => H.loopHead _ _ hm (hf.imp ?_ id))
      fun _ => hI
    intro hf; simpa [hs] using hf
  · rename_i b hpc
    rw [hpc] at hf
    refine ite_of (fun hb => H.loopHead _ _ (hret b hpc hb) (hf.imp ?_ id)) fun _ => hawait b hpc
    intro hf; simpa [hb] using hf
  · rename_i wf hpc
    rw [hpc] at hf
    split
    · exact hI
    · rename_i w hnp hw
      refine H.loopHead _ _ (hwoken wf w hpc hw (fun g => hnp g)) (hf.imp ?_ id)
      intro hf
      simp only [hw] at hf
      cases w <;> first | exact absurd rfl (fun g => hnp g) | exact hf
    · exact hI
  · exact hI

end LoopClosed

theorem Mid.unpaused {c : Cfg} (h : Mid c) (hp : ∀ pf, c.paused = some pf → c.pfs[pf]? ≠ some false)
    (hl : terminal c.st.label = false) : c.paused = none := by
  cases hpa : c.paused with
  | none => rfl
  | some pf => exact absurd (h.invP.pausedPending hl pf hpa) (hp pf hpa)

theorem coh_loop (P : Prog) : LoopClosed P Mid Coh where
  ncr _ h := h.ncr
  over _ h ht := coh_setPc h.rob h.inv h.invP _ ⟨h.nstep, ht⟩
  closed _ h hl hc := absurd hc (by rw [not_closed_of_live h.inv hl]; exact Bool.false_ne_true)
  blocked _ _ h hpa _ := coh_setPc h.rob h.inv h.invP _ ⟨h.nstep, fun _ => Or.inr hpa⟩
  sync c h hp hs := stepBody0_mid P c h (h.unpaused hp) hs
  susp c h hp hs := .of_rp (stepBody0_susp P c h hs)
    (inv_closed.stepBodyK P (inv_closed.loopHead P 0) c (fun _ => hp) h.inv)
    (stepBodyK_invP P _ (invP_closed.loopHead P 0) c h.invP (h.unpaused hp))

/-- where the coroutine of a coherent configuration resumes, it does so between two steps -/
theorem Coh.enter {c : Cfg} (hC : Coh c) :
    (c.pc = .notStarted → Mid c) ∧ (∀ pf, c.pc = .awaitPaused pf → Mid c) ∧
    (∀ b, c.pc = .inUser b → c.stepping = true ∧ wfOf c.st = none ∧ Mid (finishUser c b.out)) ∧
    (∀ wf w, c.pc = .awaitWaiting wf → c.wfs[wf]? = some w → w ≠ .pending →
      (terminal c.st.label = true ∨ wfOf c.st = some wf) ∧ Mid (wake c (wakeFn c) wf w)) := by
  have hpcok := hC.pcOk
  unfold PcOk at hpcok
  have ncr : ∀ {pc'}, c.pc = pc' → (∀ e, pc' ≠ .crashed e) → ∀ e, c.pc ≠ .crashed e := fun h g e => h ▸ g e
  refine ⟨fun hpc => ?_, fun pf hpc => ?_, fun b hpc => ?_, fun wf w hpc hw hne => ?_⟩ <;> simp only [hpc] at hpcok
  · exact ⟨hC.rob, hC.inv, hC.invP, hpcok, ncr hpc nofun⟩
  · exact ⟨hC.rob, hC.inv, hC.invP, hpcok.1, ncr hpc nofun⟩
  · have key := finishUser_rsp c b.out hC.rob hpcok.2
    exact ⟨hpcok.1, hpcok.2, key.1, inv_closed.finishUser _ _ hC.inv, invP_closed.finishUser _ _ hC.invP, key.2.1,
      fun e => by rw [key.2.2]; exact ncr hpc nofun e⟩
  · have hwf : ∀ wf', wfOf c.st = some wf' → wf' = wf := by
      intro wf' h1
      rcases hpcok.2 with g | g
      · rw [wfOf_none_of_terminal g] at h1; cases h1
      · rw [g] at h1; cases h1; rfl
    have key := wake_rsp c (wakeFn c) wf w hC.rob hw hne hwf
    exact ⟨hpcok.2, key.1, inv_closed.wake _ _ _ _ hC.inv, invP_closed.wake _ _ _ _ hC.invP, key.2.1,
      fun e => by rw [key.2.2]; exact ncr hpc nofun e⟩

theorem tickStepper_coh (P : Prog) (c : Cfg) (h : Coh c) (hf : tickFuelOk P c = true) : Coh (tickStepper P c) :=
  (coh_loop P).tickStepper c h (.inl hf) h.enter.1 (fun pf hpc _ => h.enter.2.1 pf hpc)
    (fun b hpc => coh_setPc h.rob h.inv h.invP _ ⟨(h.enter.2.2.1 b hpc).1, (h.enter.2.2.1 b hpc).2.1⟩)
    (fun b hpc _ => (h.enter.2.2.1 b hpc).2.2) fun wf w hpc hw hne => (h.enter.2.2.2 wf w hpc hw hne).2

theorem step_coh (P : Prog) (c : Cfg) (ev : Ev) (h : Coh c) (hf : ev = .tick → tickFuelOk P c = true) :
    Coh (step P c ev).1 := by
  cases ev <;> simp only [step]
  · exact tickStepper_coh P c h (hf rfl)
  · exact tickCb_coh c _ h
  · exact pause_coh c h
  · exact play_coh c h
  · exact kill_coh c h
  · exact resume_coh c _ h
  · exact fail_coh c _ h
  · exact h.off (cancelFut_off c)
  · exact h.off (complete_off c _ _)
  · exact h.off (Off.set c .ready _)

theorem histFuelOk_cons {P : Prog} {c : Cfg} {e : Ev} {es : List Ev} (h : histFuelOk P c (e :: es) = true) :
    (e = .tick → tickFuelOk P c = true) ∧ histFuelOk P (step P c e).1 es = true := by
  unfold histFuelOk at h
  rw [Bool.and_eq_true] at h
  exact ⟨fun he => by subst he; exact h.1, h.2⟩

theorem run_coh_with (P : Prog) {Q : Cfg → Prop} (c0 : Cfg) (evs : List Ev)
    (hstep : ∀ c, ∀ e ∈ evs, Coh c → Q c → Q (step P c e).1)
    (hC : Coh c0) (hf : histFuelOk P c0 evs = true) (h : Q c0) : Coh (run P c0 evs) ∧ Q (run P c0 evs) :=
  run_ind P (I := fun c => Coh c ∧ Q c) (Ok := fun c es => histFuelOk P c es = true ∧ ∀ e ∈ es, e ∈ evs)
    (fun c e _ hg hc => ⟨⟨step_coh P c e hc.1 (histFuelOk_cons hg.1).1, hstep c e (hg.2 e List.mem_cons_self) hc.1 hc.2⟩,
      (histFuelOk_cons hg.1).2, fun e' he' => hg.2 e' (List.mem_cons_of_mem _ he')⟩) c0 evs ⟨hf, fun _ h => h⟩ ⟨hC, h⟩

theorem run_coh (P : Prog) (c0 : Cfg) (evs : List Ev) (h : Coh c0) (hf : histFuelOk P c0 evs = true) :
    Coh (run P c0 evs) :=
  (run_coh_with P (Q := fun _ => True) c0 evs (fun _ _ _ _ _ => trivial) h hf trivial).1

theorem histFuelOk_append (P : Prog) (c0 : Cfg) (es1 es2 : List Ev) :
    histFuelOk P c0 (es1 ++ es2) = (histFuelOk P c0 es1 && histFuelOk P (run P c0 es1) es2) := by
  induction es1 generalizing c0 with
  | nil => simp [histFuelOk, run]
  | cons e es ih =>
    simp only [List.cons_append, histFuelOk, ih, Bool.and_assoc]
    rfl

end PMF.H6
