import PlumpyModel.PM.LProof4
import PlumpyModel.PM.LProof7
/-!
# `PMF.L` — the invariant `KJ` through transitions, the closing part of a step and every event; the owed kill is enacted

Nothing here assumes `_stepping`: the lemmas hold in every context in which the model functions can be called.
-/
namespace PMF
namespace L

structure FGood (F : Hook → LCfg → LCfg) : Prop where
  fk : FK F
  fp : FP F
  phase : FHkPhase F
  fkd : FKd F
  fadv : FAdv F

theorem fireN_good (n : Nat) : FGood (fireN n) := ⟨fireN_fk n, fireN_fp n, fireN_fhkPhase n, fireN_kd n, fireN_adv n⟩

section
variable {F : Hook → LCfg → LCfg}

theorem KJ.untrans {d : LCfg} (h : KJ d) (hke : boundKE d → KE d.c) : KJ { d with trans := none } := by
  refine ⟨h.kok, h.pok, fun ho => ⟨(h.nofin ho).1, by simp⟩, fun ho => ?_⟩
  rcases h.ook ho with hk | hb | hk
  · exact Or.inl hk
  · exact Or.inl (hke hb)
  · exact Or.inr (Or.inr hk)

theorem terminal_cases {lb : Label} (ht : terminal lb = true) (hf : lb ≠ .finished) : lb = .killed ∨ lb = .excepted := by
  cases lb <;> simp_all [terminal, allowed]

theorem KJ.begin {l : LCfg} {t : Label} (p : KJ l) (htr : l.trans = none) (hfin : Owed l → t ≠ .finished) :
    KJ { l with trans := some t } := by
  refine ⟨p.kok, p.pok, fun ho => ⟨(p.nofin ho).1, fun h => hfin ho (Option.some.inj h)⟩, fun ho => ?_⟩
  rcases p.ook ho with hk | hb | hk
  · exact Or.inl hk
  · rcases hb with hb | hb <;> rw [htr] at hb <;> cases hb
  · exact Or.inr (Or.inr hk)

/-- `transition_failed`: the transition goes on into EXCEPTED -/
theorem KJ.bound {d : LCfg} (h : KJ d) : KJ { d with trans := some .excepted } :=
  ⟨h.kok, h.pok, fun ho => ⟨(h.nofin ho).1, by simp⟩, fun _ => Or.inr (Or.inl (Or.inr rfl))⟩

/-- `KJ` through a transition of an open, live process started with no transition in progress (`PhasesL`): until the new state
object is assigned the invariant holds with the state object and the flag of the start (the exiting / entering callbacks leave
them alone); `s'` is entered on a live process with `_transitioning = s'`, so if a kill is owed it is not FINISHED; a terminal
`s'` stays, a live one may be left again by what its listeners request (then the flag is cleared) -/
theorem kj_phases (hF : FGood F) (l : LCfg) (s : SObj) (p : KJ l) (hl : terminal l.c.st.label = false)
    (hc : l.c.closed = false) (htr : l.trans = none) (hfin : Owed l → s.label ≠ .finished) :
    PhasesL F l s (fun d => KJ d ∧ HkC l.c d.c ∧ d.trans = some s.label) (fun d => KJ d ∧ HkC l.c d.c ∧ d.trans = some s.label)
      (fun s' d => KJ d ∧ terminal d.c.st.label = false ∧ d.trans = some s'.label)
      (fun s' d => KJ d ∧ (d.trans = some s'.label ∨ d.trans = none) ∧ (terminal s'.label = true → d.c.st = s')) KJ where
  start := ⟨p.begin htr hfin, .rfl' _, rfl⟩
  opn d a := a.2.1.closed.trans hc
  exiting d a :=
    have k := hF.phase .exiting d rfl
    ⟨(hF.fk _ d a.1).1, a.2.1.trans k.c, k.tr.trans a.2.2⟩
  exit d a := ⟨a.1.keep (Keep.of_off (exitState_off _)), a.2.1.trans (.of_off (exitState_off _)), a.2.2⟩
  again _ b := b
  entering _ d c2 b hok :=
    have o := enteringHooks_off _ hok
    ⟨b.1.keep (Keep.of_off o), by show terminal c2.st.label = false; rw [o.st, b.2.1.st]; exact hl, b.2.2⟩
  failed _ d e b :=
    have o := setFutExc_off d.c e
    ⟨b.1.bound.keep (Keep.of_off o), by show terminal (setFutExc d.c e).st.label = false; rw [o.st, b.2.1.st]; exact hl, rfl⟩
  refused _ e :=
    have o := setFutExc_off l.c e
    ⟨p.bound.keep (Keep.of_off o), by show terminal (setFutExc l.c e).st.label = false; rw [o.st]; exact hl, rfl⟩
  hookR s' d r :=
    have k := hF.phase .entering d rfl
    ⟨(hF.fk _ d r.1).1, by rw [k.c.st]; exact r.2.1, k.tr.trans r.2.2⟩
  enter s' d r := by
    have hfin' : Owed d → s'.label ≠ .finished := fun ho h => (r.1.nofin ho).2 (by rw [r.2.2, h])
    have p1 : KJ (d.upd fun c => setState (enterState c s') s') :=
      r.1.ctl _ (.of_off ((enterState_off d.c s').trans (setState_off _ s'))) (Or.inr r.2.1) hfin'
    refine ⟨?_, Or.inl r.2.2, fun _ => enterNext_st d.c s'⟩
    show KJ { d with c := enterNext d.c s' }
    unfold enterNext; dsimp only
    split
    · rename_i ht
      have o := (enteredHooks_off (setState (enterState d.c s') s') s').trans (onTerminated_off _)
      have hlabel : (onTerminated (enteredHooks (setState (enterState d.c s') s') s')).st.label = s'.label := by rw [o.st]; rfl
      refine ⟨fun k _ => Or.inl (by rw [hlabel]; exact ht), p1.pok.kx (.of_off o),
        fun ho => ⟨by rw [hlabel]; exact hfin' ho, (r.1.nofin ho).2⟩, fun ho => Or.inl ?_⟩
      unfold KE; rw [hlabel]; exact terminal_cases ht (hfin' ho)
    · rename_i ht
      exact p1.keep (enteredHooks_keep_ne _ s' fun hk => ht (by rw [hk]; rfl))
  entered s' h d hh e :=
    have k := hF.fk h d e.1
    ⟨k.1, k.2.elim (fun t => t ▸ e.2.1) Or.inr, fun ht => absurd ht (by rw [hook_live hh]; decide)⟩
  done s' d e := KJ.untrans e.1 fun hb => by
    have hs : s'.label = .killed ∨ s'.label = .excepted := by
      rcases e.2.1 with t | t
      · rcases hb with hb | hb <;> rw [t] at hb <;> injection hb with hb
        · exact Or.inl hb
        · exact Or.inr hb
      · rcases hb with hb | hb <;> rw [t] at hb <;> cases hb
    unfold KE; rw [e.2.2 (by rcases hs with h | h <;> simp [h, terminal, allowed])]; exact hs

theorem transitionToL_kj (hF : FGood F) (l : LCfg) (s : SObj) (p : KJ l) (hl : terminal l.c.st.label = false)
    (htr : l.trans = none) (hfin : Owed l → s.label ≠ .finished) : KJ (transitionToL F l s) := by
  by_cases hc : l.c.closed = true
  · -- a closed process has no hooks: the state object is just replaced
    unfold transitionToL forceExceptedL; dsimp only
    simp only [hc, if_true]
    split
    · refine KJ.untrans (d := { l with trans := some s.label }.upd _) ?_ fun hb => ?_
      · exact (p.begin htr hfin).ctl _ (.of_off ((exitState_off l.c).trans (Off.set _ .st s))) (Or.inr hl) hfin
      unfold KE
      rcases hb with hb | hb <;> injection hb with hb
      · exact Or.inl hb
      · exact Or.inr hb
    · exact KJ.of_ke (Or.inr rfl) p.pok rfl
  · exact (kj_phases hF l s p hl (eq_false_of_ne_true hc) htr hfin).transitionToL

theorem owed_slot {l : LCfg} (p : KJ l) (hl : terminal l.c.st.label = false) (htr : l.trans = none) (ho : Owed l) :
    ∃ k, Pending k l.c := by
  rcases p.ook ho with hk | hb | hk
  · exact (ke_not_live hk hl).elim
  · rcases hb with hb | hb <;> rw [htr] at hb <;> cases hb
  · cases hkk : l.c.killing with
    | none => exact (hk hkk).elim
    | some k =>
      rcases p.kok k hkk with ht | hp
      · rw [ht] at hl; cases hl
      · exact ⟨k, hp⟩

theorem KJ.setDone {d : LCfg} (h : KJ d) (i : Nat)
    (hc : terminal d.c.st.label = true ∨ actionKind d.c i = some .pause) :
    KJ (d.upd (fun c => setActionStatus c i .done)) := by
  have o := setActionStatus_off d.c i .done
  refine h.rebuild _ o.st ?_ (h.pok.kx (setActionStatus_kx ..)) (fun hne => by rw [o.killing]; exact hne)
  intro k hk
  rw [o.killing] at hk
  rcases h.kok k hk with ht | hp
  · left; rw [o.st]; exact ht
  · rcases hc with hc | hc
    · left; rw [o.st]; exact hc
    · right
      have hne : i ≠ k := ne_of_kinds hc hp.2.2.2.2.2
      obtain ⟨h1, h2, h3, h4, h5, h6⟩ := hp
      exact ⟨by rw [o.st]; exact h1, by rw [o.killing]; exact h2, by rw [o.interrupt]; exact h3,
        by rw [(setActionStatus_other d.c i k _ hne).1]; exact h4, by rw [o.stepping]; exact h5,
        by rw [setActionStatus_kind]; exact h6⟩

/-- `KJ` through `runActionL`, the `while` loop and `dispatchL`: an owed kill is the pending action in the slot, so the nominal
transition and a pause action are reached only when no kill is owed; when the outcome of an action is stored the process has
terminated or the action is a pause -/
theorem kj_closing (hF : FGood F) :
    ClosingL F (fun l => KJ l ∧ l.trans = none)
      (fun i d => (KJ d ∧ d.trans = none) ∧ (terminal d.c.st.label = true ∨ actionKind d.c i = some .pause))
      (fun _ _ => True) fun c i _ => c.interrupt = some i :=
  have pauseKind : ∀ (l : LCfg) i a, l.c.actions[i]? = some a → a.kind = .pause → actionKind l.c i = some .pause :=
    fun l i a ha hk => by simp [actionKind, ha, hk]
  have notOwed : ∀ (l : LCfg) i, KJ l ∧ l.trans = none → terminal l.c.st.label = false → l.c.interrupt = some i →
      actionKind l.c i = some .pause → ¬ Owed l := fun l i h hl hi hki ho => by
    obtain ⟨k, hp⟩ := owed_slot h.1 hl h.2 ho
    have : i = k := by have := hp.2.2.1; rw [hi] at this; injection this
    subst this
    have := hp.2.2.2.2.2; rw [hki] at this; cases this
  { done := fun d i h =>
      ite_of (I := fun l : LCfg => KJ l ∧ l.trans = none) (fun _ => ⟨h.1.1.setDone i h.2, h.1.2⟩) fun _ => h.1
    rerun := fun l _ _ _ _ _ _ h => ⟨h.1.keep ⟨rfl, rfl, rfl, rfl, rfl, rfl⟩, h.2⟩
    again := fun _ _ hi _ _ => hi
    trans := fun l s hl hs _ h =>
      ⟨transitionToL_kj hF l s h.1 hl h.2 (fun ho => by
        obtain ⟨k, hp⟩ := owed_slot h.1 hl h.2 ho
        have := hp.2.2.2.1; rw [hs k hp.2.2.1] at this; cases this), transitionToL_trans ..⟩
    kill := fun l _ _ _ _ h =>
      have p1 := transitionToL_ke_kj hF.fp l .killed (Or.inl rfl) h.1.pok
      have hke : KE (transitionToL F l .killed).c := transitionToL_ke l .killed (Or.inl rfl)
      ⟨⟨KJ.mk (fun k hk => by cases hk) p1.pok p1.nofin (fun _ => Or.inl hke), transitionToL_trans F l .killed⟩,
        Or.inl (terminal_of_label hke)⟩
    pauseNone := fun l i a _ _ ha hk h =>
      have ⟨p2, t2⟩ := doPauseL_kj hF.fk _ h.1
      ⟨⟨p2, t2.none h.2⟩, Or.inr (doPauseL_kd hF.fkd _ i _ (pauseKind l i a ha hk))⟩
    pauseNext := fun l i a s hl hM ha hk _ h =>
      have hki := pauseKind l i a ha hk
      have p1 := transitionToL_kj hF l s h.1 hl h.2 fun ho => (notOwed l i h hl hM hki ho).elim
      have htr1 := transitionToL_trans F l s
      have hk1 : actionKind (transitionToL F l s).c i = some .pause := transitionToL_kd hF.fkd l s i _ hki
      have ⟨p2, t2⟩ := doPauseL_kj hF.fk _ p1
      ⟨⟨⟨p1, htr1⟩, Or.inr hk1⟩, ⟨p2, t2.none htr1⟩, Or.inr (doPauseL_kd hF.fkd _ i _ hk1)⟩ }

theorem dispatchL_kj (hF : FGood F) (l : LCfg) (next : Option SObj) (p : KJ l) (htr : l.trans = none) :
    KJ (dispatchL F l next) ∧ (dispatchL F l next).trans = none :=
  (kj_closing hF).dispatchL l next (fun _ hi _ => hi) (fun _ _ => trivial) ⟨p, htr⟩

/-- **a kill issued by a listener or a state-event callback during the closing part of a step is enacted before the step
ends**: if the invariant holds when `dispatchL` starts, with no transition in progress, then when it returns a kill that the oracle
issued while the process was live (and not inside a transition into a terminal state) has left the process KILLED — or EXCEPTED, if
entering KILLED failed. -/
theorem dispatchL_owed (hF : FGood F) (l : LCfg) (next : Option SObj) (p : KJ l) (htr : l.trans = none) :
    Owed (dispatchL F l next) → KE (dispatchL F l next).c := by
  intro ho
  obtain ⟨p1, htr1⟩ := dispatchL_kj hF l next p htr
  have hq := dispatchL_quiet hF.fadv l next
  by_cases hl : terminal (dispatchL F l next).c.st.label = true
  · exact terminal_cases hl (p1.nofin ho).1
  · obtain ⟨k, hp⟩ := owed_slot p1 (by simpa using hl) htr1 ho
    exact (hl (hq.terminal hp.2.2.1 hp.2.2.2.1)).elim
end

theorem owed_of_issued_eq {l l' : LCfg} (h : l'.issued = l.issued) : Owed l' ↔ Owed l := by
  unfold Owed; rw [h]

/-- the `finally` of `step()`: with nothing left to enact the invariant survives the clearing of the slot -/
theorem finally_kj {d : LCfg} (p : KJ d) (hq : Quiet d) : KJ (d.upd finally_) := by
  have hst : (finally_ d.c).st = d.c.st := (finally_off d.c).st
  have hkl : (finally_ d.c).killing = d.c.killing := (finally_off d.c).killing
  refine p.rebuild _ hst ?_ (p.pok.kx (finally_kx d.c)) (fun hne => by rw [hkl]; exact hne)
  intro k hk
  rw [hkl] at hk
  left; rw [hst]
  rcases p.kok k hk with ht | hp
  · exact ht
  · exact hq.terminal hp.2.2.1 hp.2.2.2.1

section
variable {F : Hook → LCfg → LCfg}

theorem endOfStepL_kj (hF : FGood F) (l : LCfg) (r : StepEnd) (p : KJ l) (htr : l.trans = none) :
    KJ (endOfStepL F l r) ∧ (endOfStepL F l r).trans = none := by
  unfold endOfStepL; dsimp only
  have hgood : ∀ (c' : Cfg) next, KJ { l with executing := false, c := c' } →
      KJ ((dispatchL F { l with executing := false, c := c' } next).upd finally_) ∧
      ((dispatchL F { l with executing := false, c := c' } next).upd finally_).trans = none := by
    intro c' next p'
    obtain ⟨p1, htr1⟩ := dispatchL_kj hF _ next p' htr
    exact ⟨finally_kj p1 (dispatchL_quiet hF.fadv _ next), htr1⟩
  have p0 : KJ { l with executing := false, c := l.c } := p.of_owed_imp rfl rfl id
  refine prepare_elim (Q := fun q => KJ ((dispatchL F { l with executing := false, c := q.1 } q.2).upd finally_) ∧
      ((dispatchL F { l with executing := false, c := q.1 } q.2).upd finally_).trans = none) l.c r
    (fun e => ?_) (fun n _ => hgood _ n p0) (fun _ _ _ _ => hgood _ none p0) fun ck _ hn => hgood _ none ?_
  · -- the step failed: whatever was requested is dropped, the process excepts
    have o := setInterrupt_off l.c none
    have hpok : PausingOk (setInterrupt l.c none) := p.pok.kx (setInterrupt_kx l.c none)
    have hq := dispatchL_quiet hF.fadv { l with executing := false, c := setInterrupt l.c none } (some (.excepted e))
    by_cases ht : terminal l.c.st.label = true
    · rw [dispatchL_terminal F _ _ (by rw [o.st]; exact ht)] at hq ⊢
      exact ⟨finally_kj ((p.rebuild _ o.st (fun k _ => Or.inl (by rw [o.st]; exact ht)) hpok
        (fun hne => by rw [o.killing]; exact hne)).of_owed_imp rfl rfl id) hq, htr⟩
    · rw [dispatchL_to_terminal _ _ (by rw [o.st]; simpa using ht) rfl rfl] at hq ⊢
      exact ⟨finally_kj (transitionToL_ke_kj hF.fp _ _ (Or.inr rfl) hpok) hq, by rw [upd_trans]; exact transitionToL_trans ..⟩
  · have hkl := (setInterruptFromExc_off l.c (kindOfCookie l.c ck) ck).killing
    refine (p.rebuild _ (setInterruptFromExc_off ..).st ?_ (p.pok.kx (setInterruptFromExc_kx ..))
      (fun hne => by rw [hkl]; exact hne)).of_owed_imp rfl rfl id
    intro k hk
    rw [hkl] at hk
    rcases p.kok k hk with ht | hp
    · left; rw [(setInterruptFromExc_off ..).st]; exact ht
    · have := hp.2.2.1; rw [hn] at this; cases this

theorem endOfStepL_owed' (hF : FGood F) (l : LCfg) (r : StepEnd) (p : KJ l) (htr : l.trans = none) :
    Owed (endOfStepL F l r) → KE (endOfStepL F l r).c ∨ ∃ k, Pending k (endOfStepL F l r).c := by
  intro ho
  obtain ⟨p1, htr1⟩ := endOfStepL_kj hF l r p htr
  by_cases hl : terminal (endOfStepL F l r).c.st.label = true
  · exact Or.inl (terminal_cases hl (p1.nofin ho).1)
  · exact Or.inr (owed_slot p1 (by simpa using hl) htr1 ho)

theorem rearm_keep (c : Cfg) (wf : Nat) : Keep c (rearm c wf) :=
  rearm_elim c wf (Keep.rfl' c) fun _ _ _ hst => ⟨by simp [hst, SObj.label], rfl, rfl, rfl, rfl, rfl⟩

/-- `self._stepping = True` -/
theorem KJ.setStepping {l : LCfg} (p : KJ l) (x : Bool) :
    KJ ({ l with c := { l.c with stepping := true }, executing := x } : LCfg) := by
  refine ⟨?_, p.pok, p.nofin, p.ook⟩
  intro k hk
  rcases p.kok k hk with ht | hp
  · exact Or.inl ht
  · exact Or.inr ⟨hp.1, hp.2.1, hp.2.2.1, hp.2.2.2.1, rfl, hp.2.2.2.2.2⟩

theorem kj_task (hF : FGood F) : TaskLeaves F fun l => KJ l ∧ l.trans = none where
  endOfStep l r h := endOfStepL_kj hF l r h.1 h.2
  setPc _ _ h := ⟨h.1.keep ⟨rfl, rfl, rfl, rfl, rfl, rfl⟩, h.2⟩
  start _ h := ⟨h.1.setStepping true, h.2⟩
  activate _ _ _ _ _ _ h := ⟨h.1.keep ⟨rfl, rfl, rfl, rfl, rfl, rfl⟩, h.2⟩
  alloc _ _ h := ⟨h.1.keep (.of_off (cmdToState_off ..)), h.2⟩
  rearm _ _ h := ⟨h.1.keep (rearm_keep ..), h.2⟩

theorem failL_kj (hF : FGood F) (l : LCfg) (e : Exc) (p : KJ l) (htr : l.trans = none) :
    KJ (failL F l e).1 ∧ (failL F l e).1.trans = none :=
  failL_elim (Q := fun d => KJ d ∧ d.trans = none) F l e ⟨p, htr⟩ fun _ =>
    ⟨transitionToL_ke_kj hF.fp l _ (Or.inr rfl) p.pok, transitionToL_trans ..⟩

theorem killL_env_kj (hF : FGood F) (l : LCfg) (p : KJ l) (htr : l.trans = none) :
    KJ (killL F l).1 ∧ (killL F l).1.trans = none := by
  obtain ⟨p1, t1⟩ := killL_kj hF.fp l l p rfl rfl (fun o => Or.inl o)
  exact ⟨p1, t1.none htr⟩

theorem tickCbL_kj (hF : FGood F) (l : LCfg) (cb : Cb) (p : KJ l) (htr : l.trans = none) :
    KJ (tickCbL F l cb) ∧ (tickCbL F l cb).trans = none :=
  tickCbL_elim (Q := fun d => KJ d ∧ d.trans = none) F l cb ⟨p, htr⟩ (fun _ => ⟨p.keep ⟨rfl, rfl, rfl, rfl, rfl, rfl⟩, htr⟩)
    (fun _ _ _ q => ⟨q.1.keep (awaitableDone_keep ..), q.2⟩)
    (fun d q => let ⟨p2, t2⟩ := killL_env_kj hF d q.1 q.2; ⟨p2.keep ⟨rfl, rfl, rfl, rfl, rfl, rfl⟩, t2⟩)
    fun d e q => failL_kj hF d e q.1 q.2

theorem stepLF_kj (hF : FGood F) (P : Prog) (l : LCfg) (ev : Ev) (p : KJ l) (htr : l.trans = none) :
    KJ (stepLF F P l ev).1 ∧ (stepLF F P l ev).1.trans = none := by
  cases ev <;> simp only [stepLF]
  · exact (kj_task hF).tickStepperL P l ⟨p, htr⟩
  · exact tickCbL_kj hF l _ p htr
  · obtain ⟨p1, t1⟩ := pauseL_kj hF.fk l p; exact ⟨p1, t1.none htr⟩
  · obtain ⟨p1, t1⟩ := playL_kj hF.fk l p; exact ⟨p1, t1.none htr⟩
  · exact killL_env_kj hF l p htr
  · exact ⟨p.keep (resume_keep ..), htr⟩
  · exact failL_kj hF l _ p htr
  · exact ⟨p.keep (Keep.of_off (cancelFut_off ..)), htr⟩
  · exact ⟨p.keep (Keep.of_off (complete_off ..)), htr⟩
  · exact ⟨p.keep ⟨rfl, rfl, rfl, rfl, rfl, rfl⟩, htr⟩
end

theorem kj_init (nf : Nat) (plan : Plan) : KJ (initL nf plan) :=
  KJ.mk (fun k hk => by cases hk) (fun i hi => by cases hi) (fun ho => by obtain ⟨_, hm⟩ := ho; cases hm)
    (fun ho => by obtain ⟨_, hm⟩ := ho; cases hm)

theorem runL_kj (P : Prog) (l0 : LCfg) (evs : List Ev) (p : KJ l0) (htr : l0.trans = none) :
    KJ (runL P l0 evs) ∧ (runL P l0 evs).trans = none :=
  runL_ind (I := fun l => KJ l ∧ l.trans = none) P (fun l ev h => stepLF_kj (fireN_good l.plan.length) P l ev h.1 h.2) l0 evs ⟨p, htr⟩

/-- **a kill issued by a listener or state-event callback during the closing part of a step has been enacted when the step
ends** (whole closing part: `except` clauses, interrupt action or nominal transition, the `while` loop, `finally`). -/
theorem endOfStepL_owed {F : Hook → LCfg → LCfg} (hF : FGood F) (l : LCfg) (r : StepEnd) (p : KJ l) (htr : l.trans = none) :
    Owed (endOfStepL F l r) → KE (endOfStepL F l r).c := by
  intro ho
  rcases endOfStepL_owed' hF l r p htr ho with h | ⟨k, hp⟩
  · exact h
  · have := hp.2.2.2.2.1
    rw [endOfStepL_not_stepping] at this; cases this

/-- **kill committed, with listeners**: in every configuration reached by `runL`, a kill that the oracle issued on a live process
(not inside a transition into a terminal state) has left the process KILLED / EXCEPTED, or is the pending interrupt action of the
step in flight. -/
theorem runL_owed (P : Prog) (nf : Nat) (plan : Plan) (evs : List Ev) :
    Owed (runL P (initL nf plan) evs) → KE (runL P (initL nf plan) evs).c ∨ ∃ k, Pending k (runL P (initL nf plan) evs).c := by
  intro ho
  obtain ⟨p, htr⟩ := runL_kj P (initL nf plan) evs (kj_init nf plan) rfl
  by_cases hl : terminal (runL P (initL nf plan) evs).c.st.label = true
  · exact Or.inl (terminal_cases hl (p.nofin ho).1)
  · exact Or.inr (owed_slot p (by simpa using hl) htr ho)

end L
end PMF
