import PlumpyModel.PM.Listener
import PlumpyModel.Persist.Plain
/-!
# The stepping task, once for every layer of the model

`Process.step` / `step_until_terminated` above the closing part of a step — `finishUser / wake / stepBodyK / loopHead /
tickStepper` — is the same text in `PM/Model.lean` (`Cfg`), `PM/Listener.lean` (`LCfg`, with the notification function) and
`Fault/Process.lean` (`FCfg`): the three differ in the configuration the task runs on, in what starting a step sets besides
`_stepping`, and in the closing part they call.  `Task.Ops X` names these; `Task.finishUser … Task.tickF O` are the task over such
an interface, and each layer's functions are these at its instance by unfolding (`Task.base`, `Task.lis` here, `Task.flt` in
`Fault/ClosedF.lean`).

Two traversals serve every statement about the task:

* `Task.Hoare O T A R S H`: `R` holds between two callbacks of the event loop, `S` inside a step before its closing part, `H` at
  the head of `step_until_terminated`'s loop; every place where the task leaves a program counter behind is a leaf that comes with
  what the task has just tested.  A predicate that the task keeps point by point is the case `R = S = H` (`Hoare.single`).
* `Task.Sim2 O₁ O₂ Rl`: two carriers on which the task sees the same (`SameView`) and whose interface operations keep `Rl` run
  the task in step.
-/
namespace PMF

def ProgCmds (A : Cmd → Prop) (P : Prog) : Prop := ∀ fn args kw ctx cmd, (P fn args kw ctx).out = .ret cmd → A cmd
/-- `A` of the commands of the step function the stepping task is suspended in -/
def PcCmds (A : Cmd → Prop) (c : Cfg) : Prop := ∀ b, c.pc = .inUser b → ∀ cmd, b.out = .ret cmd → A cmd

theorem ProgCmds.true (P : Prog) : ProgCmds (fun _ => True) P := fun _ _ _ _ _ _ => trivial
theorem PcCmds.true (c : Cfg) : PcCmds (fun _ => True) c := fun _ _ _ _ => trivial

/-- no pending pause future is in effect -/
def Unheld (c : Cfg) : Prop := ∀ pf, c.paused = some pf → c.pfs[pf]? ≠ some false

namespace Task

structure Ops (X : Type) where
  get : X → Cfg
  upd : X → (Cfg → Cfg) → X
  /-- `self._stepping = True` (and what the layer sets besides) -/
  start : X → X
  /-- the closing part of `Process.step` -/
  eos : X → StepEnd → X
  get_upd : ∀ x f, get (upd x f) = f (get x)
  get_start : ∀ x, get (start x) = { get x with stepping := true }

variable {X : Type} (O : Ops X)

def Ops.setPc (x : X) (p : Pc) : X := O.upd x fun c => { c with pc := p }

def Ops.activate (x : X) (fn : Nat) (args : List Val) (kw : List (Nat × Val)) : X :=
  O.upd x fun c => { c with trace := { fn := fn, args := args, kw := kw, paused := c.paused.isSome } :: c.trace }

def Ops.alloc (x : X) (cmd : Cmd) : X := O.upd x fun c => (cmdToState c cmd).1

def Ops.rearm (x : X) (wf : Nat) : X := O.upd x fun c => L.rearm c wf

theorem Ops.get_setPc (x : X) (p : Pc) : O.get (O.setPc x p) = { O.get x with pc := p } := O.get_upd x _
theorem Ops.get_activate (x : X) (fn args kw) :
    O.get (O.activate x fn args kw) =
      { O.get x with trace := { fn := fn, args := args, kw := kw, paused := (O.get x).paused.isSome } :: (O.get x).trace } :=
  O.get_upd x _
theorem Ops.get_alloc (x : X) (cmd : Cmd) : O.get (O.alloc x cmd) = (cmdToState (O.get x) cmd).1 := O.get_upd x _
theorem Ops.get_rearm (x : X) (wf : Nat) : O.get (O.rearm x wf) = L.rearm (O.get x) wf := O.get_upd x _

def finishUser (x : X) (o : Outcome) : X :=
  match o with
  | .ret cmd => O.eos (O.alloc x cmd) (.next (some (cmdToState (O.get x) cmd).2))
  | .raise e => O.eos x (.next (some (.excepted e)))

def wake (x : X) (fn wf : Nat) (w : WF) : X :=
  match w with
  | .result v => O.eos x (.next (some (.running fn (match v with | some y => [y] | none => []) [])))
  | .interrupted cookie => O.eos (O.rearm x wf) (.interruption cookie)
  | .failed e => O.eos x (.exception e)
  | .pending => x

def stepBodyK (P : Prog) (k : X → X) (x : X) : X :=
  let x := O.start x
  match (O.get x).st with
  | .created fn => k (O.eos x (.next (some (.running fn [] []))))
  | .running fn args kw =>
      let b := P fn args kw (O.get x).ctx
      let x := O.activate x fn args kw
      if b.awaits = 0 then k (finishUser O x b.out) else O.setPc x (.inUser { b with awaits := b.awaits - 1 })
  | .waiting fn wf _ _ =>
      match (O.get x).wfs[wf]? with
      | some .pending => O.setPc x (.awaitWaiting wf)
      | some w => k (wake O x fn wf w)
      | none => x
  | _ => k (O.eos x (.next none))

def loopHead (P : Prog) : Nat → X → X
  | 0, x => x
  | fuel+1, x =>
    match (O.get x).pc with
    | .crashed _ => x
    | _ =>
    if terminal (O.get x).st.label then O.setPc x .done else
    if (O.get x).closed then O.setPc x (.crashed .closedErr) else
    match (O.get x).paused with
    | some pf => if (O.get x).pfs[pf]? = some false then O.setPc x (.awaitPaused pf) else stepBodyK O P (loopHead P fuel) x
    | none => stepBodyK O P (loopHead P fuel) x

/-- the callback of the stepping task, cut off after `fuel` iterations of the loop -/
def tickF (P : Prog) (fuel : Nat) (x : X) : X :=
  match (O.get x).pc with
  | .notStarted => loopHead O P fuel x
  | .awaitPaused pf =>
      if (O.get x).pfs[pf]? = some true then
        match (O.get x).paused with
        | some pf' => if (O.get x).pfs[pf']? = some false then O.setPc x (.awaitPaused pf')
                      else stepBodyK O P (loopHead O P fuel) x
        | none => stepBodyK O P (loopHead O P fuel) x
      else x
  | .inUser b =>
      if b.awaits = 0 then loopHead O P fuel (finishUser O x b.out)
      else O.setPc x (.inUser { b with awaits := b.awaits - 1 })
  | .awaitWaiting wf =>
      match (O.get x).wfs[wf]? with
      | some .pending => x
      | some w =>
          let fn := match (O.get x).st with | .waiting fn .. => fn | _ => 0
          loopHead O P fuel (wake O x fn wf w)
      | none => x
  | _ => x

def tickStepper (P : Prog) (x : X) : X := tickF O P fuel0 x

/-- `T` guards the state a step proposes, `A` the commands the step functions return -/
structure Hoare (O : Ops X) (T : Cfg → SObj → Prop) (A : Cmd → Prop) (R S H : X → Prop) : Prop where
  /-- only a wait has to be accepted, where it is allocated -/
  tgt : ∀ c s, s.label ≠ .waiting → s.label ≠ .created → T c s
  eos : ∀ x r, (∀ s, r = .next (some s) → T (O.get x) s) → S x → H (O.eos x r)
  start : ∀ x, H x → S (O.start x)
  /-- a step function is started; the loop has checked that no pending pause future is in effect -/
  activate : ∀ x fn args kw, (O.get x).st = .running fn args kw → Unheld (O.get x) → S x → S (O.activate x fn args kw)
  alloc : ∀ x cmd, A cmd → S x → S (O.alloc x cmd) ∧ T (O.get (O.alloc x cmd)) (cmdToState (O.get x) cmd).2
  /-- the wait being re-armed was interrupted -/
  rearm : ∀ x wf k, (O.get x).wfs[wf]? = some (.interrupted k) → S x → S (O.rearm x wf)
  /-- the step function awaits -/
  suspendUser : ∀ x b, S x → R (O.setPc x (.inUser b))
  /-- the state's wait is pending -/
  suspendWait : ∀ x fn wf wk aw, (O.get x).st = .waiting fn wf wk aw → (O.get x).wfs[wf]? = some .pending → S x →
    R (O.setPc x (.awaitWaiting wf))
  /-- the wait of the WAITING state does not exist -/
  stuck : ∀ x fn wf wk aw, (O.get x).st = .waiting fn wf wk aw → (O.get x).wfs[wf]? = none → S x → R x
  /-- the task stops at the head of the loop (it has crashed; in the model: the fuel has run out) -/
  stop : ∀ x, H x → R x
  finish : ∀ x, terminal (O.get x).st.label = true → H x → R (O.setPc x .done)
  closedErr : ∀ x, terminal (O.get x).st.label = false → (O.get x).closed = true → H x → R (O.setPc x (.crashed .closedErr))
  park : ∀ x pf, terminal (O.get x).st.label = false → (O.get x).paused = some pf → (O.get x).pfs[pf]? = some false → H x →
    R (O.setPc x (.awaitPaused pf))
  enterNew : ∀ x, (O.get x).pc = .notStarted → R x → H x
  /-- woken from the pause future -/
  enterPaused : ∀ x pf, (O.get x).pc = .awaitPaused pf → (O.get x).pfs[pf]? = some true → R x → H x
  /-- … and held again at once by a new pause -/
  repark : ∀ x pf pf', (O.get x).pc = .awaitPaused pf → (O.get x).pfs[pf]? = some true → (O.get x).paused = some pf' →
    (O.get x).pfs[pf']? = some false → R x → R (O.setPc x (.awaitPaused pf'))
  /-- the step function returns -/
  enterUser : ∀ x b, (O.get x).pc = .inUser b → R x → S x
  /-- the step function passes an `await` -/
  countdown : ∀ x b, (O.get x).pc = .inUser b → b.awaits ≠ 0 → R x → R (O.setPc x (.inUser { b with awaits := b.awaits - 1 }))
  /-- the wait the task is blocked on has an outcome -/
  enterWait : ∀ x wf w, (O.get x).pc = .awaitWaiting wf → (O.get x).wfs[wf]? = some w → w ≠ .pending → R x → S x

namespace Hoare
variable {O} {T : Cfg → SObj → Prop} {A : Cmd → Prop} {R S H : X → Prop} (B : Hoare O T A R S H)
include B

theorem finishUser (x : X) (o : Outcome) (ho : ∀ cmd, o = .ret cmd → A cmd) (h : S x) : H (finishUser O x o) := by
  unfold Task.finishUser
  split
  · rename_i cmd
    have ha := B.alloc x cmd (ho cmd rfl) h
    exact B.eos _ _ (fun s e => by cases e; exact ha.2) ha.1
  · exact B.eos _ _ (fun s e => by cases e; exact B.tgt _ _ nofun nofun) h

theorem wake (x : X) (fn wf : Nat) (w : WF) (hw : (O.get x).wfs[wf]? = some w) (hne : w ≠ .pending) (h : S x) :
    H (wake O x fn wf w) := by
  unfold Task.wake
  split
  · exact B.eos _ _ (fun s e => by cases e; exact B.tgt _ _ nofun nofun) h
  · exact B.eos _ _ (fun _ e => nomatch e) (B.rearm x wf _ hw h)
  · exact B.eos _ _ (fun _ e => nomatch e) h
  · exact absurd rfl hne

/-- `hu`: the caller has checked that no pending pause future is in effect (needed only where a step function is started,
i.e. in a live state) -/
theorem stepBodyK (P : Prog) (hP : ProgCmds A P) {k : X → X} (hk : ∀ x, H x → R (k x)) (x : X)
    (hu : terminal (O.get x).st.label = false → Unheld (O.get x)) (h : H x) : R (stepBodyK O P k x) := by
  unfold Task.stepBodyK
  have hs := B.start x h
  have hg := O.get_start x
  dsimp only
  split
  · exact hk _ (B.eos _ _ (fun s e => by cases e; exact B.tgt _ _ nofun nofun) hs)
  · rename_i fn args kw hst
    have hst' : (O.get x).st = .running fn args kw := by rw [hg] at hst; exact hst
    have ha := B.activate (O.start x) fn args kw hst (by rw [hg]; exact hu (by rw [hst']; rfl)) hs
    split
    · exact hk _ (B.finishUser _ _ (hP _ _ _ _) ha)
    · exact B.suspendUser _ _ ha
  · rename_i fn wf wk aw hst
    split
    · rename_i hpend; exact B.suspendWait _ fn wf wk aw hst hpend hs
    · rename_i w hnp hw; exact hk _ (B.wake _ fn wf w hw (fun e => hnp e) hs)
    · rename_i hnone; exact B.stuck _ fn wf wk aw hst hnone hs
  · exact hk _ (B.eos _ _ (fun _ e => nomatch e) hs)

theorem loopHead (P : Prog) (hP : ProgCmds A P) : ∀ (fuel : Nat) (x : X), H x → R (loopHead O P fuel x)
  | 0, x, h => B.stop x h
  | n+1, x, h => by
    have hb := fun hu => B.stepBodyK P hP (loopHead P hP n) x hu h
    unfold Task.loopHead
    split
    · exact B.stop x h
    · by_cases ht : terminal (O.get x).st.label = true
      · rw [if_pos ht]; exact B.finish x ht h
      rw [if_neg ht]
      have hl := Bool.eq_false_iff.mpr ht
      by_cases hc : (O.get x).closed = true
      · rw [if_pos hc]; exact B.closedErr x hl hc h
      rw [if_neg hc]
      split
      · rename_i pf hpa
        by_cases hf : (O.get x).pfs[pf]? = some false
        · rw [if_pos hf]; exact B.park x pf hl hpa hf h
        · rw [if_neg hf]; exact hb (fun _ pf' hp' => by rw [hpa] at hp'; cases hp'; exact hf)
      · rename_i hpa
        exact hb (fun _ pf' hp' => by rw [hpa] at hp'; cases hp')

theorem tickF (P : Prog) (hP : ProgCmds A P) (fuel : Nat) (x : X) (hpc : PcCmds A (O.get x)) (h : R x) :
    R (tickF O P fuel x) := by
  unfold Task.tickF
  split
  · rename_i hpc'; exact B.loopHead P hP _ x (B.enterNew x hpc' h)
  · rename_i pf hpc'
    by_cases htrue : (O.get x).pfs[pf]? = some true
    · rw [if_pos htrue]
      have hh := B.enterPaused x pf hpc' htrue h
      split
      · rename_i pf' hpa
        by_cases hf : (O.get x).pfs[pf']? = some false
        · rw [if_pos hf]; exact B.repark x pf pf' hpc' htrue hpa hf h
        · rw [if_neg hf]
          exact B.stepBodyK P hP (B.loopHead P hP _) x (fun _ p hp' => by rw [hpa] at hp'; cases hp'; exact hf) hh
      · rename_i hpa
        exact B.stepBodyK P hP (B.loopHead P hP _) x (fun _ p hp' => by rw [hpa] at hp'; cases hp') hh
    · rw [if_neg htrue]; exact h
  · rename_i b hpc'
    by_cases hb0 : b.awaits = 0
    · rw [if_pos hb0]; exact B.loopHead P hP _ _ (B.finishUser _ _ (hpc b hpc') (B.enterUser x b hpc' h))
    · rw [if_neg hb0]; exact B.countdown x b hpc' hb0 h
  · rename_i wf hpc'
    split
    · exact h
    · rename_i w hnp hw
      exact B.loopHead P hP _ _ (B.wake _ _ wf w hw (fun e => hnp e) (B.enterWait x wf w hpc' hw (fun e => hnp e) h))
    · exact h
  · exact h

theorem tickStepper (P : Prog) (hP : ProgCmds A P) (x : X) (hpc : PcCmds A (O.get x)) (h : R x) : R (tickStepper O P x) :=
  B.tickF P hP fuel0 x hpc h

end Hoare

theorem Hoare.single {O : Ops X} {T : Cfg → SObj → Prop} {A : Cmd → Prop} {I : X → Prop}
    (tgt : ∀ c s, s.label ≠ .waiting → T c s)
    (eos : ∀ x r, (∀ s, r = .next (some s) → T (O.get x) s) → I x → I (O.eos x r))
    (start : ∀ x, I x → I (O.start x))
    (pc : ∀ x v, I x → I (O.setPc x v))
    (activate : ∀ x fn args kw, (O.get x).st = .running fn args kw → Unheld (O.get x) → I x → I (O.activate x fn args kw))
    (alloc : ∀ x cmd, A cmd → I x → I (O.alloc x cmd) ∧ T (O.get (O.alloc x cmd)) (cmdToState (O.get x) cmd).2)
    (rearm : ∀ x wf, I x → I (O.rearm x wf)) : Hoare O T A I I I where
  tgt c s h _ := tgt c s h
  eos := eos
  start := start
  activate := activate
  alloc := alloc
  rearm x wf _ _ := rearm x wf
  suspendUser x _ := pc x _
  suspendWait x _ _ _ _ _ _ := pc x _
  stuck _ _ _ _ _ _ _ h := h
  stop _ h := h
  finish x _ := pc x _
  closedErr x _ _ := pc x _
  park x _ _ _ _ := pc x _
  enterNew _ _ h := h
  enterPaused _ _ _ _ h := h
  repark x _ _ _ _ _ _ := pc x _
  enterUser _ _ _ h := h
  countdown x _ _ _ := pc x _
  enterWait _ _ _ _ _ _ h := h

/-- what the task does besides its closing part keeps `D`: a side invariant, or an alternative, on the carrier -/
structure Keeps (O : Ops X) (D : X → Prop) : Prop where
  start : ∀ x, D x → D (O.start x)
  setPc : ∀ x p, D x → D (O.setPc x p)
  activate : ∀ x fn args kw, (O.get x).st = .running fn args kw → Unheld (O.get x) → D x → D (O.activate x fn args kw)
  alloc : ∀ x cmd, D x → D (O.alloc x cmd)
  rearm : ∀ x wf, D x → D (O.rearm x wf)

/-- the fields of the configuration that the stepping task looks at -/
structure SameView (c d : Cfg) : Prop where
  pc : d.pc = c.pc
  st : d.st = c.st
  closed : d.closed = c.closed
  paused : d.paused = c.paused
  pfs : d.pfs = c.pfs
  wfs : d.wfs = c.wfs
  ctx : d.ctx = c.ctx

theorem SameView.of_eq {c d : Cfg} (h : d = c) : SameView c d := by subst h; exact ⟨rfl, rfl, rfl, rfl, rfl, rfl, rfl⟩

/-- `Rl` relates configurations in which the task sees the same, and is kept by what the task does on both sides -/
structure Sim2 {Y : Type} (O₁ : Ops X) (O₂ : Ops Y) (Rl : X → Y → Prop) : Prop where
  view : ∀ {x y}, Rl x y → SameView (O₁.get x) (O₂.get y)
  start : ∀ {x y}, Rl x y → Rl (O₁.start x) (O₂.start y)
  eos : ∀ {x y} r, Rl x y → Rl (O₁.eos x r) (O₂.eos y r)
  setPc : ∀ {x y} p, Rl x y → Rl (O₁.setPc x p) (O₂.setPc y p)
  activate : ∀ {x y} fn args kw, Rl x y → Rl (O₁.activate x fn args kw) (O₂.activate y fn args kw)
  alloc : ∀ {x y} cmd, Rl x y → Rl (O₁.alloc x cmd) (O₂.alloc y cmd)
  rearm : ∀ {x y} wf, Rl x y → Rl (O₁.rearm x wf) (O₂.rearm y wf)

namespace Sim2
variable {Y : Type} {O₁ : Ops X} {O₂ : Ops Y} {Rl : X → Y → Prop} (B : Sim2 O₁ O₂ Rl) (P : Prog)
include B

theorem finishUser {x : X} {y : Y} (o : Outcome) (h : Rl x y) : Rl (finishUser O₁ x o) (finishUser O₂ y o) := by
  cases o with
  | ret cmd =>
    have e : (cmdToState (O₂.get y) cmd).2 = (cmdToState (O₁.get x) cmd).2 := by
      cases cmd <;> simp only [cmdToState, (B.view h).wfs]
    simp only [Task.finishUser, e]
    exact B.eos _ (B.alloc cmd h)
  | raise e => exact B.eos _ h

theorem wake {x : X} {y : Y} (fn wf : Nat) (w : WF) (h : Rl x y) : Rl (wake O₁ x fn wf w) (wake O₂ y fn wf w) := by
  cases w with
  | result v => exact B.eos _ h
  | interrupted k => exact B.eos _ (B.rearm wf h)
  | failed e => exact B.eos _ h
  | pending => exact h

theorem stepBodyK {k₁ : X → X} {k₂ : Y → Y} (hk : ∀ {x y}, Rl x y → Rl (k₁ x) (k₂ y)) {x : X} {y : Y} (h : Rl x y) :
    Rl (stepBodyK O₁ P k₁ x) (stepBodyK O₂ P k₂ y) := by
  have h1 := B.start h
  have v := B.view h1
  unfold Task.stepBodyK
  dsimp only
  rw [v.st, v.ctx, v.wfs]
  cases (O₁.get (O₁.start x)).st with
  | created fn => exact hk (B.eos _ h1)
  | running fn args kw =>
    dsimp only
    have h2 := B.activate fn args kw h1
    split
    · exact hk (B.finishUser _ h2)
    · exact B.setPc _ h2
  | waiting fn wf wk aw =>
    dsimp only
    cases (O₁.get (O₁.start x)).wfs[wf]? with
    | none => exact h1
    | some w =>
      cases w with
      | pending => exact B.setPc _ h1
      | result v => exact hk (B.wake fn wf _ h1)
      | interrupted c => exact hk (B.wake fn wf _ h1)
      | failed e => exact hk (B.wake fn wf _ h1)
  | finished v ok => exact hk (B.eos _ h1)
  | excepted e => exact hk (B.eos _ h1)
  | killed => exact hk (B.eos _ h1)

theorem loopHead : ∀ (fuel : Nat) {x : X} {y : Y}, Rl x y → Rl (loopHead O₁ P fuel x) (loopHead O₂ P fuel y)
  | 0, _, _, h => h
  | n+1, x, y, h => by
    have v := B.view h
    have hb := B.stepBodyK P (fun h => loopHead n h) h
    unfold Task.loopHead
    rw [v.pc, v.st, v.closed, v.paused, v.pfs]
    split
    · exact h
    · split
      · exact B.setPc _ h
      · split
        · exact B.setPc _ h
        · split
          · split
            · exact B.setPc _ h
            · exact hb
          · exact hb

theorem tickF (fuel : Nat) {x : X} {y : Y} (h : Rl x y) : Rl (tickF O₁ P fuel x) (tickF O₂ P fuel y) := by
  have v := B.view h
  have hb := B.stepBodyK P (fun h => B.loopHead P fuel h) h
  unfold Task.tickF
  rw [v.pc, v.st, v.paused, v.pfs, v.wfs]
  split
  · exact B.loopHead P _ h
  · split
    · split
      · split
        · exact B.setPc _ h
        · exact hb
      · exact hb
    · exact h
  · split
    · exact B.loopHead P _ (B.finishUser _ h)
    · exact B.setPc _ h
  · split
    · exact h
    · exact B.loopHead P _ (B.wake _ _ _ h)
    · exact h
  · exact h

theorem tickStepper {x : X} {y : Y} (h : Rl x y) : Rl (tickStepper O₁ P x) (tickStepper O₂ P y) := B.tickF P fuel0 h

end Sim2

@[reducible] def base : Ops Cfg where
  get := id
  upd c f := f c
  start c := { c with stepping := true }
  eos := endOfStep
  get_upd _ _ := rfl
  get_start _ := rfl

theorem finishUser_base (c : Cfg) (o : Outcome) : finishUser base c o = PMF.finishUser c o := by cases o <;> rfl
theorem wake_base (c : Cfg) (fn wf : Nat) (w : WF) : wake base c fn wf w = PMF.wake c fn wf w := by cases w <;> rfl
-- `unfold` first: a bare `rfl` across the two definitions is ten times dearer
theorem stepBodyK_base (P : Prog) (k : Cfg → Cfg) (c : Cfg) : stepBodyK base P k c = PMF.stepBodyK P k c := by
  unfold stepBodyK PMF.stepBodyK; rfl
theorem loopHead_base (P : Prog) : ∀ (fuel : Nat) (c : Cfg), loopHead base P fuel c = PMF.loopHead P fuel c
  | 0, _ => rfl
  | n+1, c => by
    have ih : loopHead base P n = PMF.loopHead P n := funext (loopHead_base P n)
    unfold loopHead PMF.loopHead; rw [ih]; simp only [stepBodyK_base]; rfl
theorem tickF_base (P : Prog) (fuel : Nat) (c : Cfg) : tickF base P fuel c = PMF.tickF P fuel c := by
  have ih : loopHead base P fuel = PMF.loopHead P fuel := funext (loopHead_base P fuel)
  unfold tickF PMF.tickF PMF.stepBody; rw [ih]; simp only [stepBodyK_base, finishUser_base, wake_base]; rfl
theorem tickStepper_base (P : Prog) (c : Cfg) : tickStepper base P c = PMF.tickStepper P c := tickF_base P fuel0 c

def lis (F : L.Hook → L.LCfg → L.LCfg) : Ops L.LCfg where
  get l := l.c
  upd := L.LCfg.upd
  start l := { l with c := { l.c with stepping := true }, executing := true }
  eos := L.endOfStepL F
  get_upd _ _ := rfl
  get_start _ := rfl

section
variable (F : L.Hook → L.LCfg → L.LCfg)
theorem finishUser_lis (l : L.LCfg) (o : Outcome) : finishUser (lis F) l o = L.finishUserL F l o := by cases o <;> rfl
theorem loopHead_lis (P : Prog) : ∀ (fuel : Nat) (l : L.LCfg), loopHead (lis F) P fuel l = L.loopHeadL F P fuel l
  | 0, _ => rfl
  | n+1, l => by
    have ih : loopHead (lis F) P n = L.loopHeadL F P n := funext (loopHead_lis P n)
    unfold loopHead L.loopHeadL; rw [ih]; rfl
theorem tickStepper_lis (P : Prog) (l : L.LCfg) : tickStepper (lis F) P l = L.tickStepperL F P l := by
  have ih : loopHead (lis F) P fuel0 = L.loopHeadL F P fuel0 := funext (loopHead_lis F P fuel0)
  unfold tickStepper tickF L.tickStepperL L.stepBodyL; rw [ih]; rfl
end

end Task
end PMF
