import PlumpyModel.PM.Proof5
/-!
# No stale `_killing` (C04: from every reachable live configuration a further kill() still terminates the process)

`Kn c c'`: if no kill was recorded in `c` then none is in `c'` — a transition and the closing part of a step keep it: they
only clear `_killing` (`on_killed`, the enactment of the kill action).  `KillingOk`: whenever `_killing` is set, the process is
KILLED / EXCEPTED or that very action is the pending interrupt action of the step in flight.  With `PausingOk` it is closed under
the stepping task and the leaves of the calls (`killingOk_task`, `killingOk_calls`): `_killing` is set only where `kill()`
accepts a request.
-/
namespace PMF

theorem dispatch_kn (c : Cfg) (next) : Kn c (dispatch c next) :=
  (ClosingG.of_rel (R := Kn) (fun h1 h2 => h1.trans h2) (fun c i => .of_off (setActionStatus_off c i _)) (fun _ => ⟨fun _ => rfl⟩)
    (fun _ _ => .of_eq rfl) transitionTo_kn (fun c => .of_off (doPauseHooks_off c)) c).dispatch c next
      (fun _ _ _ => trivial) (fun _ _ => trivial) (Kn.rfl' c)

theorem endOfStep_kn (c : Cfg) (r) : Kn c (endOfStep c r) :=
  ((Kn.of_off (prepare_off c r)).trans (dispatch_kn _ _)).trans (.of_off (finally_off _))

def KillingOk (c : Cfg) : Prop := ∀ i, c.killing = some i → Committed i c

theorem KillingOk.keep {c c' : Cfg} (h : KillingOk c) (s : Keep c c') : KillingOk c' :=
  fun j hj => (h j (s.2.1.symm.trans hj)).keep s

theorem committed_killing {c : Cfg} {i : Nat} (h : Committed i c) : KillingOk c := by
  intro j hj
  rcases or_assoc.mpr h with h | h
  · exact committed_of_label h
  · cases h.2.1.symm.trans hj; exact h.committed

theorem KillingOk.of_none {c : Cfg} (h : c.killing = none) : KillingOk c := fun j hj => by rw [h] at hj; cases hj

theorem KillingOk.terminal {c : Cfg} (h : c.st.label = .killed ∨ c.st.label = .excepted) : KillingOk c :=
  fun _ _ => committed_of_label h

theorem killingOk_task : TaskClosed KillingOk :=
  .of_keep KillingOk.keep (fun c h j hj => (committed_task j).stepping c (h j hj)) fun c r h => by
    cases hk : c.killing with
    | none => exact .of_none ((endOfStep_kn c r).imp hk)
    | some i => exact committed_killing ((committed_task i).eosG c r (fun _ _ => trivial) (h i hk))

/-- `_killing` is written where a request is accepted: during a step the new action is the pending interrupt action, between
two steps the process is killed on the spot (`on_killed` clears the alias); the other leaves keep "no kill recorded" or the
commitment of the one that is -/
theorem killingOk_calls : EventClosed (fun c => KillingOk c ∧ PausingOk c) fun _ _ => True :=
  .of_keep (fun h s => ⟨h.1.keep s, h.2.keep s⟩)
    (requestPause := fun c hl hs hp hk h =>
      ⟨.of_none ((requestInterrupt_off c .pause).killing.trans hk), pausingOk_calls.requestPause c hl hs hp hk h.2⟩)
    (requestKill := fun c hl hs hk h =>
      ⟨committed_killing (requestKill_pending c hl hs).committed, pausingOk_calls.requestKill c hl hs hk h.2⟩)
    (pauseNow := fun c hl hs hpd hp hk h => ⟨.of_none hk, pausingOk_calls.pauseNow c hl hs hpd hp hk h.2⟩)
    (killNow := fun c hl hs hk h => ⟨.of_none ((transitionTo_kn c .killed).imp hk), pausingOk_calls.killNow c hl hs hk h.2⟩)
    (failNow := fun c e hl h =>
      ⟨.terminal (.inr ((transitionTo_label c (.excepted e)).elim id id)), pausingOk_calls.failNow c e hl h.2⟩)
    (played := fun c h => by
      refine ⟨?_, pausingOk_calls.played c h.2⟩
      cases hk : c.killing with
      | none => exact .of_none ((play_off c).killing.trans hk)
      | some i => exact committed_killing (((committed_calls i).played c ⟨h.1 i hk, h.2⟩).1))

theorem run_killingOk (P : Prog) (c0 : Cfg) (evs : List Ev) (h : KillingOk c0) (hp : PausingOk c0) :
    KillingOk (run P c0 evs) ∧ PausingOk (run P c0 evs) :=
  killingOk_calls.run (killingOk_task.and pausingOk_task) (fun _ _ => trivial) P c0 evs ⟨h, hp⟩

theorem killingOk_init (nf : Nat) : KillingOk (init nf) := fun _ hi => nomatch hi

/-- `C04_always_killable` for any live configuration without a stale `_killing` -/
theorem always_killable_of (c : Cfg) (hko : KillingOk c) (hl : terminal c.st.label = false) :
    (c.stepping = false → (kill c).2 = .bool true ∧ ((kill c).1.st.label = .killed ∨ (kill c).1.st.label = .excepted)) ∧
    (c.stepping = true → ∃ k, (kill c).2 = .action k ∧ Pending k (kill c).1) := by
  have hpend : ∀ i, c.killing = some i → Pending i c := fun i hi =>
    (or_assoc.mpr (hko i hi)).elim (fun h => by rw [terminal_of_label h] at hl; cases hl) id
  refine ⟨fun hs => ?_, fun hs => ?_⟩
  · have hnk : c.killing = none := by
      cases hk : c.killing with
      | none => rfl
      | some i => have := (hpend i hk).2.2.2.2.1; rw [hs] at this; cases this
    rw [kill_between_steps c hl hnk hs]
    exact ⟨rfl, transitionTo_label c .killed⟩
  · cases hk : c.killing with
    | some i =>
      have hki : kill c = (hand c i, .action i) := by
        simp only [kill, ne_killed_of_live hl, hl, hk, if_false, Bool.false_eq_true]
      rw [hki]; exact ⟨i, rfl, (hpend i hk).keep (.of_off (hand_off ..))⟩
    | none =>
      have hval : (kill c).2 = .action c.actions.length := by rw [kill_in_step c hl hk hs]
      exact ⟨_, hval, kill_commits c _ hl hk hval⟩

end PMF
