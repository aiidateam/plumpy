import PlumpyModel.PM.Closed
/-!
# The trace of user calls only grows

`TrExt c₀ c`: the trace of `c` extends that of `c₀`.  Nothing but the activation of a RUNNING state's function writes the
trace, and that prepends an entry: `TrExt c₀` is closed under every leaf update of the model (`trext_closed`), hence kept by
every event.
-/
namespace PMF.H6

structure TrExt (c d : Cfg) : Prop where
  ext : ∃ extra, d.trace = extra ++ c.trace

theorem TrExt.rfl' (c : Cfg) : TrExt c c := ⟨[], rfl⟩

theorem TrExt.off {W : List Fld} {c₀ c d : Cfg} (h : TrExt c₀ c) (o : Off W c d) (hW : Fld.trace ∉ W := by decide) :
    TrExt c₀ d := ⟨by rw [o.trace hW]; exact h.ext⟩

theorem trext_closed (c₀ : Cfg) : StepClosed (TrExt c₀) where
  ctl o h := h.off o
  trans c s _ h := h.off (transitionTo_off c s)
  paused c h := h.off (doPauseHooks_off c)
  played c h := h.off (play_off c)
  interrupted c k h := h.off (interruptState_off c k)
  activate _ _ _ _ _ _ h := let ⟨x, hx⟩ := h.ext; ⟨_ :: x, congrArg (_ :: ·) hx⟩
  alloc c cmd h := h.off (cmdToState_off c cmd)
  rearmG _ _ _ _ _ _ h := ⟨h.ext⟩
  deliver c o h := h.off (deliver_off c o)
  adone c f h := h.off (awaitableDone_off c f)
  complete c f o h := h.off (complete_off c f o)
  cancelFut c h := h.off (cancelFut_off c)
  unsched c _ _ h := h.off (Off.set c .ready _)
  sched c _ h := h.off (Off.set c .ready _)

theorem run_trext (P : Prog) (c : Cfg) (evs : List Ev) : TrExt c (run P c evs) := (trext_closed c).run P c evs (.rfl' c)

end PMF.H6
