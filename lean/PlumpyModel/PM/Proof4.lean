import PlumpyModel.PM.Proof1
import PlumpyModel.PM.Proof2
/-!
# C04: a kill that is pending takes effect

`Pending k c`: the kill action `k` sits in the interrupt slot of the step in flight.  The closing part of that step then runs it
whatever the step produced (`endOfStep_pending`), and until then no event displaces it (`step_committed`, `PM/Proof5.lean`).  `Committed k` is
not closed under the single updates of `endOfStep` (the slot is emptied before a failed step excepts the process), so the
stepping task is traversed with `endOfStep` as a whole (`TaskClosed`, `PM/Closed.lean`).
-/
namespace PMF

/-- the kill action `k` is the pending interrupt action of the step in flight -/
def Pending (k : Nat) (c : Cfg) : Prop :=
  terminal c.st.label = false ∧
  c.killing = some k ∧ c.interrupt = some k ∧ actionStatus c k = .pending ∧ c.stepping = true ∧
  actionKind c k = some .kill

/-- **commitment**: the process is KILLED or EXCEPTED, or the kill is still the pending interrupt action -/
def Committed (k : Nat) (c : Cfg) : Prop :=
  c.st.label = .killed ∨ c.st.label = .excepted ∨ Pending k c

/-- side invariant: the pending-pause alias points to a pause action -/
def PausingOk (c : Cfg) : Prop := ∀ i, c.pausing = some i → actionKind c i = some .pause

theorem ne_of_kinds {c : Cfg} {i k : Nat} (hi : actionKind c i = some .pause) (hk : actionKind c k = some .kill) :
    i ≠ k := by
  intro h; subst h; rw [hi] at hk; cases hk

/-- `c'` agrees with `c` on everything `Pending` and `PausingOk` look at -/
def Keep (c c' : Cfg) : Prop :=
  c'.st.label = c.st.label ∧ c'.killing = c.killing ∧ c'.interrupt = c.interrupt ∧ c'.actions = c.actions ∧
  c'.stepping = c.stepping ∧ c'.pausing = c.pausing

theorem Keep.rfl' (c : Cfg) : Keep c c := ⟨rfl, rfl, rfl, rfl, rfl, rfl⟩

theorem Keep.of_label {W : List Fld} {c c' : Cfg} (hl : c'.st.label = c.st.label) (o : Off W c c')
    (hW : ∀ f ∈ [Fld.killing, .interrupt, .actions, .stepping, .pausing], f ∉ W := by decide) : Keep c c' :=
  ⟨hl, o.killing (hW _ (by decide)), o.interrupt (hW _ (by decide)), o.actions (hW _ (by decide)),
    o.stepping (hW _ (by decide)), o.pausing (hW _ (by decide))⟩

theorem Keep.of_off {W : List Fld} {c c' : Cfg} (o : Off W c c')
    (hW : ∀ f ∈ [Fld.st, .killing, .interrupt, .actions, .stepping, .pausing], f ∉ W := by decide) : Keep c c' :=
  .of_label (congrArg SObj.label (o.st (hW _ (by decide)))) o fun f hf => hW f (List.mem_cons_of_mem _ hf)

theorem Pending.keep {k : Nat} {c c' : Cfg} (h : Pending k c) (s : Keep c c') : Pending k c' :=
  ⟨s.1 ▸ h.1, s.2.1.trans h.2.1, s.2.2.1.trans h.2.2.1, (actionStatus_of_actions s.2.2.2.1 k).trans h.2.2.2.1,
    s.2.2.2.2.1.trans h.2.2.2.2.1, (actionKind_of_actions s.2.2.2.1 k).trans h.2.2.2.2.2⟩

theorem Pending.off {k : Nat} {W : List Fld} {c c' : Cfg} (h : Pending k c) (o : Off W c c')
    (hW : ∀ f ∈ [Fld.st, .killing, .interrupt, .actions, .stepping, .pausing], f ∉ W := by decide) : Pending k c' :=
  h.keep (.of_off o hW)

theorem PausingOk.keep {c c' : Cfg} (h : PausingOk c) (s : Keep c c') : PausingOk c' :=
  fun i hi => (actionKind_of_actions s.2.2.2.1 i).trans (h i (s.2.2.2.2.2 ▸ hi))

theorem deliver_keep (c : Cfg) (o) : Keep c (deliver c o) := .of_label (deliver_same c o).1 (deliver_off c o)

theorem resume_keep (c : Cfg) (v) : Keep c (resume c v).1 := resume_eq_deliver c v ▸ deliver_keep c _

theorem awaitableDone_keep (c : Cfg) (f) : Keep c (awaitableDone c f) :=
  .of_label (awaitableDone_same c f).1 (awaitableDone_off c f)

theorem Pending.committed {k : Nat} {c : Cfg} (h : Pending k c) : Committed k c := .inr (.inr h)

theorem committed_of_label {k : Nat} {c : Cfg} (h : c.st.label = .killed ∨ c.st.label = .excepted) : Committed k c :=
  or_assoc.mp (.inl h)

theorem terminal_of_label {c : Cfg} (h : c.st.label = .killed ∨ c.st.label = .excepted) :
    terminal c.st.label = true := by
  rcases h with h | h <;> rw [h] <;> rfl

/-- a committed kill on a live process is recorded in `_killing` -/
theorem Committed.not_accepting {k : Nat} {c : Cfg} {p : Prop} (h : Committed k c) (hl : terminal c.st.label = false)
    (hk : c.killing = none) : p := by
  rcases or_assoc.mpr h with ht | hp
  · rw [terminal_of_label ht] at hl; cases hl
  · rw [hp.2.1] at hk; cases hk

theorem Committed.keep {k : Nat} {c c' : Cfg} (h : Committed k c) (s : Keep c c') : Committed k c' := by
  rcases or_assoc.mpr h with h | h
  · exact committed_of_label (by rw [s.1]; exact h)
  · exact (h.keep s).committed

theorem endOfStep_excepts (c : Cfg) (e : Exc) (hl : terminal c.st.label = false) :
    (endOfStep c (.next (some (.excepted e)))).st.label = .excepted := by
  rw [endOfStep_failed c e hl, (finally_off _).st]
  exact (transitionTo_label _ _).elim id id

theorem pending_entry {k : Nat} {c : Cfg} (h : Pending k c) :
    ∃ a, c.actions[k]? = some a ∧ a.status = .pending ∧ a.kind = .kill := by
  obtain ⟨_, _, _, hst, _, hkind⟩ := h
  cases ha : c.actions[k]? with
  | none => simp [actionKind, ha] at hkind
  | some a => exact ⟨a, rfl, by simpa [actionStatus, ha] using hst, by simpa [actionKind, ha] using hkind⟩

theorem endOfStep_pending (k : Nat) (c : Cfg) (r : StepEnd) (h : Pending k c) :
    (endOfStep c r).st.label = .killed ∨ (endOfStep c r).st.label = .excepted := by
  obtain ⟨a, ha, hapend, hakind⟩ := pending_entry h
  obtain ⟨hl, -, hint, hst, -, -⟩ := h
  -- as long as the slot is left alone the kill action runs, whatever the step wanted next
  have hdisp : ∀ next, (dispatch c next).st.label = .killed ∨ (dispatch c next).st.label = .excepted := by
    intro next
    have hnc : actionStatus c k ≠ .cancelled := by rw [hst]; exact fun h => nomatch h
    unfold dispatch
    simp only [hl, Bool.false_eq_true, if_false, hint, hnc, ne_eq, not_false_eq_true, if_true]
    unfold runAction
    rw [ha]
    simp only [hapend, ne_eq, not_true_eq_false, if_false, hakind]
    rw [(setActionStatus_off _ _ _).st]
    exact transitionTo_label c .killed
  have hd : ∀ next, (finally_ (dispatch c next)).st.label = .killed ∨ (finally_ (dispatch c next)).st.label = .excepted :=
    fun next => by rw [(finally_off _).st]; exact hdisp next
  exact prepare_elim
    (Q := fun p => (finally_ (dispatch p.1 p.2)).st.label = .killed ∨ (finally_ (dispatch p.1 p.2)).st.label = .excepted) c r
    (fun e => Or.inr (endOfStep_excepts c e hl)) (fun n _ => hd n) (fun _ _ _ _ => hd none) fun _ _ hn => nomatch hn.symm.trans hint

/-- outside the closing part of a step the stepping task writes nothing that `Keep` reads, apart from `_stepping` -/
theorem TaskClosedG.of_keep {I : Cfg → Prop} (keep : ∀ {c c'}, I c → Keep c c' → I c')
    (stepping : ∀ c, I c → I { c with stepping := true }) (eos : ∀ c r, I c → I (endOfStep c r)) : TaskClosed I where
  pc _ _ h := keep h ⟨rfl, rfl, rfl, rfl, rfl, rfl⟩
  stepping := stepping
  tgt _ _ _ := trivial
  activate _ _ _ _ _ _ h := keep h ⟨rfl, rfl, rfl, rfl, rfl, rfl⟩
  allocG c cmd _ h := ⟨keep h (.of_off (cmdToState_off c cmd)), trivial⟩
  rearmG _ _ _ _ _ hst h := keep h ⟨by rw [hst]; rfl, rfl, rfl, rfl, rfl, rfl⟩
  eosG c r _ := eos c r

/-- the leaves of the calls and of the event loop that neither record nor enact a request write nothing that `Keep` reads -/
theorem EventClosed.of_keep {I : Cfg → Prop} (keep : ∀ {c c'}, I c → Keep c c' → I c')
    (requestPause : ∀ c, terminal c.st.label = false → c.stepping = true → c.pausing = none → c.killing = none → I c →
      I { requestInterrupt c .pause with pausing := (requestInterrupt c .pause).interrupt })
    (requestKill : ∀ c, terminal c.st.label = false → c.stepping = true → c.killing = none → I c →
      I { requestInterrupt c .kill with killing := (requestInterrupt c .kill).interrupt })
    (pauseNow : ∀ c, terminal c.st.label = false → c.stepping = false → c.paused = none → c.pausing = none →
      c.killing = none → I c → I (doPauseHooks c))
    (killNow : ∀ c, terminal c.st.label = false → c.stepping = false → c.killing = none → I c → I (transitionTo c .killed))
    (failNow : ∀ c e, terminal c.st.label = false → I c → I (transitionTo c (.excepted e)))
    (played : ∀ c, I c → I (play c).1) : EventClosed I fun _ _ => True where
  hand c i h := keep h (.of_off (hand_off c i))
  requestPause := requestPause
  requestKill := requestKill
  pauseNow := pauseNow
  killNow := killNow
  failNow := failNow
  played := played
  absorb _ h := h
  setHanded _ _ h := keep h ⟨rfl, rfl, rfl, rfl, rfl, rfl⟩
  resume c v _ h := keep h (resume_keep c v)
  adone c f h := keep h (awaitableDone_keep c f)
  complete c f o h := keep h (.of_off (complete_off c f o))
  cancelFut c h := keep h (.of_off (cancelFut_off c))
  unsched _ _ _ h := keep h ⟨rfl, rfl, rfl, rfl, rfl, rfl⟩
  sched _ _ h := keep h ⟨rfl, rfl, rfl, rfl, rfl, rfl⟩

theorem committed_task (k : Nat) : TaskClosed (Committed k) :=
  .of_keep Committed.keep
    (fun c h => by
      rcases or_assoc.mpr h with h | h
      · exact committed_of_label h
      · exact (h.keep (c' := { c with stepping := true }) ⟨rfl, rfl, rfl, rfl, h.2.2.2.2.1.symm, rfl⟩).committed)
    fun c r h => by
      rcases or_assoc.mpr h with h | h
      · exact committed_of_label (by rw [((fix_closed (terminal_of_label h)).endOfStep c r (Fix.rfl' c)).1]; exact h)
      · exact committed_of_label (endOfStep_pending k c r h)

/-- `play()` cancels the pending pause action, which is not the kill action -/
theorem play_pending (k : Nat) (c : Cfg) (h : Pending k c) (hp : PausingOk c) : Pending k (play c).1 :=
  play_elim c (fun _ _ => h)
    (fun i _ hi =>
      have hne : i ≠ k := ne_of_kinds (hp i hi) h.2.2.2.2.2
      have o := cancelAction_off c i
      show Pending k (cancelAction c i) from
        ⟨o.st ▸ h.1, o.killing.trans h.2.1, o.interrupt.trans h.2.2.1, (cancelAction_other c i k hne).trans h.2.2.2.1,
          o.stepping.trans h.2.2.2.2.1, (cancelAction_kind c i k).trans h.2.2.2.2.2⟩)
    (fun _ _ _ => h.keep ⟨rfl, rfl, rfl, rfl, rfl, rfl⟩) fun _ _ _ => h.keep ⟨rfl, rfl, rfl, rfl, rfl, rfl⟩

end PMF
