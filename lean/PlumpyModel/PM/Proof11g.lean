import PlumpyModel.PM.Proof11f
/-!
# Nothing is activated for a WAITING epoch that holds no outcome: `Unres` (C06 at the level of histories)

`Unres fn t0 c`: the process is still WAITING for continuation `fn` with NOTHING delivered (the future is pending or
carries an interruption, the wake-up slot is empty) and the trace of user calls is still `t0` — or it terminated with the
trace still `t0`.  A phase predicate (`Phase`, `PM/Proof11f.lean`): every event other than a delivery (`resume`, an awaitable's
done-callback) keeps it.  The callback of the stepping task is treated for `UnresA`, which also fixes the awaiting list of the
wait; `Unres` is `UnresA` for some list.
-/
namespace PMF.H6

inductive Unres (fn : Nat) (t0 : List Act) (c : Cfg) : Prop
  | waiting (wf : Nat) (aw : List (Nat × Nat)) (hst : c.st = .waiting fn wf none aw)
      (he : c.wfs[wf]? = some .pending ∨ ∃ k, c.wfs[wf]? = some (.interrupted k)) (ht : c.trace = t0)
  | over (hterm : terminal c.st.label = true) (ht : c.trace = t0)

theorem Unres.terminated {fn : Nat} {t0 : List Act} {c d : Cfg} (h : Unres fn t0 c)
    (hterm : terminal d.st.label = true) (htr : d.trace = c.trace) : Unres fn t0 d := by
  cases h with
  | waiting wf aw hst he ht => exact .over hterm (htr.trans ht)
  | over _ ht => exact .over hterm (htr.trans ht)

/-- `Unres` of a wait whose awaiting list is `aw`, and stays `aw` (C10 follows the awaitables of one wait) -/
inductive UnresA (fn : Nat) (aw : List (Nat × Nat)) (t0 : List Act) (c : Cfg) : Prop
  | waiting (wf : Nat) (hst : c.st = .waiting fn wf none aw)
      (he : c.wfs[wf]? = some .pending ∨ ∃ k, c.wfs[wf]? = some (.interrupted k)) (ht : c.trace = t0)
  | over (hterm : terminal c.st.label = true) (ht : c.trace = t0)

theorem UnresA.unres {fn aw t0} {c : Cfg} (h : UnresA fn aw t0 c) : Unres fn t0 c := by
  cases h with
  | waiting wf hst he ht => exact .waiting wf aw hst he ht
  | over hterm ht => exact .over hterm ht

theorem Unres.unresA {fn t0} {c : Cfg} (h : Unres fn t0 c) : ∃ aw, UnresA fn aw t0 c := by
  cases h with
  | waiting wf aw hst he ht => exact ⟨aw, .waiting wf hst he ht⟩
  | over hterm ht => exact ⟨[], .over hterm ht⟩

theorem UnresA.trace {fn aw t0} {c : Cfg} (h : UnresA fn aw t0 c) : c.trace = t0 := by
  cases h with
  | waiting _ _ _ ht => exact ht
  | over _ ht => exact ht

theorem UnresA.quiet {fn : Nat} {aw : List (Nat × Nat)} {t0 : List Act} {c d : Cfg} (h : UnresA fn aw t0 c)
    (q : QuietU c d) : UnresA fn aw t0 d := by
  cases h with
  | waiting wf hst he ht =>
    refine .waiting wf (q.1.trans hst) ?_ (q.2.1.trans ht)
    rcases q.2.2 wf (by rw [hst]; rfl) with g | ⟨_, k, g⟩
    · rw [g]; exact he
    · exact Or.inr ⟨k, g⟩
  | over hterm ht => exact .over (by rw [q.1]; exact hterm) (q.2.1.trans ht)

theorem unresA_phase (fn : Nat) (aw : List (Nat × Nat)) (t0 : List Act) : Phase (UnresA fn aw t0) where
  quiet q _ h := h.quiet q
  over hterm htr h := .over hterm (htr.trans h.trace)

theorem unres_phase (fn : Nat) (t0 : List Act) : Phase (Unres fn t0) where
  quiet q _ h := h.unresA.elim fun _ g => (g.quiet q).unres
  over hterm htr h := h.terminated hterm htr

theorem pending_of_nstep {c : Cfg} {fn wf : Nat} {wk : Option WF} {aw : List (Nat × Nat)} (hr : Rob c)
    (hns : c.stepping = false) (hst : c.st = .waiting fn wf wk aw)
    (he : c.wfs[wf]? = some .pending ∨ ∃ k, c.wfs[wf]? = some (.interrupted k)) : c.wfs[wf]? = some .pending :=
  he.resolve_right fun ⟨k, g⟩ => ni_of_nstep c hr hns wf k (by rw [hst]; rfl) g

theorem tickStepper_unresA {fn : Nat} {aw : List (Nat × Nat)} {t0 : List Act} (P : Prog) (c : Cfg) (hC : Coh c)
    (h : UnresA fn aw t0 c) : UnresA fn aw t0 (tickStepper P c) := by
  refine (unresA_phase fn aw t0).tick_keeps P ?_ ?_ ?_ c hC h
  · -- between two steps the future is pending: the step suspends on it
    intro d hm hl _ h
    cases h with
    | waiting wf hst he ht =>
      have hw := pending_of_nstep hm.rob hm.nstep hst he
      rw [stepBody, stepBodyK_waiting_pending P _ d fn wf none aw hst hw]
      exact .waiting wf hst (Or.inl hw) ht
    | over hterm _ => rw [hl] at hterm; cases hterm
  · -- woken by the interruption: the wait is re-armed on a fresh pending future, and the step ends
    intro c wf w hC _ hpc hwfo hw hne h
    cases h with
    | over hterm _ => rw [wfOf_none_of_terminal hterm] at hwfo; cases hwfo
    | waiting wf' hst he ht =>
      rw [hst] at hwfo; cases hwfo
      obtain ⟨k, hk⟩ := he.resolve_left fun g => hne (Option.some.inj (hw.symm.trans g))
      cases hw.symm.trans hk
      rw [wake_interrupted c _ wf k .pending hst rfl]
      have hs := endOfStep_spec { c with st := .waiting fn c.wfs.length none aw, wfs := c.wfs ++ [WF.pending] }
        (.interruption k) hC.rob.actOk
      rcases hs.2.2.2.2 with ⟨a, b⟩ | a | ⟨s, hs', _, _⟩
      · exact .waiting c.wfs.length a (Or.inl (by rw [b]; exact List.getElem?_concat_length)) (hs.2.2.2.1.trans ht)
      · exact .over a (hs.2.2.2.1.trans ht)
      · cases hs'
  · intro c b _ hl _ _ hnw h
    cases h with
    | waiting wf hst _ _ => rw [hst] at hnw; cases hnw
    | over hterm _ => rw [hl] at hterm; cases hterm

theorem tickStepper_unres {fn : Nat} {t0 : List Act} (P : Prog) (c : Cfg) (hC : Coh c)
    (h : Unres fn t0 c) : Unres fn t0 (tickStepper P c) :=
  h.unresA.elim fun _ g => (tickStepper_unresA P c hC g).unres

theorem step_unres {fn : Nat} {t0 : List Act} (P : Prog) (c : Cfg) (ev : Ev) (hC : Coh c)
    (hnr : ∀ u, ev ≠ .resume u) (hna : ∀ f, ev ≠ .tickCb (.adone f)) (h : Unres fn t0 c) :
    Unres fn t0 (step P c ev).1 :=
  (unres_phase fn t0).step P c ev h (fun _ => tickStepper_unres P c hC h) (fun u he => absurd he (hnr u))
    fun _ f he => absurd he (hna f)

theorem run_unres {fn : Nat} {t0 : List Act} (P : Prog) (c0 : Cfg) (evs : List Ev) (hC : Coh c0)
    (hf : histFuelOk P c0 evs = true) (hnd : ∀ e ∈ evs, (∀ u, e ≠ .resume u) ∧ (∀ f, e ≠ .tickCb (.adone f)))
    (h : Unres fn t0 c0) : Unres fn t0 (run P c0 evs) :=
  (run_coh_with P c0 evs (fun c e he hC => step_unres P c e hC (hnd e he).1 (hnd e he).2) hC hf h).2

end PMF.H6
