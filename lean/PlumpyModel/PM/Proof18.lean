import PlumpyModel.PM.Proof17
import PlumpyModel.PM.Proof16
/-!
# C05 — transparency, fourth class: histories, the reference history with deferred ticks, the simulation

`admissible4` / `unpaused4` extend `admissible3` / `unpaused3` (`Proof16.lean`) by one more piece of state, `p : Option (List Nat)`:
`p = some L` says that a tick of the reference history is **deferred** — the run with pauses made a tick whose first step ended
with the pause taking effect at a step boundary in CREATED or RUNNING (`defers`), the reference history has not emitted that tick
yet, and `L` lists the external futures that carried a done-callback when that tick started.  While `p = some L` the wake-ups
`pendOk L` are admitted and emitted at once (so they reach the reference run *before* the deferred tick); the deferred tick is
emitted when the held stepping task is woken (`runsBody`; that tick of the run with pauses has no image of its own) or at
the end of the history.
-/
namespace PMF

/-- the next tick ends, after its first step, with the pause taking effect at a step boundary in CREATED or RUNNING -/
def defers (c : Cfg) : Bool :=
  !heldPc c && !waitInterrupted c && okFirst c && heldB (firstStep c) && isCR (firstStep c).st

def wakeOk4 (g : Bool) (p : Option (List Nat)) (c : Cfg) (e : Ev) : Bool :=
  wakeOk3 g c || (match p with | some L => pendOk L e | none => false)

def evAllowed4 (g : Bool) (p : Option (List Nat)) (c : Cfg) (e : Ev) : Bool :=
  match e with
  | .tick | .pause | .play => true
  | e => isWake e && wakeOk4 g p c e

def nextG4 (g : Bool) (c : Cfg) (e : Ev) : Bool :=
  match e with
  | .tick | .pause | .play => nextG3 g c e
  | e => if wakeOk3 g c then nextG3 g c e else g

def nextP (p : Option (List Nat)) (c : Cfg) (e : Ev) : Option (List Nat) :=
  match e with
  | .tick =>
      (match p with
       | none => if defers c then some c.efCb else none
       | some L => if runsBody c then none else some L)
  | _ => p

def admissible4 (P : Prog) : Bool → Option (List Nat) → Cfg → List Ev → Bool
  | _, _, _, [] => true
  | g, p, c, e :: es => evAllowed4 g p c e && admissible4 P (nextG4 g c e) (nextP p c e) (step P c e).1 es

/-- image of one event in the reference history: as `evImage3`, except that a tick that `defers` is not emitted, and that
the tick that wakes the held stepping task while a tick is deferred emits the deferred one -/
def evImage4 (g : Bool) (p : Option (List Nat)) (c : Cfg) : Ev → List Ev
  | .tick =>
      (match p with
       | none => if defers c then [] else evImage3 g c .tick
       | some _ => if runsBody c then [.tick] else [])
  | e => evImage3 g c e

/-- the reference history of the fourth class; a tick still deferred at the end of the history is emitted last -/
def unpaused4 (P : Prog) : Bool → Option (List Nat) → Cfg → List Ev → List Ev
  | _, p, _, [] => if p.isSome then [.tick] else []
  | g, p, c, e :: es => evImage4 g p c e ++ unpaused4 P (nextG4 g c e) (nextP p c e) (step P c e).1 es

def Sim4 (P : Prog) (g : Bool) (p : Option (List Nat)) (c d : Cfg) : Prop :=
  match p with
  | none => Sim3 P g c d
  | some L => g = false ∧ Pend L c d

theorem evAllowed4_eq (g : Bool) (p : Option (List Nat)) (c : Cfg) (e : Ev) :
    evAllowed4 g p c e = allowedIf (wakeOk4 g p c e) e := by
  cases e <;> rfl

theorem wake_image4 (g : Bool) (p : Option (List Nat)) (c : Cfg) (e : Ev) (h : isWake e = true) :
    evImage4 g p c e = [e] ∧ nextP p c e = p ∧ nextG4 g c e = if wakeOk3 g c then nextG3 g c e else g := by
  cases e <;> first | exact ⟨rfl, rfl, rfl⟩ | cases h

theorem run_single (P : Prog) (d : Cfg) (e : Ev) : run P d [e] = (step P d e).1 := rfl

theorem pend_not_wakeOk3 {L : List Nat} {c d : Cfg} (h : Pend L c d) : wakeOk3 false c = false := by
  have h1 : heldPc c = true := h.held
  have h2 : pendingWait c = false := by
    unfold pendingWait
    split
    · rename_i fn wf wk aw hst; exact absurd hst (isCR_notWaiting h.cr _ _ _ _)
    · rfl
  simp [wakeOk3, h1, h2]

theorem step_sim4 (P : Prog) (g : Bool) (p : Option (List Nat)) (c d : Cfg) (e : Ev) (h : Sim4 P g p c d) (hinv : InvP c)
    (hI : Inv c) (ha : evAllowed4 g p c e = true) (hf : fuelOkN P (fuel0 - 1) d (evImage4 g p c e) = true) :
    Sim4 P (nextG4 g c e) (nextP p c e) (step P c e).1 (run P d (evImage4 g p c e)) := by
  cases p with
  | none =>
    have h3 : Sim3 P g c d := h
    rcases allowedIf_cases (evAllowed4_eq g none c e ▸ ha) with rfl | rfl | rfl | ⟨hw, hok⟩
    · cases hd : defers c with
      | true =>
        rw [show evImage4 g none c .tick = [] by simp [evImage4, hd], show nextP none c .tick = some c.efCb by simp [nextP, hd]]
        simp only [defers, Bool.and_eq_true, Bool.not_eq_true'] at hd
        obtain ⟨⟨⟨⟨hh, hwi⟩, hok⟩, hb⟩, hcr⟩ := hd
        rw [show nextG4 g c .tick = false by show nextG3 g c .tick = false; simp [nextG3, hh, hwi]]
        have hin : InStep c d := by
          rcases h3 with ⟨_, hl⟩ | ⟨_, hs | hs | hs⟩
          · exact absurd (hh.symm.trans hl.pc) (by decide)
          · exact hs
          · exact absurd (hwi.symm.trans (qw2_not_held hs).2) (by decide)
          · exact absurd (hh.symm.trans hs.1) (by decide)
        exact ⟨rfl, pend_intro P c d hin hI hok hb hcr⟩
      | false =>
        rw [show evImage4 g none c .tick = evImage3 g c .tick by simp [evImage4, hd]] at hf ⊢
        rw [show nextP none c .tick = none by simp [nextP, hd]]
        exact step_sim3 P g c d .tick h3 hinv hI rfl hf
    · exact step_sim3 P g c d .pause h3 hinv hI rfl hf
    · exact step_sim3 P g c d .play h3 hinv hI rfl hf
    · have hok3 : wakeOk3 g c = true := by simpa [wakeOk4] using hok
      obtain ⟨e1, e2, e3⟩ := wake_image4 g none c e hw
      rw [e1, ← wake_evImage3 c e hw g] at hf
      rw [e1, e2, e3, if_pos hok3, ← wake_evImage3 c e hw g]
      exact step_sim3 P g c d e h3 hinv hI (allowedIf_wake hw hok3) hf
  | some L =>
    obtain ⟨rfl, hp⟩ : g = false ∧ Pend L c d := h
    have hh : heldPc c = true := hp.held
    rcases allowedIf_cases (evAllowed4_eq false (some L) c e ▸ ha) with rfl | rfl | rfl | ⟨hw, hok⟩
    · rw [show nextG4 false c .tick = false by show nextG3 false c .tick = false; simp [nextG3, hh]]
      cases hr : runsBody c with
      | true =>
        rw [show evImage4 false (some L) c .tick = [.tick] by simp [evImage4, hr]] at hf ⊢
        rw [show nextP (some L) c .tick = none by simp [nextP, hr], run_single]
        exact Or.inr ⟨Or.inl rfl, (tick_lag P c _ (pend_flush P L c d hp (tickDone_of_slack P d hf)) hinv hI).sim.to3⟩
      | false =>
        rw [show evImage4 false (some L) c .tick = [] by simp [evImage4, hr],
          show nextP (some L) c .tick = some L by simp [nextP, hr]]
        exact ⟨rfl, tick_pend_idle P L c d hp hr⟩
    · exact ⟨rfl, pause_pend L c d hp⟩
    · exact ⟨rfl, play_pend L c d hp⟩
    · have hn3 := pend_not_wakeOk3 hp
      have hpo : pendOk L e = true := by simpa [wakeOk4, hn3] using hok
      obtain ⟨e1, e2, e3⟩ := wake_image4 false (some L) c e hw
      rw [e1, e2, e3, hn3, run_single]
      exact ⟨rfl, pend_wake P L c d e hp hpo⟩

/-- at the end of the history the deferred tick, if any, has been delivered (`unpaused4` emits it last): the two runs are
related by `Sim3` -/
theorem run_sim4 (P : Prog) : ∀ (evs : List Ev) (g : Bool) (p : Option (List Nat)) (c d : Cfg), Sim4 P g p c d → InvP c →
    Inv c → admissible4 P g p c evs = true → fuelOkN P (fuel0 - 1) d (unpaused4 P g p c evs) = true →
    ∃ g', Sim3 P g' (run P c evs) (run P d (unpaused4 P g p c evs)) := by
  intro evs
  induction evs with
  | nil =>
    intro g p c d h _ _ _ hf
    cases p with
    | none => exact ⟨g, h⟩
    | some L =>
      obtain ⟨_, hp⟩ : g = false ∧ Pend L c d := h
      exact ⟨false, Or.inr ⟨Or.inl rfl, Or.inr (Or.inr (pend_flush P L c d hp (tickDone_of_slack P d hf)))⟩⟩
  | cons e es ih =>
    intro g p c d h hinv hI ha hf
    simp only [admissible4, Bool.and_eq_true] at ha
    simp only [unpaused4, fuelOkN_append, Bool.and_eq_true] at hf
    rw [show run P c (e :: es) = run P (step P c e).1 es from rfl]
    simp only [unpaused4, run_append]
    exact ih _ _ _ _ (step_sim4 P g p c d e h hinv hI ha.1 hf.1) (invP_closed.step P c e hinv) (inv_closed.step P c e hI) ha.2 hf.2

theorem sim4_init (P : Prog) (nf : Nat) : Sim4 P false none (init nf) (init nf) := sim3_init P nf

theorem evImage4_eq (g : Bool) (p : Option (List Nat)) (c : Cfg) (x : Ev) :
    evImage4 g p c x = match x with | .pause => [] | .play => [] | .tick => evImage4 g p c .tick | e => [e] := by
  cases x <;> rfl

theorem evImage4_tick (g : Bool) (p : Option (List Nat)) (c : Cfg) : evImage4 g p c .tick = [] ∨ evImage4 g p c .tick = [.tick] := by
  cases p with
  | none =>
    cases hd : defers c with
    | true => exact .inl (by simp [evImage4, hd])
    | false => rw [show evImage4 g none c .tick = evImage3 g c .tick by simp [evImage4, hd]]; exact evImage3_tick g c
  | some L => cases hr : runsBody c <;> simp [evImage4, hr]

/-- `t` is the tick still deferred at the end of the history, if any -/
theorem unpaused4_erases (P : Prog) (evs : List Ev) (g : Bool) (p : Option (List Nat)) (c : Cfg) :
    ∃ t, (t = [] ∨ t = [.tick]) ∧ Erases t evs (unpaused4 P g p c evs) := by
  induction evs generalizing g p c with
  | nil =>
    cases p with
    | none => exact ⟨[], .inl rfl, .nil⟩
    | some L => exact ⟨[.tick], .inr rfl, .nil⟩
  | cons x rest ih =>
    obtain ⟨t, ht, h⟩ := ih (nextG4 g c x) (nextP p c x) (step P c x).1
    rw [unpaused4, evImage4_eq]
    exact ⟨t, ht, h.image x _ (evImage4_tick g p c)⟩

theorem unpaused4_nonticks (P : Prog) : ∀ (evs : List Ev) (g : Bool) (p : Option (List Nat)) (c : Cfg),
    (unpaused4 P g p c evs).filter (fun e => !isTick e) = (erasePP evs).filter (fun e => !isTick e) := by
  intro evs g p c
  obtain ⟨t, ht, h⟩ := unpaused4_erases P evs g p c
  exact h.nonticks (by rcases ht with rfl | rfl <;> rfl)

theorem admissible3_sub4 (P : Prog) : ∀ (evs : List Ev) (g : Bool) (p : Option (List Nat)) (c : Cfg),
    admissible3 P g c evs = true → admissible4 P g p c evs = true := by
  intro evs
  induction evs with
  | nil => intro g p c _; rfl
  | cons x rest ih =>
    intro g p c h
    simp only [admissible3, Bool.and_eq_true] at h
    simp only [admissible4, Bool.and_eq_true]
    have hng : nextG4 g c x = nextG3 g c x := by
      rcases allowedIf_cases (b := wakeOk3 g c) h.1 with rfl | rfl | rfl | ⟨hw, hok⟩
      · rfl
      · rfl
      · rfl
      · rw [(wake_image4 g p c x hw).2.2, if_pos hok]
    rw [hng, evAllowed4_eq]
    exact ⟨allowedIf_mono (b := wakeOk3 g c) (fun hok => by simp [wakeOk4, hok]) h.1, ih _ _ _ h.2⟩

theorem firstTarget_cr (d : Cfg) (s : SObj) (h : firstTarget d = some s) : isCR s = true := by
  unfold firstTarget at h
  split at h
  · split at h
    · cases h; rfl
    · cases h
  · split at h
    · cases h; rfl
    · cases h
  · cases h

theorem firstStep_resumeNoop (d : Cfg) (hok : okFirst d = true) (hi : d.interrupt = none) (hl : terminal d.st.label = false)
    (hc : d.closed = false) (hr : ResumeNoop d) : ResumeNoop (firstStep d) := by
  rw [firstStep_eq d hok hi hl hc]
  split
  · rename_i s hs
    exact Or.inl (by rw [(toRunning_fields d s).2.2.2]; exact isCR_notWaiting (firstTarget_cr d s hs))
  · exact hr

end PMF
