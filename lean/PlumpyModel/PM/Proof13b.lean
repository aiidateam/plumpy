import PlumpyModel.PM.Proof11g
import PlumpyModel.PM.Proof13
/-!
# What becomes of one wait: `Bar` (C10 at the level of histories)

Fix a configuration in which the chain is WAITING for continuation `fn` on the awaitables `aw0`, nothing processed yet, the
trace of user calls being `t0`.  `Bar fn aw0 t0 c` describes every configuration `c` that can follow:

* `pre`    — still the same WAITING epoch, nothing delivered to the wait; the awaiting set `aw` is a part of `aw0`, and every
             awaitable of `aw0` that left it was processed with a RESULT and the context holds, under its key, the result of a
             future of this wait registered under that key (`DoneRes`);
* `res v`  — the wait was completed with `v` (`H6.Deliv`: still held / RUNNING `fn` but not yet activated / terminated /
             `fn` activated first), and as long as `fn` has not been activated every awaitable of `aw0` is `DoneRes`;
* `failed e` — an awaitable that failed with `e` was processed first: the wait holds that failure, or the process terminated;
             nothing is activated (`FailD`);
* `over`   — the process terminated (kill, fail) before anything was delivered.

`step_bar`: every well-formed event keeps `Bar` in a reachable configuration.

`res v` and `failed e` are the cases `.result v` / `.failed e` of `H6.Outc` (`H6.deliv_iff`, `faild_iff`), the epoch of a wait that
holds an outcome, whose events are analysed once in `PM/Proof11f.lean`; what this file adds is the phase `pre` with the
bookkeeping of the awaitables.  `tick_gen` is the case of `H6.tick_keeps` for a predicate on WAITING / terminated configurations.
-/
namespace PMF.B10
open PMF.H6

theorem tick_gen (P : Prog) (Q : Cfg → Prop) (hsetpc : ∀ c pc', Q c → Q { c with pc := pc' })
    (hbody : ∀ d, Mid d → terminal d.st.label = false → d.paused = none → Q d → Q (stepBody P 0 d))
    (hterm : ∀ c d, Q c → terminal c.st.label = true → d.st = c.st → d.trace = c.trace → Q d)
    (hwake : ∀ c wf w, Coh c → terminal c.st.label = false → c.pc = .awaitWaiting wf → c.wfs[wf]? = some w →
      w ≠ .pending → Q c → Q (wake c (wakeFn c) wf w))
    (hnw : ∀ c, Q c → terminal c.st.label = false → wfOf c.st ≠ none)
    (c : Cfg) (hC : Coh c) (hQ : Q c) : Q (tickStepper P c) :=
  tick_keeps P hsetpc hbody hterm (fun c wf w hC hl hpc _ => hwake c wf w hC hl hpc)
    (fun c _ _ hl _ _ h hQ => absurd h (hnw c hQ hl)) c hC hQ

/-- `(f, k)` was processed with a result, and the context holds under `k` the result of a future of `aw0` registered under
`k` (`f` itself if `k` is registered once; the one processed last if several futures share the key) -/
def DoneRes (aw0 : List (Nat × Nat)) (c : Cfg) (f k : Nat) : Prop :=
  (∃ v, c.efs[f]? = some (.result v)) ∧ ∃ f' v', (f', k) ∈ aw0 ∧ c.efs[f']? = some (.result v') ∧ (k, v') ∈ c.ctx

def Stable (c d : Cfg) : Prop :=
  d.ctx = c.ctx ∧ ∀ (f : Nat) (v : Val), c.efs[f]? = some (EFut.result v) → d.efs[f]? = some (EFut.result v)

theorem Stable.of_off {W : List Fld} {c d : Cfg} (o : Off W c d)
    (hW : ∀ f ∈ [Fld.ctx, .efs], f ∉ W := by decide) : Stable c d :=
  ⟨o.ctx (hW _ (by decide)), fun f v hv => by rw [o.efs (hW _ (by decide))]; exact hv⟩

theorem DoneRes.mono {aw0 : List (Nat × Nat)} {c d : Cfg} {f k : Nat} (h : DoneRes aw0 c f k) (s : Stable c d) :
    DoneRes aw0 d f k := by
  obtain ⟨⟨v, hv⟩, f', v', h1, h2, h3⟩ := h
  exact ⟨⟨v, s.2 f v hv⟩, f', v', h1, s.2 f' v' h2, by rw [s.1]; exact h3⟩

def AllRes (aw0 : List (Nat × Nat)) (c : Cfg) : Prop := ∀ f k, (f, k) ∈ aw0 → DoneRes aw0 c f k

/-- what is known about the awaitables while nothing has been delivered to the wait -/
structure PreF (aw0 aw : List (Nat × Nat)) (c : Cfg) : Prop where
  sub : ∀ p ∈ aw, p ∈ aw0
  done : ∀ f k, (f, k) ∈ aw0 → (f, k) ∈ aw ∨ DoneRes aw0 c f k

theorem PreF.mono {aw0 aw : List (Nat × Nat)} {c d : Cfg} (h : PreF aw0 aw c) (s : Stable c d) : PreF aw0 aw d :=
  ⟨h.sub, fun f k hk => (h.done f k hk).imp id (fun g => g.mono s)⟩

theorem PreF.allRes {aw0 : List (Nat × Nat)} {c : Cfg} (h : PreF aw0 [] c) : AllRes aw0 c :=
  fun f k hk => (h.done f k hk).resolve_left (fun g => by cases g)

/-- the wait of the current WAITING state holds the failure `e` (in its future, or parked behind an interruption) -/
def HoldsF (c : Cfg) (wf : Nat) (wk : Option WF) (e : Exc) : Prop :=
  c.wfs[wf]? = some (.failed e) ∨ ((∃ k, c.wfs[wf]? = some (.interrupted k)) ∧ wk = some (.failed e))

/-- the wait for `fn` holds the failure `e` and nothing was activated — or the process terminated, nothing activated -/
inductive FailD (fn : Nat) (e : Exc) (t0 : List Act) (c : Cfg) : Prop
  | held (wf : Nat) (wk : Option WF) (aw : List (Nat × Nat)) (hst : c.st = .waiting fn wf wk aw) (hh : HoldsF c wf wk e)
      (ht : c.trace = t0)
  | over (hterm : terminal c.st.label = true) (ht : c.trace = t0)

theorem FailD.trace {fn e t0} {c : Cfg} (h : FailD fn e t0 c) : c.trace = t0 := by
  cases h with
  | held _ _ _ _ _ ht => exact ht
  | over _ ht => exact ht

theorem FailD.terminated {fn : Nat} {e : Exc} {t0 : List Act} {c d : Cfg} (h : FailD fn e t0 c)
    (hterm : terminal d.st.label = true) (htr : d.trace = c.trace) : FailD fn e t0 d :=
  .over hterm (htr.trans h.trace)

theorem faild_iff {fn : Nat} {e : Exc} {t0 : List Act} {c : Cfg} : FailD fn e t0 c ↔ Outc fn (.failed e) t0 c := by
  constructor
  · intro h
    cases h with
    | held wf wk aw hst hh ht => exact .held wf wk aw hst hh ht
    | over hterm ht => exact .over hterm ht
  · intro h
    cases h with
    | held wf wk aw hst hh ht => exact .held wf wk aw hst hh ht
    | ready v ho _ _ _ => cases ho
    | over hterm ht => exact .over hterm ht
    | done v ho _ _ => cases ho

theorem step_faild {fn : Nat} {e : Exc} {t0 : List Act} (P : Prog) (c : Cfg) (ev : Ev) (hC : Coh c)
    (h : FailD fn e t0 c) : FailD fn e t0 (step P c ev).1 :=
  faild_iff.mpr (step_outc (.failed e) P c ev hC (faild_iff.mp h))

theorem step_cases (P : Prog) (c : Cfg) (ev : Ev) :
    (ev = .tick ∨ (∃ g, ev = .tickCb (.adone g)) ∨ ∃ v, ev = .resume v) ∨
    QuietU c (step P c ev).1 ∨ (terminal (step P c ev).1.st.label = true ∧ (step P c ev).1.trace = c.trace) := by
  by_cases h : ev = .tick ∨ (∃ g, ev = .tickCb (.adone g)) ∨ ∃ v, ev = .resume v
  · exact .inl h
  · exact .inr ((step_calm P c ev (fun g => h (.inl g)) (fun g hg => h (.inr (.inl ⟨g, hg⟩)))
      (fun v hv => h (.inr (.inr ⟨v, hv⟩)))).imp (·.1) id)

theorem step_trace_of_ne_tick (P : Prog) (c : Cfg) (ev : Ev) (h : ev ≠ .tick) : (step P c ev).1.trace = c.trace := by
  rcases step_cases P c ev with (rfl | ⟨g, rfl⟩ | ⟨v, rfl⟩) | q | ⟨_, b⟩
  · exact absurd rfl h
  · exact (tickCb_off c _).trace
  · exact (resume_off c v).trace
  · exact q.2.1
  · exact b

theorem step_stable (P : Prog) (c : Cfg) (ev : Ev) (hna : ∀ g, ev ≠ .tickCb (.adone g)) : Stable c (step P c ev).1 := by
  cases ev with
  | tick => exact .of_off (tickStepper_off P c)
  | tickCb cb =>
    exact .of_off (W := .ready :: ([.nextCookie, .actions, .interrupt] ++ transW)) <|
      tickCb_elim c cb (Off.rfl' c) (fun _ => Off.setIn c .ready _) (fun _ g hg _ => absurd (congrArg Ev.tickCb hg) (hna g))
        (fun d h => h.trans' ((tryKilling_off d).mono fun _ => List.mem_cons_of_mem _))
        fun d e h => h.trans' ((fail_off d e).mono fun _ hf => List.mem_cons_of_mem _ (List.mem_append_right _ hf))
  | pause => exact .of_off (pause_off c)
  | play => exact .of_off (play_off c)
  | kill => exact .of_off (kill_off c)
  | resume v => exact .of_off (resume_off c v)
  | fail e => exact .of_off (fail_off c e)
  | cancelFut => exact .of_off (cancelFut_off c)
  | complete f o =>
    simp only [step]
    refine ⟨(complete_off c f o).ctx, fun f' v hv => ?_⟩
    unfold complete; split
    · rename_i hp
      have key : (setAt c.efs f o)[f']? = some (EFut.result v) := by
        by_cases hff : f = f'
        · subst hff; rw [hp] at hv; cases hv
        · simpa [setAt, List.getElem?_set, hff] using hv
      dsimp only; split <;> exact key
    · exact hv
  | callSoon r => exact .of_off (Off.set c .ready _)

theorem no_adone_ready {c : Cfg} (hg : G c) (hl : terminal c.st.label = false) (haw : awOf c.st = []) (g : Nat) :
    Cb.adone g ∉ c.ready := by
  have := hg.ns hl g
  rw [haw, List.countP_nil] at this
  exact List.count_eq_zero.mp (by omega)

theorem awaitableDone_exc (c : Cfg) (fn wf : Nat) (wk : Option WF) (aw : List (Nat × Nat)) (g key : Nat) (e : Exc)
    (hst : c.st = .waiting fn wf wk aw) (hfind : aw.find? (·.1 = g) = some (g, key)) (hv : c.efs[g]? = some (.exc e)) :
    awaitableDone c g = deliver { c with st := .waiting fn wf wk (aw.filter (·.1 ≠ g)) } (.failed e) := by
  unfold awaitableDone
  simp only [hst, hfind, hv]

theorem awaitableDone_res_last (c : Cfg) (fn wf : Nat) (wk : Option WF) (aw : List (Nat × Nat)) (g key : Nat) (v : Val)
    (hst : c.st = .waiting fn wf wk aw) (hfind : aw.find? (·.1 = g) = some (g, key)) (hv : c.efs[g]? = some (.result v))
    (hrest : (aw.filter (·.1 ≠ g)).isEmpty = true) :
    awaitableDone c g = deliver { c with st := .waiting fn wf wk (aw.filter (·.1 ≠ g)), ctx := (key, v) :: c.ctx.filter (·.1 ≠ key) } (.result none) := by
  unfold awaitableDone
  simp only [hst, hfind, hv, hrest, if_true]

theorem awaitableDone_res_more (c : Cfg) (fn wf : Nat) (wk : Option WF) (aw : List (Nat × Nat)) (g key : Nat) (v : Val)
    (hst : c.st = .waiting fn wf wk aw) (hfind : aw.find? (·.1 = g) = some (g, key)) (hv : c.efs[g]? = some (.result v))
    (hrest : (aw.filter (·.1 ≠ g)).isEmpty = false) :
    awaitableDone c g = { c with st := .waiting fn wf wk (aw.filter (·.1 ≠ g)), ctx := (key, v) :: c.ctx.filter (·.1 ≠ key) } := by
  unfold awaitableDone
  simp only [hst, hfind, hv, hrest, Bool.false_eq_true, if_false]

theorem deliver_unres (c : Cfg) (fn wf : Nat) (aw : List (Nat × Nat)) (o : WF) (hst : c.st = .waiting fn wf none aw)
    (he : c.wfs[wf]? = some .pending ∨ ∃ k, c.wfs[wf]? = some (.interrupted k)) :
    ∃ wk', (deliver c o).st = .waiting fn wf wk' aw ∧
      ((deliver c o).wfs[wf]? = some o ∨ ((∃ k, (deliver c o).wfs[wf]? = some (.interrupted k)) ∧ wk' = some o)) ∧
      (deliver c o).trace = c.trace :=
  deliver_accepted c o hst (he.imp id fun g => ⟨g, rfl⟩)

theorem awaitableDone_exc_held {fn : Nat} {t0 : List Act} (c : Cfg) (g key : Nat) (e : Exc) (wf : Nat)
    (aw : List (Nat × Nat)) (hst : c.st = .waiting fn wf none aw)
    (he : c.wfs[wf]? = some .pending ∨ ∃ k, c.wfs[wf]? = some (.interrupted k)) (ht : c.trace = t0)
    (hfind : aw.find? (·.1 = g) = some (g, key)) (ho : c.efs[g]? = some (.exc e)) : FailD fn e t0 (awaitableDone c g) := by
  rw [awaitableDone_exc c fn wf none aw g key e hst hfind ho]
  obtain ⟨wk', h1, h2, h3⟩ := deliver_unres { c with st := .waiting fn wf none (aw.filter (·.1 ≠ g)) }
    fn wf (aw.filter (·.1 ≠ g)) (.failed e) rfl he
  exact .held wf wk' _ h1 h2 (h3.trans ht)

inductive Bar (fn : Nat) (aw0 : List (Nat × Nat)) (t0 : List Act) (c : Cfg) : Prop
  | pre (wf : Nat) (aw : List (Nat × Nat)) (hst : c.st = .waiting fn wf none aw)
      (he : c.wfs[wf]? = some .pending ∨ ∃ k, c.wfs[wf]? = some (.interrupted k)) (ht : c.trace = t0)
      (hf : PreF aw0 aw c)
  | res (v : Option Val) (hd : Deliv fn v t0 c) (hall : c.trace = t0 → terminal c.st.label = false → AllRes aw0 c)
  | failed (e : Exc) (hf : FailD fn e t0 c)
  | over (hterm : terminal c.st.label = true) (ht : c.trace = t0)

theorem Bar.of_unresA {fn aw0 t0 aw} {c : Cfg} (h : UnresA fn aw t0 c) (hf : PreF aw0 aw c) : Bar fn aw0 t0 c := by
  cases h with
  | waiting wf hst he ht => exact .pre wf aw hst he ht hf
  | over hterm ht => exact .over hterm ht

theorem bar_init {fn wf : Nat} {aw0 : List (Nat × Nat)} (c : Cfg) (hst : c.st = .waiting fn wf none aw0)
    (he : c.wfs[wf]? = some .pending ∨ ∃ k, c.wfs[wf]? = some (.interrupted k)) : Bar fn aw0 c.trace c :=
  .pre wf aw0 hst he rfl ⟨fun _ h => h, fun _ _ h => Or.inl h⟩

theorem deliver_pre {fn : Nat} {aw0 : List (Nat × Nat)} {t0 : List Act} (c : Cfg) (v : Option Val) (wf : Nat)
    (hst : c.st = .waiting fn wf none [])
    (he : c.wfs[wf]? = some .pending ∨ ∃ k, c.wfs[wf]? = some (.interrupted k)) (ht : c.trace = t0)
    (hf : PreF aw0 [] c) : Bar fn aw0 t0 (deliver c (.result v)) := by
  obtain ⟨wk', h1, h2, h3⟩ := deliver_unres c fn wf [] (.result v) hst he
  exact .res v (.held wf wk' [] h1 h2 (h3.trans ht))
    (fun _ _ f k hk => (hf.allRes f k hk).mono (.of_off (deliver_off c _)))

theorem awaitableDone_pre {fn : Nat} {aw0 : List (Nat × Nat)} {t0 : List Act} (c : Cfg) (g key : Nat) (o : EFut)
    (wf : Nat) (aw : List (Nat × Nat)) (hst : c.st = .waiting fn wf none aw)
    (he : c.wfs[wf]? = some .pending ∨ ∃ k, c.wfs[wf]? = some (.interrupted k)) (ht : c.trace = t0)
    (hf : PreF aw0 aw c) (hnd : DistinctF aw) (hfind : aw.find? (·.1 = g) = some (g, key))
    (ho : c.efs[g]? = some o) (hne : o ≠ .pending) : Bar fn aw0 t0 (awaitableDone c g) := by
  have hpm : (g, key) ∈ aw := List.mem_of_find?_eq_some hfind
  cases o with
  | pending => exact absurd rfl hne
  | exc e => exact .failed e (awaitableDone_exc_held c g key e wf aw hst he ht hfind ho)
  | result v =>
    -- the new facts: `(g, key)` is done, everything else is as before
    have hf' : PreF aw0 (aw.filter (·.1 ≠ g))
        { c with st := .waiting fn wf none (aw.filter (·.1 ≠ g)), ctx := (key, v) :: c.ctx.filter (·.1 ≠ key) } := by
      refine ⟨fun p hp => hf.sub p (List.mem_filter.mp hp).1, ?_⟩
      have hnew : ∃ f' v', (f', key) ∈ aw0 ∧ c.efs[f']? = some (EFut.result v') ∧
          (key, v') ∈ (key, v) :: c.ctx.filter (·.1 ≠ key) :=
        ⟨g, v, hf.sub _ hpm, ho, List.mem_cons_self⟩
      intro f k hk
      rcases hf.done f k hk with hin | hdone
      · by_cases hfg : f = g
        · subst hfg
          have : k = key := mem_unique_of_nodup aw hnd f key k hpm hin
          subst this
          exact Or.inr ⟨⟨v, ho⟩, hnew⟩
        · exact Or.inl (List.mem_filter.mpr ⟨hin, by simpa using hfg⟩)
      · right
        obtain ⟨hv0, f', v', h1, h2, h3⟩ := hdone
        refine ⟨hv0, ?_⟩
        by_cases hkk : k = key
        · subst hkk; exact hnew
        · exact ⟨f', v', h1, h2, List.mem_cons_of_mem _ (List.mem_filter.mpr ⟨h3, by simpa using hkk⟩)⟩
    cases hrest : (aw.filter (·.1 ≠ g)).isEmpty with
    | false =>
      rw [awaitableDone_res_more c fn wf none aw g key v hst hfind ho hrest]
      exact .pre wf _ rfl he ht hf'
    | true =>
      rw [awaitableDone_res_last c fn wf none aw g key v hst hfind ho hrest]
      rw [List.isEmpty_iff.mp hrest] at hf' ⊢
      exact deliver_pre _ none wf rfl he ht hf'

theorem adone_pre {fn : Nat} {aw0 : List (Nat × Nat)} {t0 : List Act} (c : Cfg) (g : Nat) (hR : Reach c)
    (wf : Nat) (aw : List (Nat × Nat)) (hst : c.st = .waiting fn wf none aw)
    (he : c.wfs[wf]? = some .pending ∨ ∃ k, c.wfs[wf]? = some (.interrupted k)) (ht : c.trace = t0)
    (hf : PreF aw0 aw c) : Bar fn aw0 t0 (tickCb c (.adone g)) := by
  by_cases hmem : Cb.adone g ∈ c.ready
  · have hnd : DistinctF aw := by have := hR.g.nd; rw [hst] at this; exact this
    -- `g` is awaited, and done
    have hpos : 0 < aw.countP (·.1 = g) := by
      have h1 := hR.g.ns (by rw [hst]; rfl) g
      rw [hst] at h1
      have h2 : 0 < c.ready.count (Cb.adone g) := List.count_pos_iff.mpr hmem
      have h1' : c.ready.count (Cb.adone g) + c.efCb.count g ≤ aw.countP (·.1 = g) := h1
      omega
    obtain ⟨⟨g', key⟩, ha, hag⟩ := List.countP_pos_iff.mp hpos
    have : g' = g := by simpa using hag
    subst this
    obtain ⟨o, ho, hne⟩ := hR.g.rd g' hmem
    rw [tickCb_adone c g' hmem]
    exact awaitableDone_pre { c with ready := c.ready.erase (Cb.adone g') } g' key o wf aw hst he ht
      (hf.mono (.of_off (Off.set c .ready _))) hnd (find?_of_mem_nodup aw hnd g' key ha) ho hne
  · rw [tickCb_noop c _ hmem]; exact .pre wf aw hst he ht hf

theorem adone_exc_held {fn : Nat} (c : Cfg) (f k : Nat) (e : Exc) (hR : Reach c)
    (wf : Nat) (aw : List (Nat × Nat)) (hst : c.st = .waiting fn wf none aw)
    (he : c.wfs[wf]? = some .pending ∨ ∃ j, c.wfs[wf]? = some (.interrupted j))
    (hin : (f, k) ∈ aw) (hexc : c.efs[f]? = some (.exc e)) (hsched : Cb.adone f ∈ c.ready) :
    FailD fn e c.trace (tickCb c (.adone f)) := by
  have hnd : DistinctF aw := by have := hR.g.nd; rw [hst] at this; exact this
  rw [tickCb_adone c f hsched]
  exact awaitableDone_exc_held _ f k e wf aw hst he rfl (find?_of_mem_nodup aw hnd f k hin) hexc

theorem step_pre {fn : Nat} {aw0 : List (Nat × Nat)} {t0 : List Act} (P : Prog) (c : Cfg) (ev : Ev)
    (hR : Reach c) (hok : evOk c ev = true)
    (wf : Nat) (aw : List (Nat × Nat)) (hst : c.st = .waiting fn wf none aw)
    (he : c.wfs[wf]? = some .pending ∨ ∃ k, c.wfs[wf]? = some (.interrupted k)) (ht : c.trace = t0)
    (hf : PreF aw0 aw c) : Bar fn aw0 t0 (step P c ev).1 := by
  have hU : UnresA fn aw t0 c := .waiting wf hst he ht
  by_cases hna : ∃ g, ev = .tickCb (.adone g)
  · obtain ⟨g, rfl⟩ := hna
    exact adone_pre c g hR wf aw hst he ht hf
  · have hf' : PreF aw0 aw (step P c ev).1 := hf.mono (step_stable P c ev (fun g h => hna ⟨g, h⟩))
    rcases step_cases P c ev with (rfl | h | ⟨v, rfl⟩) | q | ⟨a, b⟩
    · exact .of_unresA (tickStepper_unresA P c hR.coh hU) hf'
    · exact absurd h hna
    · have hnil : aw = [] := by
        have : (awOf c.st).isEmpty = true := hok
        rw [hst] at this
        exact List.isEmpty_iff.mp this
      subst hnil
      rw [show (step P c (.resume v)).1 = deliver c (.result v) from resume_eq_deliver c v]
      exact deliver_pre c v wf hst he ht hf
    · exact .of_unresA (hU.quiet q) hf'
    · exact .over a (b.trans ht)

theorem holds_awOf_nil {c : Cfg} {fn wf : Nat} {wk : Option WF} {aw : List (Nat × Nat)} {v : Option Val} (hB : InvB c)
    (hst : c.st = .waiting fn wf wk aw) (hh : Holds c wf wk v) : aw = [] :=
  barrier_of_invB hB hst (hh.imp (⟨v, ·⟩) fun g => ⟨v, g.2⟩)

theorem deliv_no_adone {fn : Nat} {v : Option Val} {t0 : List Act} {c : Cfg} (hR : Reach c) (hd : Deliv fn v t0 c)
    (ht : c.trace = t0) (hl : terminal c.st.label = false) (g : Nat) : Cb.adone g ∉ c.ready := by
  apply no_adone_ready hR.g hl
  cases hd with
  | held wf wk aw hst hh _ => rw [hst, holds_awOf_nil hR.invB hst hh]; rfl
  | ready hst _ _ => rw [hst]; rfl
  | over hterm _ => rw [hl] at hterm; cases hterm
  | done extra ht' =>
    rw [ht] at ht'
    have := congrArg List.length ht'
    simp at this; omega

theorem step_res {fn : Nat} {aw0 : List (Nat × Nat)} {t0 : List Act} (P : Prog) (c : Cfg) (ev : Ev)
    (hR : Reach c) (v : Option Val) (hd : Deliv fn v t0 c)
    (hall : c.trace = t0 → terminal c.st.label = false → AllRes aw0 c) :
    (step P c ev).1.trace = t0 → terminal (step P c ev).1.st.label = false → AllRes aw0 (step P c ev).1 := by
  intro ht' hl'
  -- nothing had been activated before, and the process was live
  have hl : terminal c.st.label = false := by
    cases h : terminal c.st.label with
    | false => rfl
    | true => rw [(step_terminal P c ev h).1, h] at hl'; cases hl'
  have ht : c.trace = t0 := by
    obtain ⟨x, hx⟩ := ((trext_closed c).step P c ev (.rfl' c)).ext
    cases hd with
    | held _ _ _ _ _ ht => exact ht
    | ready _ _ ht => exact ht
    | over _ ht => exact ht
    | done extra hte =>
      rw [ht', hte] at hx
      have := congrArg List.length hx
      simp at this; omega
  have hA := hall ht hl
  by_cases hna : ∃ g, ev = .tickCb (.adone g)
  · obtain ⟨g, rfl⟩ := hna
    simp only [step]
    rw [tickCb_noop c _ (deliv_no_adone hR hd ht hl g)]; exact hA
  · exact fun f k hk => (hA f k hk).mono (step_stable P c ev (fun g hg => hna ⟨g, hg⟩))

theorem step_bar {fn : Nat} {aw0 : List (Nat × Nat)} {t0 : List Act} (P : Prog) (hP : AwDistinct P) (c : Cfg) (ev : Ev)
    (hR : Reach c) (hok : evOk c ev = true) (h : Bar fn aw0 t0 c) : Bar fn aw0 t0 (step P c ev).1 := by
  cases h with
  | pre wf aw hst he ht hf => exact step_pre P c ev hR hok wf aw hst he ht hf
  | res v hd hall => exact .res v (step_deliv P c ev hR.coh hd) (step_res P c ev hR v hd hall)
  | failed e hf => exact .failed e (step_faild P c ev hR.coh hf)
  | over hterm ht =>
    exact .over (by rw [(step_terminal P c ev hterm).1]; exact hterm) ((step_terminal P c ev hterm).2.trans ht)

/-- an event that logs an activation while none had been logged since the wait began: the wait had been completed with a
result, and every awaitable of the wait is in the context -/
theorem bar_activation {fn : Nat} {aw0 : List (Nat × Nat)} {t0 : List Act} (P : Prog) (hP : AwDistinct P) (c : Cfg) (ev : Ev)
    (hR : Reach c) (hok : evOk c ev = true) (h : Bar fn aw0 t0 c) (ht : c.trace = t0)
    (hact : (step P c ev).1.trace ≠ c.trace) :
    ∃ v extra, (step P c ev).1.trace = extra ++ actOf fn v :: t0 ∧ AllRes aw0 c := by
  cases h with
  | pre wf aw hst he ht' hf =>
    -- the stepping task finds the wait pending; no other event activates anything
    refine absurd ?_ hact
    by_cases hnt : ev = .tick
    · subst hnt; exact (tickStepper_unresA P c hR.coh (.waiting wf hst he rfl)).trace
    · exact step_trace_of_ne_tick P c ev hnt
  | failed e hf => exact absurd ((step_faild P c ev hR.coh hf).trace.trans ht.symm) hact
  | over hterm _ => exact absurd (step_terminal P c ev hterm).2 hact
  | res v hd hall =>
    have hl : terminal c.st.label = false := by
      cases h : terminal c.st.label with
      | false => rfl
      | true => exact absurd (step_terminal P c ev h).2 hact
    have hd' := step_deliv P c ev hR.coh hd
    cases hd' with
    | held _ _ _ _ _ ht' => exact absurd (ht'.trans ht.symm) hact
    | ready _ _ ht' => exact absurd (ht'.trans ht.symm) hact
    | over _ ht' => exact absurd (ht'.trans ht.symm) hact
    | done extra ht' => exact ⟨v, extra, ht', hall ht hl⟩

theorem run_bar {fn : Nat} {aw0 : List (Nat × Nat)} {t0 : List Act} (P : Prog) (hP : AwDistinct P) (c0 : Cfg)
    (evs : List Ev) (hR : Reach c0) (hf : histFuelOk P c0 evs = true) (hok : histOk P c0 evs = true)
    (h : Bar fn aw0 t0 c0) : Bar fn aw0 t0 (run P c0 evs) :=
  (run_reach_with P hP (fun c e hR hok h => step_bar P hP c e hR hok h) c0 evs hR hf hok h).2

theorem run_faild {fn : Nat} {e : Exc} {t0 : List Act} (P : Prog) (c0 : Cfg) (evs : List Ev) (hC : Coh c0)
    (hf : histFuelOk P c0 evs = true) (h : FailD fn e t0 c0) : FailD fn e t0 (run P c0 evs) :=
  (run_coh_with P c0 evs (fun c e _ => step_faild P c e) hC hf h).2

end PMF.B10
