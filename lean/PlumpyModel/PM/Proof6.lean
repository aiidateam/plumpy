import PlumpyModel.PM.Closed
/-!
# Outcome agreement invariant (C02)

`Inv2` relates the state label, the process future, the closed flag, the cleanup counter and the terminal notifications.
What it reads is written by a transition, by `cancelFut` and (the state object only, its label and outcome staying) by
the updates of a WAITING state; `inv2_closed` lists the leaf updates of the model, `StepClosed` does the rest.
-/
namespace PMF

def isTermNotif : Notif → Bool
  | .finished => true | .excepted => true | .killed => true | _ => false
def termCount (l : List Notif) : Nat := (l.filter isTermNotif).length

/-- what the future must hold for a terminal state object -/
def outcomeOf : SObj → Option PFut
  | .finished _ _ => some .result
  | .killed => some (.exc .killedErr)
  | .excepted e => some (.exc e)
  | _ => none

structure Inv2 (c : Cfg) : Prop where
  live : terminal c.st.label = false →
    (c.fut = .pending ∨ c.fut = .cancelled) ∧ c.closed = false ∧ c.cleanups = 0 ∧ termCount c.notif = 0
  term : terminal c.st.label = true →
    c.closed = true ∧ c.cleanups = 1 ∧ termCount c.notif = 1 ∧ outcomeOf c.st = some c.fut

def Same2 (c c' : Cfg) : Prop :=
  c'.st.label = c.st.label ∧ outcomeOf c'.st = outcomeOf c.st ∧ c'.fut = c.fut ∧ c'.closed = c.closed ∧
  c'.cleanups = c.cleanups ∧ termCount c'.notif = termCount c.notif

theorem Same2.rfl' (c : Cfg) : Same2 c c := ⟨rfl, rfl, rfl, rfl, rfl, rfl⟩
theorem Same2.trans {a b c : Cfg} (h1 : Same2 a b) (h2 : Same2 b c) : Same2 a c :=
  ⟨h2.1.trans h1.1, h2.2.1.trans h1.2.1, h2.2.2.1.trans h1.2.2.1, h2.2.2.2.1.trans h1.2.2.2.1,
   h2.2.2.2.2.1.trans h1.2.2.2.2.1, h2.2.2.2.2.2.trans h1.2.2.2.2.2⟩
theorem Inv2.same2 {c c' : Cfg} (h : Inv2 c) (s : Same2 c c') : Inv2 c' := by
  obtain ⟨s1, s2, s3, s4, s5, s6⟩ := s
  constructor
  · intro hl; rw [s1] at hl; rw [s3, s4, s5, s6]; exact h.live hl
  · intro ht; rw [s1] at ht; rw [s2, s3, s4, s5, s6]; exact h.term ht

theorem inv2_init (nf : Nat) : Inv2 (init nf) := by
  constructor
  · intro _; simp [init, termCount]
  · intro h; simp [init, SObj.label, terminal, allowed] at h

theorem Same2.of_off {W : List Fld} {c c' : Cfg} (o : Off W c c')
    (hW : ∀ f ∈ [Fld.st, .fut, .closed, .cleanups, .notif], f ∉ W := by decide) : Same2 c c' :=
  have hst := o.st (hW _ (by decide))
  ⟨congrArg SObj.label hst, congrArg outcomeOf hst, o.fut (hW _ (by decide)), o.closed (hW _ (by decide)),
   o.cleanups (hW _ (by decide)), congrArg termCount (o.notif (hW _ (by decide)))⟩

theorem Inv2.off {W : List Fld} {c c' : Cfg} (h : Inv2 c) (o : Off W c c')
    (hW : ∀ f ∈ [Fld.st, .fut, .closed, .cleanups, .notif], f ∉ W := by decide) : Inv2 c' := h.same2 (.of_off o hW)

theorem termCount_cons (n : Notif) (l : List Notif) :
    termCount (n :: l) = (if isTermNotif n then 1 else 0) + termCount l := by
  unfold termCount
  cases h : isTermNotif n <;> simp [List.filter, h] <;> omega

/-- the notification `paused` is not a terminal one -/
theorem doPauseHooks_same2 (c : Cfg) : Same2 c (doPauseHooks c) := ⟨rfl, rfl, rfl, rfl, rfl, rfl⟩

/-- a delivery may park the outcome in the WAITING state object -/
theorem deliver_same2 (c : Cfg) (o) : Same2 c (deliver c o) :=
  deliver_elim c o (Same2.rfl' c) (fun _ _ _ _ _ _ => ⟨rfl, rfl, rfl, rfl, rfl, rfl⟩)
    fun _ _ _ _ hst _ => ⟨by rw [hst]; rfl, by rw [hst]; rfl, rfl, rfl, rfl, rfl⟩

theorem resume_same2 (c : Cfg) (v : Option Val) : Same2 c (resume c v).1 := resume_eq_deliver c v ▸ deliver_same2 c _

theorem awaitableDone_same2 (c : Cfg) (f : Nat) : Same2 c (awaitableDone c f) :=
  awaitableDone_elim c f (Same2.rfl' c) (fun _ _ _ h => h.trans ⟨rfl, rfl, rfl, rfl, rfl, rfl⟩)
    (fun _ _ _ _ _ hst _ => ⟨by simp [hst, SObj.label], by simp [hst, outcomeOf], rfl, rfl, rfl, rfl⟩)
    fun d o _ h => h.trans (deliver_same2 d o)

theorem rearm_same2 (c : Cfg) (wf : Nat) : Same2 c (L.rearm c wf) :=
  L.rearm_elim c wf (Same2.rfl' c) fun _ _ _ hst => ⟨by simp [hst, SObj.label], by simp [hst, outcomeOf], rfl, rfl, rfl, rfl⟩

/-- the notification `played` is not a terminal one -/
theorem play_same2 (c : Cfg) : Same2 c (play c).1 :=
  have hn : termCount (.played :: c.notif) = termCount c.notif := by simp [termCount_cons, isTermNotif]
  play_elim c (fun _ _ => Same2.rfl' c) (fun i _ _ => .of_off ((cancelAction_off c i).trans (Off.set _ .pausing none)))
    (fun _ _ _ => ⟨rfl, rfl, rfl, rfl, rfl, hn⟩) fun _ _ _ => ⟨rfl, rfl, rfl, rfl, rfl, hn⟩

/-- the facts `Inv2` asserts of a live configuration, without reference to the state object -/
def LiveF (c : Cfg) : Prop :=
  (c.fut = .pending ∨ c.fut = .cancelled) ∧ c.closed = false ∧ c.cleanups = 0 ∧ termCount c.notif = 0

theorem LiveF.same2 {c c' : Cfg} (h : LiveF c) (s : Same2 c c') : LiveF c' := by
  obtain ⟨_, _, s3, s4, s5, s6⟩ := s
  unfold LiveF; rw [s3, s4, s5, s6]; exact h

theorem onTerminated_fields (d : Cfg) (hc : d.closed = false) : (onTerminated d).st = d.st ∧ (onTerminated d).fut = d.fut ∧
    (onTerminated d).closed = true ∧ (onTerminated d).cleanups = d.cleanups + 1 ∧ (onTerminated d).notif = d.notif := by
  have o := onTerminated_off d
  have r := releasePause_off d
  have hcl : (onTerminated d).closed = true ∧ (onTerminated d).cleanups = (releasePause d).cleanups + 1 := by
    unfold onTerminated onClose; rw [if_neg (by rw [r.closed, hc]; decide)]; exact ⟨rfl, rfl⟩
  exact ⟨o.st, o.fut, hcl.1, hcl.2.trans (congrArg (· + 1) r.cleanups), o.notif⟩

theorem enteredHooks_fields (d : Cfg) (s : SObj) : (enteredHooks d s).st = d.st ∧ (enteredHooks d s).fut = d.fut ∧
    (enteredHooks d s).closed = d.closed ∧ (enteredHooks d s).cleanups = d.cleanups ∧
    termCount (enteredHooks d s).notif = (if terminal s.label then 1 else 0) + termCount d.notif := by
  rw [enteredHooks_eq]
  cases s <;> simp [enteredNotif, SObj.label, termCount_cons, isTermNotif, terminal, allowed]

theorem enter_terminal (d : Cfg) (s : SObj) (hterm : terminal s.label = true) (hf : outcomeOf s = some d.fut)
    (hc : d.closed = false) (hcl : d.cleanups = 0) (hn : termCount d.notif = 0) :
    Inv2 (onTerminated (enteredHooks (setState d s) s)) := by
  obtain ⟨e1, e2, e3, e4, e5⟩ := enteredHooks_fields (setState d s) s
  have hc' : (enteredHooks (setState d s) s).closed = false := by rw [e3]; exact hc
  obtain ⟨t1, t2, t3, t4, t5⟩ := onTerminated_fields _ hc'
  have hst : (onTerminated (enteredHooks (setState d s) s)).st = s := by rw [t1, e1]; rfl
  constructor
  · intro hl; rw [hst, hterm] at hl; cases hl
  · intro _
    refine ⟨t3, ?_, ?_, ?_⟩
    · rw [t4, e4]; simp [setState, hcl]
    · rw [t5, e5, hterm]; simp [setState, hn]
    · rw [hst, t2, e2]; simpa [setState] using hf

theorem setFutExc_fields (c : Cfg) (e : Exc) : (setFutExc c e).fut = .exc e ∧ (setFutExc c e).closed = c.closed ∧
    (setFutExc c e).cleanups = c.cleanups ∧ (setFutExc c e).notif = c.notif ∧ (setFutExc c e).st = c.st := by
  have o := setFutExc_off c e
  exact ⟨rfl, o.closed, o.cleanups, o.notif, o.st⟩

/-- the base implementations of `on_run / on_wait / on_finish / on_kill / on_except` on a process whose future is unresolved -/
theorem enteringHooks_w (c : Cfg) (s : SObj) (hf : c.fut = .pending ∨ c.fut = .cancelled) :
    ∃ c2, enteringHooks c s = .ok c2 ∧ c2.closed = c.closed ∧ c2.cleanups = c.cleanups ∧
      (terminal s.label = true → outcomeOf s = some c2.fut) ∧
      (terminal s.label = false → (c2.fut = .pending ∨ c2.fut = .cancelled)) := by
  have hp : (freshFutIfCancelled c).fut = .pending := by
    unfold freshFutIfCancelled futCancelled; rcases hf with h | h <;> simp [h]
  have key : ∃ c2, enteringHooks c s = .ok c2 ∧ (terminal s.label = true → outcomeOf s = some c2.fut) ∧
      (terminal s.label = false → (c2.fut = .pending ∨ c2.fut = .cancelled)) := by
    unfold enteringHooks
    cases s with
    | finished v okk => simp only [hp, if_true]; exact ⟨_, rfl, fun _ => rfl, fun ht => nomatch ht⟩
    | killed => simp only [hp, if_true]; exact ⟨_, rfl, fun _ => rfl, fun ht => nomatch ht⟩
    | excepted e => exact ⟨_, rfl, fun _ => congrArg some (setFutExc_fields c e).1.symm, fun ht => nomatch ht⟩
    | created fn => exact ⟨_, rfl, (fun ht => nomatch ht), fun _ => hf⟩
    | running fn a k => exact ⟨_, rfl, (fun ht => nomatch ht), fun _ => hf⟩
    | waiting fn wf wk aw => exact ⟨_, rfl, (fun ht => nomatch ht), fun _ => hf⟩
  obtain ⟨c2, hok, h3, h4⟩ := key
  exact ⟨c2, hok, (enteringHooks_off c hok).closed, (enteringHooks_off c hok).cleanups, h3, h4⟩

/-- the future is resolved, the state object not yet assigned -/
def Ready2 (s' : SObj) (c : Cfg) : Prop :=
  c.closed = false ∧ c.cleanups = 0 ∧ termCount c.notif = 0 ∧ (terminal s'.label = true → outcomeOf s' = some c.fut) ∧
    (terminal s'.label = false → (c.fut = .pending ∨ c.fut = .cancelled))

theorem enteringHooks_ok (c c2 : Cfg) (s : SObj) (h : enteringHooks c s = .ok c2) (hl : LiveF c) : Ready2 s c2 := by
  obtain ⟨c2', h', g1, g2, g3, g4⟩ := enteringHooks_w c s hl.1
  cases h.symm.trans h'
  exact ⟨g1.trans hl.2.1, g2.trans hl.2.2.1, by rw [(enteringHooks_off c h).notif]; exact hl.2.2.2, g3, g4⟩

theorem enterNext_inv2 (d : Cfg) (s : SObj) (r : Ready2 s d) : Inv2 (enterNext d s) := by
  obtain ⟨hc, hcl, hn, hft, hfl⟩ := r
  unfold enterNext
  obtain ⟨_, _, s3, s4, s5, s6⟩ := Same2.of_off (enterState_off d s)
  dsimp only
  split
  · rename_i ht
    have ht' : terminal s.label = true := by simpa using ht
    exact enter_terminal (enterState d s) s ht' (by rw [s3]; exact hft ht') (by rw [s4]; exact hc)
      (by rw [s5]; exact hcl) (by rw [s6]; exact hn)
  · rename_i ht
    have ht' : terminal s.label = false := by simpa using ht
    obtain ⟨e1, e2, e3, e4, e5⟩ := enteredHooks_fields (setState (enterState d s) s) s
    have hst : (enteredHooks (setState (enterState d s) s) s).st = s := by rw [e1]; rfl
    constructor
    · intro _
      refine ⟨?_, ?_, ?_, ?_⟩
      · rw [e2]; show (enterState d s).fut = _ ∨ (enterState d s).fut = _; rw [s3]; exact hfl ht'
      · rw [e3]; show (enterState d s).closed = false; rw [s4]; exact hc
      · rw [e4]; show (enterState d s).cleanups = 0; rw [s5]; exact hcl
      · rw [e5, ht']; show 0 + termCount (enterState d s).notif = 0; rw [s6, hn]
    · intro hl; rw [hst, ht'] at hl; cases hl

theorem Ready2.same2 {s' : SObj} {c c' : Cfg} (r : Ready2 s' c) (k : Same2 c c') : Ready2 s' c' := by
  obtain ⟨_, _, s3, s4, s5, s6⟩ := k
  unfold Ready2; rw [s3, s4, s5, s6]; exact r

/-- until the ENTERING hooks have run nothing `Inv2` looks at has changed -/
theorem inv2_phases (c₀ : Cfg) (s : SObj) (h : Inv2 c₀) (hl : terminal c₀.st.label = false) :
    Phases c₀ s (Same2 c₀) (Same2 c₀) Ready2 Inv2 :=
  have hlive : LiveF c₀ := h.live hl
  have exc : ∀ c e, Same2 c₀ c → Ready2 (.excepted e) (setFutExc c e) := fun c e a =>
    have ⟨_, hc, hcl, hn⟩ := hlive.same2 a
    have ⟨f1, f2, f3, f4, _⟩ := setFutExc_fields c e
    ⟨f2.trans hc, f3.trans hcl, by rw [f4]; exact hn, fun _ => by rw [f1]; rfl, fun ht => nomatch ht⟩
  { start := .rfl' _
    opn := fun c a => (hlive.same2 a).2.1
    exit := fun c a => a.trans (.of_off (exitState_off c))
    again := fun _ b => b
    entering := fun _ c c2 b hok => enteringHooks_ok c c2 s hok (hlive.same2 b)
    failed := fun _ c e b => exc c e b
    refused := fun _ e => exc c₀ e (.rfl' _)
    enter := fun s' c r => enterNext_inv2 c s' r }

theorem transitionTo_inv2 (c : Cfg) (s : SObj) (h : Inv2 c) (hl : terminal c.st.label = false) :
    Inv2 (transitionTo c s) :=
  (inv2_phases c s h hl).transitionTo

theorem cancelFut_inv2 (c : Cfg) (h : Inv2 c) : Inv2 (cancelFut c).1 := by
  unfold cancelFut; split
  · rename_i hp
    -- the future is pending, hence the process is live (a terminal process has its outcome in the future)
    have hl : terminal c.st.label = false := by
      cases ht : terminal c.st.label with
      | false => rfl
      | true =>
        have := (h.term ht).2.2.2
        rw [hp] at this
        cases hs : c.st <;> simp [hs, outcomeOf] at this
    obtain ⟨_, l2, l3, l4⟩ := h.live hl
    constructor
    · intro _; exact ⟨Or.inr rfl, l2, l3, l4⟩
    · intro ht; rw [show terminal c.st.label = false from hl] at ht; cases ht
  · exact h

theorem inv2_closed : StepClosed Inv2 where
  ctl o h := h.off o
  trans c s hl h := transitionTo_inv2 c s h hl
  paused c h := h.same2 (doPauseHooks_same2 c)
  played c h := h.same2 (play_same2 c)
  interrupted c k h := h.off (interruptState_off c k)
  activate _ _ _ _ _ _ h := h.same2 ⟨rfl, rfl, rfl, rfl, rfl, rfl⟩
  alloc c cmd h := h.off (cmdToState_off c cmd)
  rearmG _ _ _ _ _ hst h := h.same2 ⟨by simp [hst, SObj.label], by simp [hst, outcomeOf], rfl, rfl, rfl, rfl⟩
  deliver c o h := h.same2 (deliver_same2 c o)
  adone c f h := h.same2 (awaitableDone_same2 c f)
  complete c f o h := h.off (complete_off c f o)
  cancelFut c h := cancelFut_inv2 c h
  unsched c _ _ h := h.off (Off.set c .ready _)
  sched c _ h := h.off (Off.set c .ready _)

end PMF
