import PlumpyModel.PM.Proof6
import PlumpyModel.PM.Proof9
/-!
# The invariant linking the stepping coroutine to the state object (C02: step_until_terminated() returns)

`Inv10` holds in every reachable configuration (`run_inv10`):

* the stepping task never crashes (`pc ≠ crashed _`);
* `pc = awaitWaiting wf` ⇒ `wf` is a valid index and either the current state is the WAITING state owning `wf`
  or `wfs[wf]` is no longer pending;
* `pc = awaitPaused pf` ⇒ `pf` is valid and it is the current pause future or it is released; if moreover the process
  has terminated, the current pause future is released;
* indices are valid (`paused`, the future of a WAITING state), the futures lists only grow and only get completed
  (`MonoW`, `MonoP`);
* the interrupt action is never one that already ran (`IA`), and no interrupt action is installed and no step is in
  flight while the coroutine sits at the loop head or on the pause future (`qi`, `qs`).

Two frame relations, `TR` (coroutine and action table untouched, the future heaps may grow) and `AR` (only the action
table and the interrupt action touched), hold of any update whose write set avoids their fields.  What the invariant asks
depends on where the coroutine stands: `Inv10` between two callbacks of the event loop, `StepIn` inside a step before its
closing part, `Tick` at the head of the loop inside a wake-up; `inv10_taskB` hands the three to the traversal of the stepping
task (`PM/Task.lean`) for every layer of the model, the twins of `Fault/Process.lean` included, given the layer's closing part
(`endOfStep_tick` here); through `runAction / dispatch` the coroutine part with `Hq` is closed under the guarded leaves of
`PM/Closed.lean` (`inv10_closing`).
-/
namespace PMF

def MonoW (l l' : List WF) : Prop :=
  l.length ≤ l'.length ∧ ∀ (j : Nat) (w : WF), l[j]? = some w → w ≠ WF.pending → l'[j]? = some w
def MonoP (l l' : List Bool) : Prop :=
  l.length ≤ l'.length ∧ ∀ (j : Nat), l[j]? = some true → l'[j]? = some true

theorem MonoW.rfl' (l : List WF) : MonoW l l := ⟨Nat.le_refl _, fun _ _ h _ => h⟩
theorem MonoW.trans {a b c : List WF} (h1 : MonoW a b) (h2 : MonoW b c) : MonoW a c :=
  ⟨Nat.le_trans h1.1 h2.1, fun j w h hn => h2.2 j w (h1.2 j w h hn) hn⟩
theorem MonoW.of_eq {a b : List WF} (h : b = a) : MonoW a b := by subst h; exact MonoW.rfl' _
theorem MonoP.rfl' (l : List Bool) : MonoP l l := ⟨Nat.le_refl _, fun _ h => h⟩
theorem MonoP.trans {a b c : List Bool} (h1 : MonoP a b) (h2 : MonoP b c) : MonoP a c :=
  ⟨Nat.le_trans h1.1 h2.1, fun j h => h2.2 j (h1.2 j h)⟩
theorem MonoP.of_eq {a b : List Bool} (h : b = a) : MonoP a b := by subst h; exact MonoP.rfl' _

theorem MonoW.set_pending {l : List WF} {i : Nat} (h : l[i]? = some .pending) (o : WF) : MonoW l (setAt l i o) := by
  refine ⟨by simp [setAt], ?_⟩
  intro j w hj hn
  by_cases hij : i = j
  · subst hij; rw [h] at hj; cases hj; exact absurd rfl hn
  · simpa [setAt, List.getElem?_set, hij] using hj

theorem MonoW.append (l : List WF) (x : WF) : MonoW l (l ++ [x]) := by
  refine ⟨by simp, ?_⟩
  intro j w hj _
  have hlt : j < l.length := (List.getElem?_eq_some_iff.mp hj).1
  rw [List.getElem?_append_left hlt]; exact hj

theorem MonoP.set_true (l : List Bool) (i : Nat) : MonoP l (setAt l i true) := by
  refine ⟨by simp [setAt], ?_⟩
  intro j hj
  have hlt : j < l.length := (List.getElem?_eq_some_iff.mp hj).1
  by_cases hij : i = j
  · subst hij; simp [setAt, hlt]
  · simpa [setAt, List.getElem?_set, hij] using hj

theorem MonoP.append (l : List Bool) (x : Bool) : MonoP l (l ++ [x]) := by
  refine ⟨by simp, ?_⟩
  intro j hj
  have hlt : j < l.length := (List.getElem?_eq_some_iff.mp hj).1
  rw [List.getElem?_append_left hlt]; exact hj

theorem MonoW.nonpending {l l' : List WF} (h : MonoW l l') {j : Nat} (hlt : j < l.length) (hn : l[j]? ≠ some .pending) :
    l'[j]? ≠ some .pending := by
  have hj : l[j]? = some l[j] := List.getElem?_eq_getElem hlt
  have hne : l[j] ≠ .pending := by intro h; rw [h] at hj; exact hn hj
  rw [h.2 j _ hj hne]; intro h'; exact hne (Option.some.inj h')

structure TR (c c' : Cfg) : Prop where
  pc : c'.pc = c.pc
  interrupt : c'.interrupt = c.interrupt
  actions : c'.actions = c.actions
  stepping : c'.stepping = c.stepping
  paused : c'.paused = c.paused
  wfs : MonoW c.wfs c'.wfs
  pfs : MonoP c.pfs c'.pfs

theorem TR.rfl' (c : Cfg) : TR c c := ⟨rfl, rfl, rfl, rfl, rfl, MonoW.rfl' _, MonoP.rfl' _⟩
theorem TR.trans {a b c : Cfg} (h1 : TR a b) (h2 : TR b c) : TR a c :=
  ⟨h2.pc.trans h1.pc, h2.interrupt.trans h1.interrupt, h2.actions.trans h1.actions, h2.stepping.trans h1.stepping,
   h2.paused.trans h1.paused, h1.wfs.trans h2.wfs, h1.pfs.trans h2.pfs⟩
theorem TR.of_eq {c c' : Cfg} (h1 : c'.pc = c.pc) (h2 : c'.interrupt = c.interrupt) (h3 : c'.actions = c.actions)
    (h4 : c'.stepping = c.stepping) (h5 : c'.paused = c.paused) (h6 : c'.wfs = c.wfs) (h7 : c'.pfs = c.pfs) : TR c c' :=
  ⟨h1, h2, h3, h4, h5, MonoW.of_eq h6, MonoP.of_eq h7⟩

theorem TR.of_off {W : List Fld} {c c' : Cfg} (o : Off W c c')
    (hW : ∀ f ∈ [Fld.pc, .interrupt, .actions, .stepping, .paused, .wfs, .pfs], f ∉ W := by decide) : TR c c' :=
  ⟨o.pc (hW _ (by decide)), o.interrupt (hW _ (by decide)), o.actions (hW _ (by decide)),
   o.stepping (hW _ (by decide)), o.paused (hW _ (by decide)), .of_eq (o.wfs (hW _ (by decide))),
   .of_eq (o.pfs (hW _ (by decide)))⟩

theorem TR.of_off' {W : List Fld} {c c' : Cfg} (o : Off W c c') (hw : MonoW c.wfs c'.wfs) (hp : MonoP c.pfs c'.pfs)
    (hW : ∀ f ∈ [Fld.pc, .interrupt, .actions, .stepping, .paused], f ∉ W := by decide) : TR c c' :=
  ⟨o.pc (hW _ (by decide)), o.interrupt (hW _ (by decide)), o.actions (hW _ (by decide)),
   o.stepping (hW _ (by decide)), o.paused (hW _ (by decide)), hw, hp⟩

def StW (c c' : Cfg) : Prop :=
  c'.st = c.st ∨ ∃ fn wf wk aw wk' aw', c.st = .waiting fn wf wk aw ∧ c'.st = .waiting fn wf wk' aw'

theorem StW.rfl' (c : Cfg) : StW c c := Or.inl rfl
theorem StW.trans {a b c : Cfg} (h1 : StW a b) (h2 : StW b c) : StW a c := by
  rcases h1 with h1 | ⟨fn, wf, wk, aw, wk', aw', ha, hb⟩
  · rcases h2 with h2 | ⟨fn, wf, wk, aw, wk', aw', hb, hc⟩
    · exact Or.inl (h2.trans h1)
    · exact Or.inr ⟨fn, wf, wk, aw, wk', aw', by rw [← h1]; exact hb, hc⟩
  · rcases h2 with h2 | ⟨fn2, wf2, wk2, aw2, wk2', aw2', hb2, hc⟩
    · exact Or.inr ⟨fn, wf, wk, aw, wk', aw', ha, by rw [h2]; exact hb⟩
    · rw [hb] at hb2; cases hb2
      exact Or.inr ⟨fn, wf, wk, aw, wk2', aw2', ha, hc⟩
theorem StW.label {c c' : Cfg} (h : StW c c') : c'.st.label = c.st.label := by
  rcases h with h | ⟨fn, wf, wk, aw, wk', aw', ha, hb⟩
  · rw [h]
  · rw [ha, hb]; rfl

structure AR (c c' : Cfg) : Prop where
  pc : c'.pc = c.pc
  st : c'.st = c.st
  wfs : c'.wfs = c.wfs
  pfs : c'.pfs = c.pfs
  paused : c'.paused = c.paused
  stepping : c'.stepping = c.stepping
  closed : c'.closed = c.closed

theorem AR.trans {a b c : Cfg} (h1 : AR a b) (h2 : AR b c) : AR a c :=
  ⟨h2.pc.trans h1.pc, h2.st.trans h1.st, h2.wfs.trans h1.wfs, h2.pfs.trans h1.pfs, h2.paused.trans h1.paused,
   h2.stepping.trans h1.stepping, h2.closed.trans h1.closed⟩

theorem AR.of_off {W : List Fld} {c c' : Cfg} (o : Off W c c')
    (hW : ∀ f ∈ [Fld.pc, .st, .wfs, .pfs, .paused, .stepping, .closed], f ∉ W := by decide) : AR c c' :=
  ⟨o.pc (hW _ (by decide)), o.st (hW _ (by decide)), o.wfs (hW _ (by decide)),
   o.pfs (hW _ (by decide)), o.paused (hW _ (by decide)), o.stepping (hW _ (by decide)),
   o.closed (hW _ (by decide))⟩

/-- the stepper awaiting waiting-future `wf` will be woken: the current state still owns `wf`, or `wf` is completed -/
def WOk (c : Cfg) (wf : Nat) : Prop :=
  wf < c.wfs.length ∧ ((∃ fn wk aw, c.st = .waiting fn wf wk aw) ∨ c.wfs[wf]? ≠ some .pending)
def PV (c : Cfg) : Prop := ∀ pf, c.paused = some pf → pf < c.pfs.length
def WV (c : Cfg) : Prop := ∀ fn wf wk aw, c.st = .waiting fn wf wk aw → wf < c.wfs.length
def RelT (c : Cfg) : Prop := terminal c.st.label = true → ∀ pf, c.paused = some pf → c.pfs[pf]? = some true
/-- (during a wake-up of the stepper) the pause future it was awaiting has been released -/
def Hq (c : Cfg) : Prop := ∀ pf, c.pc = .awaitPaused pf → c.pfs[pf]? = some true

/-- the part of the invariant about the coroutine, the state object and the future heaps -/
structure InvS (c : Cfg) : Prop where
  nocrash : ∀ e, c.pc ≠ .crashed e
  aw : ∀ wf, c.pc = .awaitWaiting wf → WOk c wf
  ap : ∀ pf, c.pc = .awaitPaused pf → pf < c.pfs.length ∧ (c.paused = some pf ∨ c.pfs[pf]? = some true)
  pv : PV c
  wv : WV c
  tp : ∀ pf, c.pc = .awaitPaused pf → RelT c

/-- `InvS` without "on a terminated process the current pause future is released", which a transition re-establishes only at its
very end, in `on_terminated`: the part of `InvS` that every update keeps which leaves the coroutine alone and lets the future
heaps grow (`InvM.tr`).  The lemmas about `InvS` are those about `InvM` plus that field. -/
structure FP.InvM (c : Cfg) : Prop where
  nocrash : ∀ e, c.pc ≠ .crashed e
  aw : ∀ wf, c.pc = .awaitWaiting wf → WOk c wf
  ap : ∀ pf, c.pc = .awaitPaused pf → pf < c.pfs.length ∧ (c.paused = some pf ∨ c.pfs[pf]? = some true)
  pv : PV c
  wv : WV c

theorem FP.InvM.of_s {c : Cfg} (h : InvS c) : FP.InvM c := ⟨h.nocrash, h.aw, h.ap, h.pv, h.wv⟩
theorem FP.InvM.to_s {c : Cfg} (h : FP.InvM c) (ht : ∀ pf, c.pc = .awaitPaused pf → RelT c) : InvS c :=
  ⟨h.nocrash, h.aw, h.ap, h.pv, h.wv, ht⟩

def IA (c : Cfg) : Prop :=
  ∀ i a, c.interrupt = some i → c.actions[i]? = some a → a.status = .pending ∨ a.status = .cancelled

/-- the coroutine is at the head of the loop or blocked on the pause future -/
def Quiet (c : Cfg) : Prop := c.pc = .notStarted ∨ ∃ pf, c.pc = .awaitPaused pf

structure Inv10 (c : Cfg) : Prop where
  s : InvS c
  ia : IA c
  qi : Quiet c → c.interrupt = none
  qs : Quiet c → c.stepping = false

theorem PV.tr {c c' : Cfg} (h : PV c) (r : TR c c') : PV c' := by
  intro pf hp; rw [r.paused] at hp; exact Nat.lt_of_lt_of_le (h pf hp) r.pfs.1

theorem Hq.tr {c c' : Cfg} (h : Hq c) (r : TR c c') : Hq c' := by
  intro pf hp; rw [r.pc] at hp; exact r.pfs.2 pf (h pf hp)

/-- the future heap grows; what is left to show is that a wait still owned by the current state stays owned or gets completed -/
theorem WOk.of_mono {c c' : Cfg} {wf : Nat} (h : WOk c wf) (hw : MonoW c.wfs c'.wfs)
    (own : ∀ fn wk aw, c.st = .waiting fn wf wk aw → (∃ fn wk aw, c'.st = .waiting fn wf wk aw) ∨ c'.wfs[wf]? ≠ some .pending) :
    WOk c' wf :=
  ⟨Nat.lt_of_lt_of_le h.1 hw.1, h.2.elim (fun ⟨fn, wk, aw, hst⟩ => own fn wk aw hst) fun hn => Or.inr (hw.nonpending h.1 hn)⟩

theorem WOk.tr {c c' : Cfg} {wf : Nat} (h : WOk c wf) (r : TR c c') (hs : StW c c') : WOk c' wf :=
  h.of_mono r.wfs fun fn wk aw hst => by
    rcases hs with hs | ⟨fn2, wf2, wk2, aw2, wk', aw', ha, hb⟩
    · exact Or.inl ⟨fn, wk, aw, by rw [hs]; exact hst⟩
    · rw [hst] at ha; cases ha
      exact Or.inl ⟨fn, wk', aw', hb⟩

theorem WV.tr {c c' : Cfg} (h : WV c) (r : TR c c') (hs : StW c c') : WV c' := by
  intro fn wf wk aw hst
  rcases hs with hs | ⟨fn2, wf2, wk2, aw2, wk', aw', ha, hb⟩
  · rw [hs] at hst; exact Nat.lt_of_lt_of_le (h fn wf wk aw hst) r.wfs.1
  · rw [hb] at hst; cases hst
    exact Nat.lt_of_lt_of_le (h _ _ _ _ ha) r.wfs.1

theorem RelT.tr {c c' : Cfg} (h : RelT c) (r : TR c c') (hs : StW c c') : RelT c' := by
  intro ht pf hp
  rw [hs.label] at ht; rw [r.paused] at hp
  exact r.pfs.2 pf (h ht pf hp)

/-- the pause futures grow; what is left to show is that the current pause future stays the current one or is released -/
theorem apOk_mono {c c' : Cfg} {pf : Nat} (h : pf < c.pfs.length ∧ (c.paused = some pf ∨ c.pfs[pf]? = some true))
    (hp : MonoP c.pfs c'.pfs) (own : c.paused = some pf → c'.paused = some pf ∨ c'.pfs[pf]? = some true) :
    pf < c'.pfs.length ∧ (c'.paused = some pf ∨ c'.pfs[pf]? = some true) :=
  ⟨Nat.lt_of_lt_of_le h.1 hp.1, h.2.elim own fun h2 => Or.inr (hp.2 pf h2)⟩

theorem FP.InvM.of_tr {c c' : Cfg} (h : FP.InvM c) (r : TR c c') (haw : ∀ wf, c.pc = .awaitWaiting wf → WOk c' wf)
    (hwv : WV c') : FP.InvM c' := by
  refine ⟨?_, ?_, ?_, h.pv.tr r, hwv⟩
  · intro e; rw [r.pc]; exact h.nocrash e
  · intro wf hp; rw [r.pc] at hp; exact haw wf hp
  · intro pf hp; rw [r.pc] at hp
    exact apOk_mono (h.ap pf hp) r.pfs fun h2 => Or.inl (r.paused.trans h2)

theorem FP.InvM.tr {c c' : Cfg} (h : FP.InvM c) (r : TR c c') (hs : StW c c') : FP.InvM c' :=
  h.of_tr r (fun wf hp => (h.aw wf hp).tr r hs) (h.wv.tr r hs)

theorem InvS.of_tr {c c' : Cfg} (h : InvS c) (r : TR c c') (haw : ∀ wf, c.pc = .awaitWaiting wf → WOk c' wf) (hwv : WV c')
    (htp : ∀ pf, c.pc = .awaitPaused pf → RelT c') : InvS c' :=
  ((FP.InvM.of_s h).of_tr r haw hwv).to_s fun pf hp => htp pf (r.pc ▸ hp)

theorem InvS.tr {c c' : Cfg} (h : InvS c) (r : TR c c') (hs : StW c c') : InvS c' :=
  h.of_tr r (fun wf hp => (h.aw wf hp).tr r hs) (h.wv.tr r hs) (fun pf hp => (h.tp pf hp).tr r hs)

theorem FP.InvM.of_eq {c c' : Cfg} (h : FP.InvM c) (r1 : c'.pc = c.pc) (r2 : c'.st = c.st) (r3 : c'.wfs = c.wfs)
    (r4 : c'.pfs = c.pfs) (r5 : c'.paused = c.paused) : FP.InvM c' := by
  refine ⟨?_, ?_, ?_, ?_, ?_⟩
  · intro e; rw [r1]; exact h.nocrash e
  · intro wf hp; rw [r1] at hp; unfold WOk; rw [r2, r3]; exact h.aw wf hp
  · intro pf hp; rw [r1] at hp; rw [r4, r5]; exact h.ap pf hp
  · unfold PV; rw [r4, r5]; exact h.pv
  · unfold WV; rw [r2, r3]; exact h.wv

theorem FP.InvM.off {W : List Fld} {c c' : Cfg} (h : FP.InvM c) (o : Off W c c')
    (hW : ∀ f ∈ [Fld.pc, .st, .wfs, .paused, .pfs], f ∉ W := by decide) : FP.InvM c' :=
  h.of_eq (o.pc (hW _ (by decide))) (o.st (hW _ (by decide))) (o.wfs (hW _ (by decide))) (o.pfs (hW _ (by decide)))
    (o.paused (hW _ (by decide)))

theorem InvS.of_eq {c c' : Cfg} (h : InvS c) (r1 : c'.pc = c.pc) (r2 : c'.st = c.st) (r3 : c'.wfs = c.wfs)
    (r4 : c'.pfs = c.pfs) (r5 : c'.paused = c.paused) : InvS c' :=
  ((FP.InvM.of_s h).of_eq r1 r2 r3 r4 r5).to_s fun pf hp => by
    rw [r1] at hp; unfold RelT; rw [r2, r4, r5]; exact h.tp pf hp

theorem InvS.ar {c c' : Cfg} (h : InvS c) (r : AR c c') : InvS c' := h.of_eq r.pc r.st r.wfs r.pfs r.paused

theorem Hq.ar {c c' : Cfg} (h : Hq c) (r : AR c c') : Hq c' := by
  intro pf hp; rw [r.pc] at hp; rw [r.pfs]; exact h pf hp

theorem IA.of_eq {c c' : Cfg} (h : IA c) (h1 : c'.interrupt = c.interrupt) (h2 : c'.actions = c.actions) : IA c' := by
  unfold IA; rw [h1, h2]; exact h

theorem IA.of_none {c : Cfg} (h : c.interrupt = none) : IA c := by
  intro i a hi; rw [h] at hi; cases hi

theorem Quiet.of_pc {c c' : Cfg} (h : c'.pc = c.pc) (q : Quiet c') : Quiet c := by unfold Quiet at *; rw [h] at q; exact q

theorem Inv10.of_eq {c c' : Cfg} (h : Inv10 c) (hs : InvS c') (hia : IA c') (h1 : c'.pc = c.pc)
    (h2 : c'.interrupt = c.interrupt) (h3 : c'.stepping = c.stepping) : Inv10 c' :=
  ⟨hs, hia, fun q => h2.trans (h.qi (q.of_pc h1)), fun q => h3.trans (h.qs (q.of_pc h1))⟩

theorem Inv10.of_tr {c c' : Cfg} (h : Inv10 c) (r : TR c c') (hs : InvS c') : Inv10 c' :=
  h.of_eq hs (h.ia.of_eq r.interrupt r.actions) r.pc r.interrupt r.stepping

theorem Inv10.tr {c c' : Cfg} (h : Inv10 c) (r : TR c c') (hs : StW c c') : Inv10 c' := h.of_tr r (h.s.tr r hs)

theorem Inv10.same {c c' : Cfg} (h : Inv10 c) (h1 : c'.pc = c.pc) (h2 : c'.interrupt = c.interrupt)
    (h3 : c'.actions = c.actions) (h4 : c'.stepping = c.stepping) (h5 : c'.paused = c.paused) (h6 : c'.wfs = c.wfs)
    (h7 : c'.pfs = c.pfs) (h8 : c'.st = c.st) : Inv10 c' :=
  h.tr (TR.of_eq h1 h2 h3 h4 h5 h6 h7) (Or.inl h8)

theorem Inv10.of_busy {c : Cfg} (hs : InvS c) (hia : IA c) (hb : ¬ Quiet c) : Inv10 c :=
  ⟨hs, hia, fun q => absurd q hb, fun q => absurd q hb⟩

theorem inv10_init (nf : Nat) : Inv10 (init nf) := by
  refine ⟨⟨?_, ?_, ?_, ?_, ?_, ?_⟩, ?_, ?_, ?_⟩
  · intro e h; simp [init] at h
  · intro wf h; simp [init] at h
  · intro pf h; simp [init] at h
  · intro pf h; simp [init] at h
  · intro fn wf wk aw h; simp [init] at h
  · intro pf h; simp [init] at h
  · exact IA.of_none rfl
  · intro _; rfl
  · intro _; rfl


theorem setActionStatus_get (c : Cfg) (j : Nat) (s : AStatus) (i : Nat) (a' : Action)
    (h : (setActionStatus c j s).actions[i]? = some a') :
    ∃ a, c.actions[i]? = some a ∧ (a'.status = a.status ∨ a'.status = s) := by
  rw [setActionStatus_get?] at h
  split at h
  · cases ha : c.actions[i]? with
    | none => rw [ha] at h; cases h
    | some a => rw [ha] at h; cases h; exact ⟨a, rfl, Or.inr rfl⟩
  · exact ⟨a', h, Or.inl rfl⟩

theorem cancelAction_get (c : Cfg) (j : Nat) (i : Nat) (a' : Action) (h : (cancelAction c j).actions[i]? = some a') :
    ∃ a, c.actions[i]? = some a ∧ (a'.status = a.status ∨ a'.status = .cancelled) := by
  unfold cancelAction at h
  split at h
  · exact setActionStatus_get c j .cancelled i a' h
  · exact ⟨a', h, Or.inl rfl⟩

theorem cancelAction_ia (c : Cfg) (j : Nat) (h : IA c) : IA (cancelAction c j) := by
  intro i a' hi ha'
  rw [(cancelAction_off c j).interrupt] at hi
  obtain ⟨a, ha, hs⟩ := cancelAction_get c j i a' ha'
  rcases hs with hs | hs
  · rw [hs]; exact h i a hi ha
  · exact Or.inr hs

theorem setInterruptFromExc_ia (c : Cfg) (k n) : IA (setInterruptFromExc c k n) := by
  intro i a hi ha
  unfold setInterruptFromExc at hi ha
  simp only at hi ha
  cases hi
  simp at ha
  left; rw [← ha]

theorem exitState_tr (c : Cfg) : TR c (exitState c) := by
  refine .of_off' (exitState_off c) ?_ (.of_eq (exitState_off c).pfs)
  exact exitState_elim (Q := fun d => MonoW c.wfs d.wfs) c (fun _ => MonoW.rfl' _) (fun _ _ _ _ _ hp => MonoW.set_pending hp _)
    fun _ _ _ _ _ _ => MonoW.rfl' _

theorem releasePause_tr (c : Cfg) : TR c (releasePause c) := by
  refine .of_off' (releasePause_off c) (.of_eq (releasePause_off c).wfs) ?_
  unfold releasePause; split
  · split
    · exact MonoP.set_true _ _
    · exact MonoP.rfl' _
  · exact MonoP.rfl' _

theorem onTerminated_tr (c : Cfg) : TR c (onTerminated c) := (releasePause_tr c).trans (.of_off (onClose_off _))

theorem enterNext_tr (c : Cfg) (s : SObj) : TR c (enterNext c s) := by
  unfold enterNext
  have h : TR c _ := .of_off ((enterState_off c s).trans ((setState_off _ s).trans (enteredHooks_off _ s)))
  dsimp only
  split
  · exact h.trans (onTerminated_tr _)
  · exact h

theorem transitionTo_tr_exit (c : Cfg) (s : SObj) (hin : s.label ∈ allowed c.st.label) :
    TR (exitState c) (transitionTo c s) :=
  transitionTo_elim (Q := TR (exitState c)) c s
    (fun _ d s' he => by
      cases he with
      | refused _ hn => exact absurd hin hn
      | _ => exact .of_eq rfl rfl rfl rfl rfl rfl rfl)
    fun _ d s' c2 he hok => by
      cases he with
      | refused _ hn => exact absurd hin hn
      | _ => exact (TR.of_off (enteringHooks_off _ hok)).trans (enterNext_tr c2 _)

theorem Enters.tr {c d : Cfg} {s s' : SObj} (he : Enters c s d s') : TR c d := by
  cases he <;> first | exact exitState_tr c | exact TR.rfl' c

theorem transitionTo_tr (c : Cfg) (s : SObj) : TR c (transitionTo c s) :=
  transitionTo_elim (Q := TR c) c s (fun _ d s' he => he.tr.trans (.of_eq rfl rfl rfl rfl rfl rfl rfl))
    fun _ d s' c2 he hok => (he.tr.trans (.of_off (enteringHooks_off _ hok))).trans (enterNext_tr c2 s')

def TargetOk (c : Cfg) (s : SObj) : Prop :=
  s.label ≠ .created ∧ ∀ fn wf wk aw, s = .waiting fn wf wk aw → wf < c.wfs.length

theorem targetOk_excepted (c : Cfg) (e : Exc) : TargetOk c (.excepted e) :=
  ⟨by simp [SObj.label], by intro _ _ _ _ h; cases h⟩
theorem targetOk_killed (c : Cfg) : TargetOk c .killed :=
  ⟨by simp [SObj.label], by intro _ _ _ _ h; cases h⟩
theorem targetOk_running (c : Cfg) (fn a k) : TargetOk c (.running fn a k) :=
  ⟨by simp [SObj.label], by intro _ _ _ _ h; cases h⟩

theorem allowed_of_waiting {s : SObj} (hs : s.label ≠ .created) : s.label ∈ allowed .waiting := by
  cases s <;> simp_all [SObj.label, allowed]

/-- repair J as an invariant step: a stepper awaiting `wf` stays wake-able across any transition -/
theorem transitionTo_wok (c : Cfg) (s : SObj) (wf : Nat) (hs : s.label ≠ .created) (h : WOk c wf) :
    WOk (transitionTo c s) wf :=
  h.of_mono (transitionTo_tr c s).wfs fun fn wk aw hst => Or.inr <| by
    have hin : s.label ∈ allowed c.st.label := by rw [hst]; exact allowed_of_waiting hs
    have r2 := transitionTo_tr_exit c s hin
    obtain ⟨w, hw, hne⟩ := exitState_completes_wait c fn wf wk aw hst (by rw [List.getElem?_eq_getElem h.1]; rfl)
    rw [r2.wfs.2 wf w hw hne]; intro h'; exact hne (Option.some.inj h')

/-- repair G as an invariant step: after `on_terminated` the current pause future is released -/
theorem onTerminated_rel (d : Cfg) (hpv : PV d) :
    ∀ pf, (onTerminated d).paused = some pf → (onTerminated d).pfs[pf]? = some true := by
  intro pf hp
  have hp' : d.paused = some pf := by rw [← (onTerminated_off d).paused]; exact hp
  exact onTerminated_releases_pause d pf hp (by rw [List.getElem?_eq_getElem (hpv pf hp')]; rfl)

theorem enterNext_relT (d : Cfg) (s : SObj) (hpv : PV d) : RelT (enterNext d s) := by
  intro ht
  rw [enterNext_st] at ht
  unfold enterNext
  dsimp only
  rw [if_pos ht]
  apply onTerminated_rel
  exact hpv.tr (.of_off ((enterState_off d s).trans ((setState_off _ s).trans (enteredHooks_off _ s))))

theorem transitionTo_relT (c : Cfg) (s : SObj) (hc : c.closed = false) (hpv : PV c) : RelT (transitionTo c s) :=
  transitionTo_elim c s (fun h => absurd hc (by rw [h]; exact Bool.noConfusion)) fun _ d s' c2 he hok =>
    enterNext_relT c2 s' (hpv.tr (he.tr.trans (.of_off (enteringHooks_off _ hok))))

theorem transitionTo_wv (c : Cfg) (s : SObj) (hs : TargetOk c s) : WV (transitionTo c s) := by
  intro fn wf wk aw hst
  have r := transitionTo_tr c s
  rcases H6.transitionTo_res c s with ⟨e, h⟩ | ⟨h, -⟩
  · rw [h] at hst; cases hst
  · rw [h] at hst; exact Nat.lt_of_lt_of_le (hs.2 fn wf wk aw hst) r.wfs.1

theorem transitionTo_invS (c : Cfg) (s : SObj) (h : InvS c) (hc : c.closed = false) (hs : TargetOk c s) :
    InvS (transitionTo c s) :=
  h.of_tr (transitionTo_tr c s) (fun wf hp => transitionTo_wok c s wf hs.1 (h.aw wf hp)) (transitionTo_wv c s hs)
    (fun _ _ => transitionTo_relT c s hc h.pv)

theorem transitionTo_inv10 (c : Cfg) (s : SObj) (h : Inv10 c) (hc : c.closed = false) (hs : TargetOk c s) :
    Inv10 (transitionTo c s) :=
  h.of_tr (transitionTo_tr c s) (transitionTo_invS c s h.s hc hs)

theorem FP.doPauseHooks_invM (c : Cfg) (h : FP.InvM c) (hq : Hq c) : FP.InvM (doPauseHooks c) := by
  refine ⟨h.nocrash, h.aw, ?_, ?_, h.wv⟩
  · intro pf hp
    exact apOk_mono (h.ap pf hp) (MonoP.append c.pfs false) fun _ => Or.inr ((MonoP.append c.pfs false).2 pf (hq pf hp))
  · intro pf hp
    have h1 : some c.pfs.length = some pf := hp
    cases h1
    show c.pfs.length < (c.pfs ++ [false]).length
    simp

theorem doPauseHooks_invS (c : Cfg) (h : InvS c) (hq : Hq c)
    (hl : ∀ pf, c.pc = .awaitPaused pf → terminal c.st.label = false) : InvS (doPauseHooks c) :=
  (FP.doPauseHooks_invM c (.of_s h) hq).to_s fun pf hp ht => by
    have ht' : terminal c.st.label = true := ht
    rw [hl pf hp] at ht'; cases ht'

theorem doPauseHooks_hq (c : Cfg) (hq : Hq c) : Hq (doPauseHooks c) := by
  intro pf hp
  exact (MonoP.append c.pfs false).2 pf (hq pf hp)

/-- the guard of the action the closing part runs (`ClosingG`, `PM/Closed.lean`): it has not run yet, and a task woken from the
pause wait runs one only without a next state (so that it never enacts a pause with a terminal next state) -/
def RunOk (c : Cfg) (i : Nat) (next : Option SObj) : Prop :=
  (∀ a, c.actions[i]? = some a → a.status = .pending) ∧ ((∃ pf, c.pc = .awaitPaused pf) → next = none)

theorem RunOk.of_ia {c : Cfg} {next : Option SObj} (hia : IA c)
    (hn : (∃ pf, c.pc = .awaitPaused pf) → c.interrupt = none ∨ next = none) {i : Nat} (hi : c.interrupt = some i)
    (hnc : actionStatus c i ≠ .cancelled) : RunOk c i next :=
  ⟨fun a ha => (hia i a hi ha).resolve_right fun hp => hnc (by simp [actionStatus, ha, hp]),
   fun hx => (hn hx).resolve_left (by rw [hi]; nofun)⟩

theorem closing_store {D : Cfg → Prop} (hD : BodyClosed D) {c c' : Cfg} (o : Off [.actions, .killing] c c')
    (h : InvS c ∧ Hq c ∧ D c) : InvS c' ∧ Hq c' ∧ D c' :=
  ⟨h.1.ar (.of_off o), h.2.1.ar (.of_off o), hD.off o h.2.2⟩

/-- **the linking invariant through `runAction / dispatch`**, for any side invariant `D` that says a live process is not closed:
`Hq` (the pause future the task was blocked on is released) goes along -/
theorem inv10_closing {D : Cfg → Prop} (hD : BodyClosed D) (live : ∀ c, D c → terminal c.st.label = false → c.closed = false) :
    ClosingG (fun c => InvS c ∧ Hq c ∧ D c) (fun _ c => InvS c ∧ Hq c ∧ D c) TargetOk RunOk :=
  have trans : ∀ c s, terminal c.st.label = false → TargetOk c s → InvS c ∧ Hq c ∧ D c →
      InvS (transitionTo c s) ∧ Hq (transitionTo c s) ∧ D (transitionTo c s) := fun c s hl hT h =>
    ⟨transitionTo_invS c s h.1 (live c h.2.2 hl) hT, h.2.1.tr (transitionTo_tr c s), hD.trans c s hl h.2.2⟩
  { done := fun d i h => closing_store hD ((setActionStatus_off d i .done).mono (by decide)) h
    rerun := fun c i a next hM ha hne _ => absurd (hM.1 a ha) hne
    trans := fun c s hl _ hT h => trans c s hl hT h
    kill := fun c _ _ hl _ h => closing_store hD (Off.setIn _ .killing none) (trans c .killed hl (targetOk_killed c) h)
    pauseNone := fun c _ _ hl _ _ _ h => ⟨doPauseHooks_invS c h.1 h.2.1 (fun _ _ => hl), doPauseHooks_hq c h.2.1, hD.paused c h.2.2⟩
    pauseNext := fun c _ _ s hl hM _ _ hT h =>
      have t1 := trans c s hl hT h
      ⟨doPauseHooks_invS _ t1.1 t1.2.1 (fun pf hpf => nomatch hM.2 ⟨pf, (transitionTo_tr c s).pc ▸ hpf⟩),
        doPauseHooks_hq _ t1.2.1, hD.paused _ t1.2.2⟩ }

theorem prepare_ia (c : Cfg) (r : StepEnd) (h : IA c) : IA (prepare c r).1 :=
  prepare_elim (Q := fun p => IA p.1) c r (fun _ => IA.of_none (setInterrupt_interrupt ..)) (fun _ _ => h) (fun _ _ _ _ => h)
    fun _ _ _ => setInterruptFromExc_ia _ _ _

/-- an interrupt action found by a wake-up from the pause (none was installed) is run without a next state -/
theorem prepare_hn (c : Cfg) (r : StepEnd) (hqi : c.interrupt = none) :
    (prepare c r).1.interrupt = none ∨ (prepare c r).2 = none :=
  prepare_elim (Q := fun p => p.1.interrupt = none ∨ p.2 = none) c r (fun _ => Or.inl (setInterrupt_interrupt ..))
    (fun _ _ => Or.inl hqi) (fun _ _ _ _ => Or.inr rfl) fun _ _ _ => Or.inr rfl

theorem prepare_hn_pc (c : Cfg) (r : StepEnd) (hqi : (∃ pf, c.pc = .awaitPaused pf) → c.interrupt = none)
    (hq : ∃ pf, (prepare c r).1.pc = .awaitPaused pf) : (prepare c r).1.interrupt = none ∨ (prepare c r).2 = none :=
  prepare_hn c r (hqi ((prepare_off c r).pc ▸ hq))

theorem prepare_target (c : Cfg) (r : StepEnd) (hr : ∀ s, r = .next (some s) → TargetOk c s) :
    ∀ s, (prepare c r).2 = some s → TargetOk (prepare c r).1 s := by
  intro s hs
  rcases prepare_some c r s hs with ⟨g, hc⟩ | ⟨e, rfl⟩
  · rw [hc]; exact hr s g
  · exact targetOk_excepted _ e

theorem finally_invS (c : Cfg) (h : InvS c) : InvS (finally_ c) := by
  have o := finally_off c
  exact h.of_eq o.pc o.st o.wfs o.pfs o.paused
theorem finally_hq (c : Cfg) (h : Hq c) : Hq (finally_ c) := by
  have h0 : Hq { c with stepping := false } := h
  exact h0.ar (.of_off (setInterrupt_off _ none))

/-- what the closing part of a step starts from: the coroutine invariant, the pause future the task was blocked on (if any) is
released, the interrupt action has not run, and a task woken from the pause wait finds none.  `D` is whatever the layer
carries to know that a live process is not closed (`Inv2` here, `Inv` with listeners) -/
structure StepIn (D : Cfg → Prop) (c : Cfg) : Prop where
  s : InvS c
  q : Hq c
  d : D c
  ia : IA c
  qi : (∃ pf, c.pc = .awaitPaused pf) → c.interrupt = none

/-- what holds at the head of `step_until_terminated`'s loop inside a wake-up of the stepping task: the coroutine
invariant, the pause future the task was blocked on (if any) is released, no interrupt action, no step in flight -/
structure Tick (D : Cfg → Prop) (c : Cfg) : Prop where
  s : InvS c
  q : Hq c
  d : D c
  int : c.interrupt = none
  stp : c.stepping = false

theorem endOfStep_tick (c : Cfg) (r : StepEnd) (h : StepIn Inv2 c) (hr : ∀ s, r = .next (some s) → TargetOk c s) :
    Tick Inv2 (endOfStep c r) := by
  have a : AR c (prepare c r).1 := .of_off (prepare_off c r)
  have d := (inv10_closing inv2_closed.toBodyClosed fun _ h hl => (h.live hl).2.1).dispatch (prepare c r).1 (prepare c r).2
    (fun i => RunOk.of_ia (prepare_ia c r h.ia) (prepare_hn_pc c r h.qi))
    (prepare_target c r hr) ⟨h.s.ar a, h.q.ar a, h.d.off (prepare_off c r)⟩
  exact ⟨finally_invS _ d.1, finally_hq _ d.2.1, inv2_closed.endOfStep c r h.d, finally_interrupt _, finally_stepping _⟩

theorem tick_inv10 {D : Cfg → Prop} {c : Cfg} (h : Tick D c) : Inv10 c :=
  ⟨h.s, IA.of_none h.int, fun _ => h.int, fun _ => h.stp⟩

theorem cmdToState_tr (c : Cfg) (cmd : Cmd) : TR c (cmdToState c cmd).1 := by
  unfold cmdToState; split
  · exact TR.rfl' c
  · exact ⟨rfl, rfl, rfl, rfl, rfl, MonoW.append _ _, MonoP.rfl' _⟩
  · exact ⟨rfl, rfl, rfl, rfl, rfl, MonoW.append _ _, MonoP.rfl' _⟩
  · exact TR.rfl' c
  · exact TR.rfl' c

theorem cmdToState_target (c : Cfg) (cmd : Cmd) : TargetOk (cmdToState c cmd).1 (cmdToState c cmd).2 := by
  unfold cmdToState; split
  · exact targetOk_running ..
  · refine ⟨by simp [SObj.label], ?_⟩
    intro fn' wf wk aw h; cases h; simp
  · refine ⟨by simp [SObj.label], ?_⟩
    intro fn' wf wk aw h; cases h; simp
  · exact ⟨by simp [SObj.label], by intro _ _ _ _ h; cases h⟩
  · exact targetOk_killed _

theorem rearm_tr (c : Cfg) (wf : Nat) : TR c (L.rearm c wf) :=
  L.rearm_elim c wf (TR.rfl' c) fun _ _ _ _ => ⟨rfl, rfl, rfl, rfl, rfl, MonoW.append _ _, MonoP.rfl' _⟩

theorem rearm_invS (c : Cfg) (wf : Nat) (h : InvS c) (k : Nat) (hw : c.wfs[wf]? = some (.interrupted k)) :
    InvS (L.rearm c wf) := by
  refine L.rearm_elim c wf h fun f wakeup aw hst => ⟨h.nocrash, ?_, h.ap, h.pv, ?_, ?_⟩
  · intro j hp
    have hj := h.aw j hp
    refine hj.of_mono (MonoW.append _ _) fun fn wk aw' hst' => Or.inr ?_
    rw [hst] at hst'; cases hst'
    show (c.wfs ++ [_])[wf]? ≠ some WF.pending
    rw [List.getElem?_append_left hj.1, hw]; intro h'; cases h'
  · intro fn' wf2 wk' aw' hst'
    cases hst'
    show c.wfs.length < (c.wfs ++ [_]).length
    simp
  · intro pf _ ht
    simp [SObj.label, terminal, allowed] at ht

/-- the program counter `p` the stepping task is about to be left with fits the configuration -/
def PcFits (c : Cfg) : Pc → Prop
  | .crashed _ => False
  | .awaitWaiting wf => WOk c wf
  | .awaitPaused pf => (pf < c.pfs.length ∧ (c.paused = some pf ∨ c.pfs[pf]? = some true)) ∧ RelT c ∧
      c.interrupt = none ∧ c.stepping = false
  | .notStarted => c.interrupt = none ∧ c.stepping = false
  | _ => True

theorem inv10_pc {c : Cfg} (s : InvS c) (ia : IA c) (p : Pc) (hp : PcFits c p) : Inv10 { c with pc := p } := by
  have quiet : p = .notStarted ∨ (∃ pf, p = .awaitPaused pf) → c.interrupt = none ∧ c.stepping = false := by
    intro q
    rcases q with h | ⟨pf, h⟩ <;> subst h
    · exact hp
    · exact hp.2.2
  exact ⟨⟨fun e (h : p = _) => by subst h; exact hp, fun wf (h : p = _) => by subst h; exact hp,
      fun pf (h : p = _) => by subst h; exact hp.1, s.pv, s.wv, fun pf (h : p = _) => by subst h; exact hp.2.1⟩,
    ia, fun q => (quiet q).1, fun q => (quiet q).2⟩

theorem inv10_setPc {X : Type} {O : Task.Ops X} {B D : X → Prop} (hB : Task.Keeps O B) (hD : Task.Keeps O D) {Q : Cfg → Prop}
    (x : X) (p : Pc) (f : Q (O.get x) → InvS (O.get x) ∧ IA (O.get x) ∧ PcFits (O.get x) p) (h : B x ∨ (Q (O.get x) ∧ D x)) :
    B (O.setPc x p) ∨ (Inv10 (O.get (O.setPc x p)) ∧ D (O.setPc x p)) :=
  h.imp (hB.setPc x p) fun ⟨h, d⟩ => by
    rw [O.get_setPc]; exact ⟨inv10_pc (f h).1 (f h).2.1 p (f h).2.2, hD.setPc x p d⟩

/-- **the linking invariant through the stepping task**, once for every carrier (`PM/Task.lean`): between two callbacks `Inv10`,
inside a step `StepIn`, at the head of the loop `Tick`, each on the `Cfg` component; beside them a side invariant `D` of the carrier
that says a live process is not closed, and around them an alternative `B` that the task keeps and the closing part may produce
(`Bad` of `Fault/Proof1.lean`; `False` where there is none).  What is asked of the layer is its closing part. -/
theorem inv10_taskB {X : Type} {O : Task.Ops X} {B D : X → Prop} (hB : Task.Keeps O B) (hD : Task.Keeps O D)
    (live : ∀ x, D x → terminal (O.get x).st.label = false → (O.get x).closed = false)
    (eos : ∀ x r, (∀ s, r = .next (some s) → TargetOk (O.get x) s) → B x ∨ (StepIn (fun _ => True) (O.get x) ∧ D x) →
      B (O.eos x r) ∨ (Tick (fun _ => True) (O.get (O.eos x r)) ∧ D (O.eos x r))) :
    Task.Hoare O TargetOk (fun _ => True) (fun x => B x ∨ (Inv10 (O.get x) ∧ D x)) (fun x => B x ∨ (StepIn (fun _ => True) (O.get x) ∧ D x))
      (fun x => B x ∨ (Tick (fun _ => True) (O.get x) ∧ D x)) where
  tgt c s h1 h2 := ⟨h2, fun fn wf wk aw e => by subst e; exact absurd rfl h1⟩
  eos := eos
  start x := Or.imp (hB.start x) fun ⟨h, d⟩ => by
    rw [O.get_start]
    exact ⟨⟨h.s.of_eq rfl rfl rfl rfl rfl, h.q, trivial, IA.of_none h.int, fun _ => h.int⟩, hD.start x d⟩
  activate x fn args kw hst hp := Or.imp (hB.activate x fn args kw hst hp) fun ⟨h, d⟩ => by
    rw [O.get_activate]
    exact ⟨⟨h.s.of_eq rfl rfl rfl rfl rfl, h.q, trivial, h.ia.of_eq rfl rfl, h.qi⟩, hD.activate x fn args kw hst hp d⟩
  alloc x cmd _ h :=
    ⟨h.imp (hB.alloc x cmd) fun ⟨h, d⟩ => by
      rw [O.get_alloc]
      have r := cmdToState_tr (O.get x) cmd
      exact ⟨⟨h.s.tr r (Or.inl (cmdToState_off _ cmd).st), h.q.tr r, trivial, h.ia.of_eq r.interrupt r.actions,
        fun ⟨pf, hpf⟩ => by rw [r.interrupt]; rw [r.pc] at hpf; exact h.qi ⟨pf, hpf⟩⟩, hD.alloc x cmd d⟩,
     by rw [O.get_alloc]; exact cmdToState_target _ cmd⟩
  rearm x wf k hw := Or.imp (hB.rearm x wf) fun ⟨h, d⟩ => by
    rw [O.get_rearm]
    have r := rearm_tr (O.get x) wf
    exact ⟨⟨rearm_invS _ wf h.s k hw, h.q.tr r, trivial, h.ia.of_eq r.interrupt r.actions,
      fun ⟨pf, hpf⟩ => by rw [r.interrupt]; rw [r.pc] at hpf; exact h.qi ⟨pf, hpf⟩⟩, hD.rearm x wf d⟩
  suspendUser x b := inv10_setPc hB hD x _ fun h => ⟨h.s, h.ia, trivial⟩
  suspendWait x fn wf wk aw hst hp := inv10_setPc hB hD x (.awaitWaiting wf) fun h =>
    ⟨h.s, h.ia, (List.getElem?_eq_some_iff.mp hp).1, Or.inl ⟨fn, wk, aw, hst⟩⟩
  stuck x fn wf wk aw hst hnone := Or.imp id fun ⟨h, _⟩ => by
    have hlt := h.s.wv _ _ _ _ hst
    rw [List.getElem?_eq_getElem hlt] at hnone; cases hnone
  stop x := Or.imp id fun ⟨h, d⟩ => ⟨tick_inv10 h, d⟩
  finish x _ := inv10_setPc hB hD x .done fun h => ⟨h.s, IA.of_none h.int, trivial⟩
  closedErr x hl hc := Or.imp (hB.setPc x _) fun ⟨_, d⟩ => by rw [live x d hl] at hc; cases hc
  park x pf hl hpa hf := inv10_setPc hB hD x (.awaitPaused pf) fun h =>
    ⟨h.s, IA.of_none h.int, ⟨h.s.pv pf hpa, Or.inl hpa⟩, fun ht => (by rw [hl] at ht; cases ht), h.int, h.stp⟩
  enterNew x hpc := Or.imp id fun ⟨h, d⟩ =>
    ⟨⟨h.s, fun pf hp => (by rw [hpc] at hp; cases hp), trivial, h.qi (Or.inl hpc), h.qs (Or.inl hpc)⟩, d⟩
  enterPaused x pf hpc htrue := Or.imp id fun ⟨h, d⟩ =>
    ⟨⟨h.s, fun pf' hp => (by rw [hpc] at hp; cases hp; exact htrue), trivial, h.qi (Or.inr ⟨pf, hpc⟩), h.qs (Or.inr ⟨pf, hpc⟩)⟩, d⟩
  repark x pf pf' hpc _ hpa _ := inv10_setPc hB hD x (.awaitPaused pf') fun h =>
    ⟨h.s, h.ia, ⟨h.s.pv pf' hpa, Or.inl hpa⟩, h.s.tp pf hpc, h.qi (Or.inr ⟨pf, hpc⟩), h.qs (Or.inr ⟨pf, hpc⟩)⟩
  enterUser x b hpc := Or.imp id fun ⟨h, d⟩ =>
    ⟨⟨h.s, fun pf hp => (by rw [hpc] at hp; cases hp), trivial, h.ia, fun ⟨pf, hp⟩ => by rw [hpc] at hp; cases hp⟩, d⟩
  countdown x b _ _ := inv10_setPc hB hD x _ fun h => ⟨h.s, h.ia, trivial⟩
  enterWait x wf w hpc _ _ := Or.imp id fun ⟨h, d⟩ =>
    ⟨⟨h.s, fun pf hp => (by rw [hpc] at hp; cases hp), trivial, h.ia, fun ⟨pf, hp⟩ => by rw [hpc] at hp; cases hp⟩, d⟩

/-- … without an alternative, the side invariant on the `Cfg` component (`PM/Model.lean`, `PM/Listener.lean`) -/
theorem inv10_tick {X : Type} {O : Task.Ops X} {D : Cfg → Prop} (hD : BodyClosed D)
    (live : ∀ c, D c → terminal c.st.label = false → c.closed = false)
    (eos : ∀ x r, (∀ s, r = .next (some s) → TargetOk (O.get x) s) → StepIn D (O.get x) → Tick D (O.get (O.eos x r)))
    (P : Prog) (x : X) (h : Inv10 (O.get x) ∧ D (O.get x)) :
    Inv10 (O.get (Task.tickStepper O P x)) ∧ D (O.get (Task.tickStepper O P x)) :=
  ((inv10_taskB (B := fun _ => False) ⟨fun _ => id, fun _ _ => id, fun _ _ _ _ _ _ => id, fun _ _ => id, fun _ _ => id⟩
    (Task.Keeps.of_body O hD) (fun x => live _) fun x r ht h => h.elim False.elim fun ⟨s, d⟩ =>
      have t := eos x r ht ⟨s.s, s.q, d, s.ia, s.qi⟩
      Or.inr ⟨⟨t.s, t.q, trivial, t.int, t.stp⟩, t.d⟩).tickStepper P (ProgCmds.true P) x (PcCmds.true _) (Or.inr h)).resolve_left id

theorem tickStepper_inv10 (P : Prog) (c : Cfg) (h : Inv10 c) (h2 : Inv2 c) : Inv10 (tickStepper P c) :=
  (Task.tickStepper_base P c ▸ inv10_tick (O := Task.base) inv2_closed.toBodyClosed (fun _ h hl => (h.live hl).2.1)
    (fun c r ht h => endOfStep_tick c r h ht) P c ⟨h, h2⟩).1

theorem Inv10.off {W : List Fld} {c c' : Cfg} (h : Inv10 c) (o : Off W c c')
    (hW : ∀ f ∈ [Fld.st, .pc, .interrupt, .actions, .stepping, .paused, .wfs, .pfs], f ∉ W := by decide) : Inv10 c' :=
  h.tr (.of_off o fun f hf => hW f (List.mem_cons_of_mem _ hf)) (Or.inl (o.st (hW _ (by decide))))

theorem interruptState_tr (c : Cfg) (k : Nat) : TR c (interruptState c k) :=
  interruptState_elim c k (TR.rfl' c) fun _ _ _ _ _ hp => ⟨rfl, rfl, rfl, rfl, rfl, MonoW.set_pending hp _, MonoP.rfl' _⟩

theorem FP.hq_of_unpaused {c : Cfg} (h : FP.InvM c) (hpa : c.paused = none) : Hq c := by
  intro pf hp
  rcases (h.ap pf hp).2 with h1 | h1
  · rw [hpa] at h1; cases h1
  · exact h1

/-- `pause()` / `kill()` during a step: a fresh pending interrupt action; the coroutine is inside the step -/
theorem requestInterrupt_inv10 (c : Cfg) (k : AKind) (h : Inv10 c) (hst : c.stepping = true) :
    Inv10 (requestInterrupt c k) := by
  have hnq : ¬ Quiet c := by intro hq; rw [h.qs hq] at hst; cases hst
  have o := requestInterrupt_off c k
  unfold requestInterrupt at o ⊢
  have i := interruptState_off (setInterruptFromExc { c with nextCookie := c.nextCookie + 1 } k c.nextCookie) c.nextCookie
  refine .of_busy ?_ ((setInterruptFromExc_ia _ _ _).of_eq i.interrupt i.actions) fun q => hnq (q.of_pc o.pc)
  exact (h.s.ar (.of_off ((Off.set c .nextCookie _).trans (setInterruptFromExc_off _ k _)))).tr (interruptState_tr _ _) (Or.inl i.st)

/-- `play()` on a paused process: the pause future is released and forgotten -/
theorem FP.invM_unpause {c d : Cfg} (h : FP.InvM c) (pf : Nat) (hpa : c.paused = some pf) (h1 : d.pc = c.pc) (h2 : d.st = c.st)
    (h3 : d.wfs = c.wfs) (h7 : d.paused = none) (h8 : MonoP c.pfs d.pfs) (h9 : d.pfs[pf]? = some true) : FP.InvM d := by
  refine ⟨?_, ?_, ?_, ?_, ?_⟩
  · intro e; rw [h1]; exact h.nocrash e
  · intro wf hp; rw [h1] at hp; unfold WOk; rw [h2, h3]; exact h.aw wf hp
  · intro p hp; rw [h1] at hp
    exact apOk_mono (h.ap p hp) h8 fun b => Or.inr (by rw [hpa] at b; cases b; exact h9)
  · intro p hp; rw [h7] at hp; cases hp
  · unfold WV; rw [h2, h3]; exact h.wv

theorem FP.play_invM (c : Cfg) (h : FP.InvM c) : FP.InvM (play c).1 :=
  play_elim c (fun _ _ => h) (fun i _ _ => h.off ((cancelAction_off c i).trans (Off.set _ .pausing none)))
    (fun pf hpa _ => FP.invM_unpause h pf hpa rfl rfl rfl rfl (MonoP.set_true _ _) (by simp [setAt, h.pv pf hpa]))
    fun pf hpa hnf => by
      have hlt := h.pv pf hpa
      have h9 : c.pfs[pf]? = some true := by
        rw [List.getElem?_eq_getElem hlt] at hnf ⊢
        cases hb : c.pfs[pf] with
        | true => rfl
        | false => rw [hb] at hnf; exact absurd rfl hnf
      exact FP.invM_unpause h pf hpa rfl rfl rfl rfl (MonoP.rfl' _) h9

theorem play_invS (c : Cfg) (h : InvS c) : InvS (play c).1 :=
  (FP.play_invM c (.of_s h)).to_s fun _ _ _ p hp => by rw [play_paused] at hp; cases hp

theorem play_inv10 (c : Cfg) (h : Inv10 c) : Inv10 (play c).1 := by
  refine h.of_eq (play_invS c h.s) ?_ (play_off c).pc (play_off c).interrupt (play_off c).stepping
  exact play_elim c (fun _ _ => h.ia) (fun i _ _ => (cancelAction_ia c i h.ia).of_eq rfl rfl) (fun _ _ _ => h.ia.of_eq rfl rfl)
    fun _ _ _ => h.ia.of_eq rfl rfl

theorem deliver_tr (c : Cfg) (o : WF) : TR c (deliver c o) :=
  deliver_elim c o (TR.rfl' c) (fun _ _ _ _ _ hp => ⟨rfl, rfl, rfl, rfl, rfl, MonoW.set_pending hp _, MonoP.rfl' _⟩)
    fun _ _ _ _ _ _ => TR.of_eq rfl rfl rfl rfl rfl rfl rfl

theorem deliver_stw (c : Cfg) (o : WF) : StW c (deliver c o) :=
  deliver_elim c o (StW.rfl' c) (fun _ _ _ _ _ _ => Or.inl rfl)
    fun fn wf aw _ hst _ => Or.inr ⟨fn, wf, none, aw, some o, aw, hst, rfl⟩

theorem resume_inv10 (c : Cfg) (v) (h : Inv10 c) : Inv10 (resume c v).1 :=
  resume_eq_deliver c v ▸ h.tr (deliver_tr ..) (deliver_stw ..)

theorem awaitableDone_inv10 (c : Cfg) (f) (h : Inv10 c) : Inv10 (awaitableDone c f) :=
  awaitableDone_elim c f h (fun d _ _ hd => hd.off (Off.set d .ctx _))
    (fun fn wf wk aw _ hst _ => h.tr (TR.of_eq rfl rfl rfl rfl rfl rfl rfl) (Or.inr ⟨fn, wf, wk, aw, wk, _, hst, rfl⟩))
    fun d o _ hd => hd.tr (deliver_tr ..) (deliver_stw ..)

/-- the leaves of the calls and of the event loop; `Inv2` goes along because a transition asks that a live process is not closed -/
theorem inv10_events : EventClosed (fun c => Inv10 c ∧ Inv2 c) fun _ _ => True :=
  have E := inv2_closed.toStepClosedG.toEvent
  have trans (c : Cfg) (s : SObj) (hl : terminal c.st.label = false) (hs : TargetOk c s) (h : Inv10 c ∧ Inv2 c) :
      Inv10 (transitionTo c s) := transitionTo_inv10 c s h.1 (h.2.live hl).2.1 hs
  { hand := fun c i h => ⟨h.1.off (hand_off c i), E.hand c i h.2⟩
    requestPause := fun c hl hs hp hk h =>
      ⟨(requestInterrupt_inv10 c .pause h.1 hs).off (Off.set _ .pausing _), E.requestPause c hl hs hp hk h.2⟩
    requestKill := fun c hl hs hk h =>
      ⟨(requestInterrupt_inv10 c .kill h.1 hs).off (Off.set _ .killing _), E.requestKill c hl hs hk h.2⟩
    pauseNow := fun c hl hs hpd hp hk h =>
      ⟨⟨doPauseHooks_invS c h.1.s (FP.hq_of_unpaused (.of_s h.1.s) hpd) (fun _ _ => hl), h.1.ia, h.1.qi, h.1.qs⟩,
        E.pauseNow c hl hs hpd hp hk h.2⟩
    killNow := fun c hl hs hk h => ⟨trans c .killed hl (targetOk_killed c) h, E.killNow c hl hs hk h.2⟩
    failNow := fun c e hl h => ⟨trans c _ hl (targetOk_excepted ..) h, E.failNow c e hl h.2⟩
    played := fun c h => ⟨play_inv10 c h.1, E.played c h.2⟩
    absorb := fun _ h => h
    setHanded := fun c v h => ⟨h.1.off (Off.set c .handed v), E.setHanded c v h.2⟩
    resume := fun c v _ h => ⟨resume_inv10 c v h.1, E.resume c v trivial h.2⟩
    adone := fun c f h => ⟨awaitableDone_inv10 c f h.1, E.adone c f h.2⟩
    complete := fun c f o h => ⟨h.1.off (complete_off c f o), E.complete c f o h.2⟩
    cancelFut := fun c h => ⟨h.1.off (cancelFut_off c), E.cancelFut c h.2⟩
    unsched := fun c cb hc h => ⟨h.1.off (Off.set c .ready _), E.unsched c cb hc h.2⟩
    sched := fun c r h => ⟨h.1.off (Off.set c .ready _), E.sched c r h.2⟩ }

theorem step_inv10 (P : Prog) (c : Cfg) (ev : Ev) (h : Inv10 c) (h2 : Inv2 c) : Inv10 (step P c ev).1 := by
  have hs := Task.EventClosed.step inv10_events P c ev
    (fun h => by rw [Task.tickStepper_base]; exact ⟨tickStepper_inv10 P c h.1 h.2, inv2_closed.tickStepper P c h.2⟩)
    (fun _ _ => trivial) ⟨h, h2⟩
  rw [Task.step_base] at hs
  exact hs.1

theorem run_inv10 (P : Prog) (c0 : Cfg) (evs : List Ev) (h2 : Inv2 c0) (h : Inv10 c0) : Inv10 (run P c0 evs) := by
  induction evs generalizing c0 with
  | nil => exact h
  | cons e es ih => exact ih _ (inv2_closed.step P c0 e h2) (step_inv10 P c0 e h h2)

theorem InvS.paused_released {c : Cfg} (h : InvS c) {pf : Nat} (hpc : c.pc = .awaitPaused pf) :
    pf < c.pfs.length ∧ (c.paused = some pf ∨ c.pfs[pf]? = some true) ∧
    (terminal c.st.label = true → c.pfs[pf]? = some true ∧ ∀ pf', c.paused = some pf' → c.pfs[pf']? = some true) :=
  ⟨(h.ap pf hpc).1, (h.ap pf hpc).2, fun ht => ⟨(h.ap pf hpc).2.elim (h.tp pf hpc ht pf) id, h.tp pf hpc ht⟩⟩

/-- the linking invariant is what `stepper_returns_gen` asks of a terminated configuration -/
theorem InvS.ticks_end (P : Prog) {c : Cfg} (h : InvS c) (ht : terminal c.st.label = true) : ∃ n, (ticks P n c).pc = .done :=
  stepper_returns_gen P c ht h.nocrash (fun pf pf' hpc hpa => h.tp pf hpc ht pf' hpa)
    (fun pf hpc => ((h.paused_released hpc).2.2 ht).1)
    fun wf hpc => by
      obtain ⟨hlt, hw⟩ := h.aw wf hpc
      rcases hw with ⟨fn, wk, aw, hst⟩ | hn
      · exact absurd hst ((not_live_of_terminal ht).2.2 fn wf wk aw)
      · exact ⟨_, List.getElem?_eq_getElem hlt, by intro hp; rw [List.getElem?_eq_getElem hlt, hp] at hn; exact hn rfl⟩

/-- **step_until_terminated() returns**: in every reachable terminated configuration, finitely many wake-ups of the
stepping task end it normally -/
theorem stepper_returns_reachable (P : Prog) (nf : Nat) (evs : List Ev)
    (ht : terminal (run P (init nf) evs).st.label = true) : ∃ n, (ticks P n (run P (init nf) evs)).pc = .done :=
  (run_inv10 P (init nf) evs (inv2_init nf) (inv10_init nf)).s.ticks_end P ht

end PMF
