import PlumpyModel.PM.LProof4
/-!
# `PMF.L` — with the empty plan every `…L` twin repeats its original (conservativity: the twins)

With no plan entry the notification function of `stepL` is `fireN 0`, which only counts.  Every `…L` twin then repeats its
original on the `Cfg` component (`Cons`), with two exceptions that need a hypothesis:

* `requestL` interrupts the state only if `_executing ∧ ¬_transitioning` where the original looks at `_stepping`;
* `runActionL` tests "retracted while transitioning" (`_pausing` cleared) after the transition of a pause action, and stores the
  result only if the action is still pending; `dispatchL` re-runs a pending action in the `while` loop.

The first is an invariant of the `L` configuration between events (`Ex`), the second an invariant of the ORIGINAL model (`PI`,
shown in `LProof15.lean`): a pending pause action in the interrupt slot is the one recorded in `_pausing`.
-/
namespace PMF

/-- the control fields a transition never writes -/
structure PF (c c' : Cfg) : Prop where
  pausing : c'.pausing = c.pausing
  interrupt : c'.interrupt = c.interrupt
  actions : c'.actions = c.actions
  stepping : c'.stepping = c.stepping

theorem PF.rfl' (c : Cfg) : PF c c := ⟨rfl, rfl, rfl, rfl⟩

theorem PF.of_off {W : List Fld} {c c' : Cfg} (o : Off W c c')
    (hW : ∀ f ∈ [Fld.pausing, .interrupt, .actions, .stepping], f ∉ W := by decide) : PF c c' :=
  ⟨o.pausing (hW _ (by decide)), o.interrupt (hW _ (by decide)), o.actions (hW _ (by decide)),
   o.stepping (hW _ (by decide))⟩

theorem transitionTo_pf (c : Cfg) (s : SObj) : PF c (transitionTo c s) := .of_off (transitionTo_off c s)

namespace L

/-- `l'` is `l` with the `Cfg` component replaced by `c'` (and the bookkeeping of the oracle — counters, `_transitioning` —
possibly changed) -/
structure Cons (l : LCfg) (c' : Cfg) (l' : LCfg) : Prop where
  c : l'.c = c'
  plan : l'.plan = l.plan
  ef : l'.entryFails = l.entryFails
  exe : l'.executing = l.executing

theorem Cons.trans {l l1 l2 : LCfg} {c1 c2 : Cfg} (h1 : Cons l c1 l1) (h2 : Cons l1 c2 l2) : Cons l c2 l2 :=
  ⟨h2.c, h2.plan.trans h1.plan, h2.ef.trans h1.ef, h2.exe.trans h1.exe⟩

theorem Cons.upd {l l1 : LCfg} {c1 : Cfg} (h : Cons l c1 l1) (f : Cfg → Cfg) : Cons l (f c1) (l1.upd f) :=
  ⟨by rw [upd_c, h.c], h.plan, h.ef, h.exe⟩

theorem Cons.of_c {l l' : LCfg} {c1 c2 : Cfg} (h : Cons l c1 l') (e : c1 = c2) : Cons l c2 l' := e ▸ h

/-- the notification function of the empty plan -/
abbrev F0 : Hook → LCfg → LCfg := fireN 0

theorem F0_cons (h : Hook) (l : LCfg) : Cons l l.c (F0 h l) := ⟨rfl, rfl, rfl, rfl⟩
theorem F0_trans (h : Hook) (l : LCfg) : (F0 h l).trans = l.trans := rfl

theorem enterNextL_cons (l : LCfg) (s : SObj) : Cons l (enterNext l.c s) (enterNextL F0 l s) := by
  rw [enterNextL_eq]
  split <;> exact ⟨rfl, rfl, rfl, rfl⟩

theorem forceExceptedL_cons (l : LCfg) (e : Exc) : Cons l (forceExcepted l.c e) (forceExceptedL F0 l e) := by
  by_cases hc : l.c.closed = true
  · unfold forceExceptedL forceExcepted
    rw [if_pos hc, if_pos hc]; exact ⟨rfl, rfl, rfl, rfl⟩
  · have hc := eq_false_of_ne_true hc
    rw [forceExceptedL_open F0 l e hc, forceExcepted_open l.c e hc]
    have h := enterNextL_cons (F0 .entering ({ l with trans := some .excepted }.upd fun c => setFutExc c e)) (.excepted e)
    exact ⟨h.c, h.plan, h.ef, h.exe⟩

theorem exitPhaseL_cons (l : LCfg) (s : SObj) (hef : l.entryFails = false) : Cons l (exitState l.c) (exitPhaseL F0 l s) := by
  unfold exitPhaseL
  have hr : retargeted ((F0 .exiting l).upd exitState) s = false := by
    unfold retargeted; split
    · exact hef
    · rfl
  simp only [hr, Bool.false_eq_true, if_false]
  exact ⟨rfl, rfl, rfl, rfl⟩

theorem transitionToL_cons (l : LCfg) (s : SObj) (hef : l.entryFails = false) :
    Cons l (transitionTo l.c s) (transitionToL F0 l s) := by
  have key : ∀ d : LCfg, Cons l (transitionTo l.c s) d → Cons l (transitionTo l.c s) { d with trans := none } :=
    fun d h => ⟨h.c, h.plan, h.ef, h.exe⟩
  unfold transitionToL
  dsimp only
  apply key
  unfold transitionTo
  by_cases hin : s.label ∈ allowed l.c.st.label
  · rw [if_pos hin, if_pos hin]
    dsimp only
    by_cases hc : l.c.closed = true
    · rw [if_pos hc, if_pos hc]; exact ⟨rfl, rfl, rfl, rfl⟩
    · rw [if_neg hc, if_neg hc]
      have hx := exitPhaseL_cons { l with trans := some s.label } s hef
      have hx' : Cons l (exitState l.c) (exitPhaseL F0 { l with trans := some s.label } s) := ⟨hx.c, hx.plan, hx.ef, hx.exe⟩
      rw [hx'.c]
      cases hh : enteringHooks (exitState l.c) s with
      | error e =>
        dsimp only
        exact hx'.trans ((forceExceptedL_cons _ e).of_c (by rw [hx'.c]))
      | ok c2 =>
        dsimp only
        have h1 : Cons l c2 (F0 .entering { exitPhaseL F0 { l with trans := some s.label } s with c := c2 }) :=
          ⟨rfl, hx'.plan, hx'.ef, hx'.exe⟩
        exact h1.trans ((enterNextL_cons _ s).of_c (by rw [h1.c]))
  · rw [if_neg hin, if_neg hin]
    have h := forceExceptedL_cons { l with trans := some s.label } (.noTransition l.c.st.label s.label)
    exact ⟨h.c, h.plan, h.ef, h.exe⟩

/-- between two events: a step in progress is executing its state (`_stepping → _executing`) -/
def Ex (l : LCfg) : Prop := l.c.stepping = true → l.executing = true

theorem requestL_eq (l : LCfg) (k : AKind) (hs : l.c.stepping = true) (hex : Ex l) (htr : l.trans = none) :
    requestL l k = requestInterrupt l.c k := by
  unfold requestL
  rw [hex hs, htr]; rfl

theorem doPauseL_cons (l : LCfg) : Cons l (doPauseHooks l.c) (doPauseL F0 l) := ⟨rfl, rfl, rfl, rfl⟩
theorem doPauseL_trans (l : LCfg) : (doPauseL F0 l).trans = l.trans := rfl

theorem pauseL_cons (l : LCfg) (hex : Ex l) (htr : l.trans = none) :
    Cons l (pause l.c).1 (pauseL F0 l).1 ∧ (pauseL F0 l).2 = (pause l.c).2 := by
  unfold pauseL pause
  dsimp only
  by_cases h1 : terminal l.c.st.label = true
  · rw [if_pos h1, if_pos h1]; exact ⟨⟨rfl, rfl, rfl, rfl⟩, rfl⟩
  · rw [if_neg h1, if_neg h1]
    by_cases h2 : l.c.paused.isSome = true
    · rw [if_pos h2, if_pos h2]; exact ⟨⟨rfl, rfl, rfl, rfl⟩, rfl⟩
    · rw [if_neg h2, if_neg h2]
      cases h3 : l.c.pausing with
      | some i => exact ⟨⟨rfl, rfl, rfl, rfl⟩, rfl⟩
      | none =>
        dsimp only
        by_cases h4 : l.c.killing.isSome = true
        · rw [if_pos h4, if_pos h4]; exact ⟨⟨rfl, rfl, rfl, rfl⟩, rfl⟩
        · rw [if_neg h4, if_neg h4]
          by_cases h5 : l.c.stepping = true
          · rw [if_pos h5, if_pos h5, requestL_eq l .pause h5 hex htr]
            cases h6 : (requestInterrupt l.c .pause).interrupt <;> exact ⟨⟨rfl, rfl, rfl, rfl⟩, rfl⟩
          · rw [if_neg h5, if_neg h5]; exact ⟨doPauseL_cons l, rfl⟩

theorem playL_cons (l : LCfg) : Cons l (play l.c).1 (playL F0 l).1 ∧ (playL F0 l).2 = (play l.c).2 := by
  unfold playL
  split <;> exact ⟨⟨rfl, rfl, rfl, rfl⟩, (play_ret l.c).symm⟩

theorem killL_cons (l : LCfg) (hex : Ex l) (htr : l.trans = none) (hef : l.entryFails = false) :
    Cons l (kill l.c).1 (killL F0 l).1 ∧ (killL F0 l).2 = (kill l.c).2 := by
  unfold killL kill
  dsimp only
  by_cases h1 : l.c.st.label = .killed
  · rw [if_pos h1, if_pos h1]; exact ⟨⟨rfl, rfl, rfl, rfl⟩, rfl⟩
  · rw [if_neg h1, if_neg h1]
    by_cases h2 : terminal l.c.st.label = true
    · rw [if_pos h2, if_pos h2]; exact ⟨⟨rfl, rfl, rfl, rfl⟩, rfl⟩
    · rw [if_neg h2, if_neg h2]
      cases h3 : l.c.killing with
      | some i => exact ⟨⟨rfl, rfl, rfl, rfl⟩, rfl⟩
      | none =>
        dsimp only
        by_cases h5 : l.c.stepping = true
        · rw [if_pos h5, if_pos h5, requestL_eq l .kill h5 hex htr]
          cases h6 : (requestInterrupt l.c .kill).interrupt <;> exact ⟨⟨rfl, rfl, rfl, rfl⟩, rfl⟩
        · rw [if_neg h5, if_neg h5]; exact ⟨transitionToL_cons l .killed hef, rfl⟩

theorem failL_cons (l : LCfg) (e : Exc) (hef : l.entryFails = false) :
    Cons l (fail l.c e).1 (failL F0 l e).1 ∧ (failL F0 l e).2 = (fail l.c e).2 := by
  unfold failL fail
  by_cases h1 : terminal l.c.st.label = true
  · rw [if_pos h1, if_pos h1]; exact ⟨⟨rfl, rfl, rfl, rfl⟩, rfl⟩
  · rw [if_neg h1, if_neg h1]; exact ⟨transitionToL_cons l _ hef, rfl⟩

theorem tickCbL_cons (l : LCfg) (cb : Cb) (hex : Ex l) (htr : l.trans = none) (hef : l.entryFails = false) :
    Cons l (tickCb l.c cb) (tickCbL F0 l cb) := by
  unfold tickCbL tickCb
  by_cases h1 : l.c.ready.contains cb = true
  · rw [if_pos h1, if_pos h1]
    dsimp only
    cases cb with
    | adone f => exact ⟨rfl, rfl, rfl, rfl⟩
    | trykill =>
      dsimp only
      have h := (killL_cons (l.upd (fun c => { c with ready := c.ready.erase Cb.trykill })) hex htr hef).1.upd
        fun c => { c with handed := l.c.handed }
      unfold tryKillingL tryKilling
      exact ⟨h.c, h.plan, h.ef, h.exe⟩
    | usercb raises =>
      dsimp only
      cases raises with
      | true =>
        have h := (failL_cons (l.upd (fun c => { c with ready := c.ready.erase (Cb.usercb true) })) (.user 8) hef).1
        exact ⟨h.c, h.plan, h.ef, h.exe⟩
      | false => exact ⟨rfl, rfl, rfl, rfl⟩
  · rw [if_neg h1, if_neg h1]; exact ⟨rfl, rfl, rfl, rfl⟩

/-- what `runActionL`'s "retracted while transitioning" test relies on: a pending pause action that is run with a next state is
recorded in `_pausing` -/
def PIr (c : Cfg) (i : Nat) (next : Option SObj) : Prop :=
  ∀ s, actionStatus c i = .pending → actionKind c i = some .pause → next = some s → c.pausing.isSome = true

theorem runActionL_cons (l : LCfg) (i : Nat) (next : Option SObj) (hef : l.entryFails = false) (hpi : PIr l.c i next) :
    Cons l (runAction l.c i next) (runActionL F0 l i next) := by
  unfold runActionL runAction
  cases ha : l.c.actions[i]? with
  | none => exact ⟨rfl, rfl, rfl, rfl⟩
  | some a =>
    dsimp only
    by_cases hp : a.status ≠ .pending
    · rw [if_pos hp, if_pos hp]; exact ⟨rfl, rfl, rfl, rfl⟩
    · rw [if_neg hp, if_neg hp]
      have hp' : a.status = .pending := by simpa using hp
      have hst : actionStatus l.c i = .pending := by simp [actionStatus, ha, hp']
      -- the body of the action, then the conditional `set_result`
      have fin : ∀ (body : LCfg) (c' : Cfg), Cons l c' body → c'.actions = l.c.actions →
          Cons l (setActionStatus c' i .done)
            (if actionStatus body.c i = .pending then body.upd (fun c => setActionStatus c i .done) else body) := by
        intro body c' hb hact
        have : actionStatus body.c i = .pending := by rw [hb.c, actionStatus_of_actions hact]; exact hst
        rw [if_pos this]
        exact hb.upd (fun c => setActionStatus c i .done)
      cases hk : a.kind with
      | pause =>
        dsimp only
        cases next with
        | none =>
          dsimp only
          exact fin _ _ (doPauseL_cons l) rfl
        | some s =>
          dsimp only
          have ht := transitionToL_cons l s hef
          have hpa : (transitionToL F0 l s).c.pausing.isNone = false := by
            rw [ht.c, (transitionTo_pf l.c s).pausing]
            have := hpi s hst (by simp [actionKind, ha, hk]) rfl
            cases hq : l.c.pausing with
            | none => rw [hq] at this; cases this
            | some j => rfl
          simp only [hpa, Bool.false_eq_true, if_false]
          refine fin _ _ (ht.trans ((doPauseL_cons _).of_c (by rw [ht.c]))) ?_
          exact (transitionTo_pf l.c s).actions
      | kill =>
        dsimp only
        have ht := transitionToL_cons l .killed hef
        exact fin _ _ (ht.upd (fun c => { c with killing := none })) (transitionTo_pf l.c .killed).actions

theorem dispatch1L_cons (l : LCfg) (next : Option SObj) (hef : l.entryFails = false)
    (hl : terminal l.c.st.label = false) (hpi : ∀ i, l.c.interrupt = some i → PIr l.c i next) :
    Cons l (dispatch l.c next) (dispatch1L F0 l next) := by
  unfold dispatch1L dispatch
  rw [hl]
  simp only [Bool.false_eq_true, if_false]
  cases hi : l.c.interrupt with
  | some i =>
    dsimp only
    by_cases hc : actionStatus l.c i ≠ .cancelled
    · rw [if_pos hc, if_pos hc]; exact runActionL_cons l i next hef (hpi i hi)
    · rw [if_neg hc, if_neg hc]
      cases next with
      | none => exact ⟨rfl, rfl, rfl, rfl⟩
      | some s => exact transitionToL_cons l s hef
  | none =>
    dsimp only
    cases next with
    | none => exact ⟨rfl, rfl, rfl, rfl⟩
    | some s => exact transitionToL_cons l s hef

theorem dispatch1L_quiet (l : LCfg) (next : Option SObj) (hplan : l.plan = []) : Quiet (dispatch1L F0 l next) := by
  have hF : FAdv F0 := fireN_adv 0
  have hadv : ∀ d : LCfg, Adv l d → d.c.interrupt = l.c.interrupt ∧ d.c.actions = l.c.actions := by
    intro d hd
    rcases hd with hd | hd
    · rw [hplan] at hd; cases hd
    · exact hd.2
  unfold dispatch1L
  cases hi : l.c.interrupt with
  | some i =>
    dsimp only
    split
    · rcases runActionL_adv hF l i next with h | h
      · rw [hplan] at h; cases h
      · exact .of_done (h.2.1.trans hi) h.2.2
    · rename_i hc
      have hc' : actionStatus l.c i = .cancelled := by simpa using hc
      have hnp : actionStatus l.c i ≠ .pending := by rw [hc']; simp
      cases next with
      | none => exact .of_done hi hnp
      | some s =>
        dsimp only
        obtain ⟨h1, h2⟩ := hadv _ (transitionToL_adv hF l s)
        exact .of_done (h1.trans hi) (by rw [actionStatus_of_actions h2]; exact hnp)
  | none =>
    dsimp only
    cases next with
    | none => exact .of_none hi
    | some s =>
      dsimp only
      obtain ⟨h1, _⟩ := hadv _ (transitionToL_adv hF l s)
      exact .of_none (h1.trans hi)

theorem dispatchL_cons (l : LCfg) (next : Option SObj) (hef : l.entryFails = false) (hplan : l.plan = [])
    (hpi : ∀ i, l.c.interrupt = some i → PIr l.c i next) : Cons l (dispatch l.c next) (dispatchL F0 l next) := by
  by_cases ht : terminal l.c.st.label = true
  · rw [dispatchL_terminal F0 l next ht, dispatch_terminal l.c next ht]; exact ⟨rfl, rfl, rfl, rfl⟩
  · unfold dispatchL
    rw [if_neg ht]
    dsimp only
    rw [enactLoop_of_quiet _ _ (dispatch1L_quiet l next hplan)]
    exact dispatch1L_cons l next hef (by simpa using ht) hpi

end L

/-- **the invariant of the original model that conservativity needs**: a pending pause action in the interrupt slot is the
one recorded in `_pausing` (so `play()` retracts it by cancelling it, and nothing else can clear `_pausing` while it is pending) -/
def PI (c : Cfg) : Prop :=
  ∀ i, c.interrupt = some i → actionStatus c i = .pending → actionKind c i = some .pause → c.pausing = some i

theorem PI.of_eq {c c' : Cfg} (h : PI c) (h1 : c'.interrupt = c.interrupt) (h2 : c'.actions = c.actions)
    (h3 : c'.pausing = c.pausing) : PI c' := by
  unfold PI actionStatus actionKind; rw [h1, h2, h3]; exact h
theorem PI.of_none {c : Cfg} (h : c.interrupt = none) : PI c := by
  intro i hi; rw [h] at hi; cases hi
theorem PI.off {W : List Fld} {c c' : Cfg} (h : PI c) (o : Off W c c')
    (hW : ∀ f ∈ [Fld.interrupt, .actions, .pausing], f ∉ W := by decide) : PI c' :=
  h.of_eq (o.interrupt (hW _ (by decide))) (o.actions (hW _ (by decide))) (o.pausing (hW _ (by decide)))

/-- the `except` clauses keep what `runActionL` relies on: an action installed by them is run without a next state -/
theorem prepare_pir (c : Cfg) (r : StepEnd) (h : PI c) :
    ∀ i, (prepare c r).1.interrupt = some i → L.PIr (prepare c r).1 i (prepare c r).2 :=
  prepare_elim (Q := fun q => ∀ i, q.1.interrupt = some i → L.PIr q.1 i q.2) c r
    (fun _ i hi => nomatch (setInterrupt_interrupt c none).symm.trans hi)
    (fun _ _ i hi s hp hk _ => by rw [h i hi hp hk]; rfl)
    (fun _ _ _ _ i _ s _ _ hn => nomatch hn) fun _ _ _ i _ s _ _ hn => nomatch hn

namespace L

structure Sim (l : LCfg) (c : Cfg) : Prop where
  c : l.c = c
  plan : l.plan = []
  ef : l.entryFails = false

theorem Sim.cons {l l' : LCfg} {c' : Cfg} (h : Sim l l.c) (k : Cons l c' l') : Sim l' c' :=
  ⟨k.c, k.plan.trans h.plan, k.ef.trans h.ef⟩

theorem endOfStepL_sim {l : LCfg} {c : Cfg} (r : StepEnd) (h : Sim l c) (hpi : PI c) :
    Sim (endOfStepL F0 l r) (endOfStep c r) := by
  obtain ⟨rfl, hp, he⟩ := h
  unfold endOfStepL endOfStep
  dsimp only
  have h0 : Sim { l with executing := false, c := (prepare l.c r).1 } (prepare l.c r).1 := ⟨rfl, hp, he⟩
  exact h0.cons ((dispatchL_cons { l with executing := false, c := (prepare l.c r).1 } (prepare l.c r).2 he hp
    (prepare_pir l.c r hpi)).upd finally_)

end L
end PMF
