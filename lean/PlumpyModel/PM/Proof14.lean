import PlumpyModel.PM.Proof12
/-!
# C05 — transparency: wake-ups that arrive while the process is held by a pause on a wait

`Proof12` relates the run with pauses `c` and the reference run `d` by `Sim` and admits wake-up requests at quiet positions
only.  Here the relation is extended by the phase `LagW`: `c` is suspended on a pause future at a step boundary, its state is
WAITING, and the reference run is suspended *on that wait*.  Seen through the view `onWait` (the held stepping task put on the
wait) this is the phase `InStep` again, and every elementary update of a wake-up request (`PM/Wake.lean`) commutes with the view,
so the lemmas of `Proof12` apply.
-/
namespace PMF

def isWaiting : SObj → Bool
  | .waiting .. => true
  | _ => false

/-- view of a configuration held at a step boundary in WAITING: as if its stepping task were suspended on the wait -/
def onWait (c : Cfg) : Cfg :=
  match c.st with
  | .waiting _ wf _ _ => { c with pc := .awaitWaiting wf, stepping := true, paused := none }
  | _ => c

theorem onWait_waiting (c : Cfg) (fn wf wk aw) (h : c.st = .waiting fn wf wk aw) :
    onWait c = { c with pc := .awaitWaiting wf, stepping := true, paused := none } := by
  unfold onWait; rw [h]

theorem onWait_off (c : Cfg) : Off [.pc, .stepping, .paused] c (onWait c) := by
  unfold onWait; split
  · off_fields
  · exact Off.rfl' c

theorem deliver_onWait (c : Cfg) (o : WF) : deliver (onWait c) o = onWait (deliver c o) := by
  cases c
  rename_i st _ _ _ _ _ _ _ _ _ _ _ _ _ _ _ _ _ _ _ _ _ _ _ _
  cases st <;> try rfl
  simp only [onWait, deliver]
  split
  · rfl
  · split <;> rfl
  · rfl

theorem Upd.run_onWait (u : Upd) (c : Cfg) : u.run (onWait c) = onWait (u.run c) := by
  cases u with
  | deliver o _ => exact deliver_onWait c o
  | aw l =>
    cases c
    rename_i st _ _ _ _ _ _ _ _ _ _ _ _ _ _ _ _ _ _ _ _ _ _ _ _
    cases st <;> rfl
  | _ => simp only [Upd.run]; unfold onWait; dsimp only; split <;> rfl

theorem runAll_onWait (l : List Upd) (c : Cfg) : runAll l (onWait c) = onWait (runAll l c) :=
  runAll_rel (R := fun x y => x = onWait y) l (fun u _ _ y hxy => hxy ▸ u.run_onWait y) rfl

theorem awaitableDone_onWait (c : Cfg) (f : Nat) : awaitableDone (onWait c) f = onWait (awaitableDone c f) := by
  have o := onWait_off c
  rw [awaitableDone_plan, awaitableDone_plan, o.st, o.efKeys, o.efs, o.ctx]
  exact runAll_onWait _ c

theorem wake_onWait (P : Prog) (c : Cfg) (e : Ev) (hw : isWake e = true) : (step P (onWait c) e).1 = onWait (step P c e).1 := by
  have o := onWait_off c
  rw [step_plan P _ e hw, step_plan P c e hw, planOf_congr e (congrArg awaiting o.st) o.efKeys o.efs o.efCb o.ready o.ctx]
  exact runAll_onWait _ c

/-- what the wake-up requests leave alone -/
def HFrame (c c' : Cfg) : Prop :=
  c'.pc = c.pc ∧ c'.stepping = c.stepping ∧ c'.interrupt = c.interrupt ∧ isWaiting c'.st = isWaiting c.st
theorem HFrame.rfl' (c : Cfg) : HFrame c c := ⟨rfl, rfl, rfl, rfl⟩
theorem HFrame.trans {a b c : Cfg} (h1 : HFrame a b) (h2 : HFrame b c) : HFrame a c :=
  ⟨h2.1.trans h1.1, h2.2.1.trans h1.2.1, h2.2.2.1.trans h1.2.2.1, h2.2.2.2.trans h1.2.2.2⟩

theorem Upd.run_hf (u : Upd) (c : Cfg) : HFrame c (u.run c) := by
  cases u with
  | deliver o _ =>
    have od := deliver_off c o
    refine ⟨od.pc, od.stepping, od.interrupt, ?_⟩
    exact deliver_elim (Q := fun d => isWaiting d.st = isWaiting c.st) c o rfl (fun _ _ _ _ _ _ => rfl)
      fun _ _ _ _ hst _ => by rw [hst]; rfl
  | aw l =>
    show HFrame c (setAw c l)
    unfold setAw; split
    · rename_i hst; exact ⟨rfl, rfl, rfl, by rw [hst]; rfl⟩
    · exact HFrame.rfl' c
  | _ => exact ⟨rfl, rfl, rfl, rfl⟩

theorem wake_hf (P : Prog) (c : Cfg) (e : Ev) (hw : isWake e = true) : HFrame c (step P c e).1 := by
  rw [step_plan P c e hw]
  exact runAll_rel (R := fun _ y => HFrame c y) _ (fun u _ _ y hy => hy.trans (u.run_hf y)) (x := c) (HFrame.rfl' c)

/-- the run with pauses is suspended on a pause future at a step boundary in WAITING, and the reference run is suspended on
that wait: through the view `onWait` both are at the same point -/
structure LagW (c d : Cfg) : Prop where
  pc : isAwaitPaused c.pc = true
  wait : isWaiting c.st = true
  stepping : c.stepping = false
  int : c.interrupt = none
  view : InStep (onWait c) d

theorem LagW.hframe {c c' d d' : Cfg} (h : LagW c d) (f : HFrame c c') (hv : InStep (onWait c') d') : LagW c' d' :=
  ⟨by rw [f.1]; exact h.pc, by rw [f.2.2.2]; exact h.wait, by rw [f.2.1]; exact h.stepping, by rw [f.2.2.1]; exact h.int, hv⟩

theorem wake_lagW (P : Prog) (c d : Cfg) (e : Ev) (h : isWake e = true) (hl : LagW c d) :
    LagW (step P c e).1 (step P d e).1 :=
  hl.hframe (wake_hf P c e h) (by rw [← wake_onWait P c e h]; exact wake_inStep P _ _ e h hl.view)

theorem onWait_paused (c : Cfg) (h : isWaiting c.st = true) : (onWait c).paused = none := by
  cases hst : c.st with
  | waiting fn wf wk aw => rw [onWait_waiting c fn wf wk aw hst]
  | _ => rw [hst] at h; cases h

theorem onWait_setPc (c : Cfg) (p : Pc) (h : isWaiting c.st = true) : onWait { c with pc := p } = onWait c := by
  cases c
  rename_i st _ _ _ _ _ _ _ _ _ _ _ _ _ _ _ _ _ _ _ _ _ _ _ _
  cases st <;> first | rfl | cases h

theorem onWait_pframe {c c' : Cfg} (f : PFrame c c') : PFrame (onWait c) (onWait c') := by
  cases hst : c.st with
  | waiting fn wf wk aw =>
    rw [onWait_waiting c fn wf wk aw hst, onWait_waiting c' fn wf wk aw (f.2.1.trans hst)]
    exact ⟨congrArg (fun r : ShRec => { r with stepping := true }) f.1, f.2.1, f.2.2.1, rfl⟩
  | _ =>
    have e : ∀ x : Cfg, x.st = c.st → onWait x = x := by intro x hx; unfold onWait; rw [hx, hst]
    rw [e c rfl, e c' f.2.1]; exact f

theorem LagW.pframe {c c' d : Cfg} (h : LagW c d) (f : PFrame c c') (hi : c'.interrupt = none) : LagW c' d := by
  have hw : isWaiting c'.st = true := by rw [f.2.1]; exact h.wait
  have hi' : (onWait c').interrupt = none := (onWait_off c').interrupt.trans hi
  exact ⟨by rw [f.2.2.2]; exact h.pc, hw, (congrArg ShRec.stepping f.1).trans h.stepping, hi,
    h.view.frame (onWait_pframe f) (.of_none hi') (fun _ => hi') (fun _ => onWait_paused c' hw)⟩

theorem pause_lagW (c d : Cfg) (h : LagW c d) : LagW (pause c).1 d :=
  h.pframe (pause_idle c h.stepping).1 ((pause_idle c h.stepping).2.trans h.int)

theorem play_lagW (c d : Cfg) (h : LagW c d) : LagW (play c).1 d :=
  h.pframe (play_shape c).1 ((play_off c).interrupt.trans h.int)

/-! ### from `Lag` to `LagW`: the reference run that ran ahead of a pending wait is suspended on it -/

theorem inStep_onWait_intro (c d0 : Cfg) (hm : Mid c d0) (fn wf wf' : Nat) (wk aw)
    (hst : c.st = .waiting fn wf wk aw) (hst' : d0.st = .waiting fn wf' none aw) :
    InStep (onWait c) { d0 with stepping := true, pc := .awaitWaiting wf' } := by
  rw [onWait_waiting c fn wf wk aw hst]
  exact ⟨⟨congrArg (fun r : ShRec => { r with stepping := true }) hm.core.sh, hm.core.st, hm.core.ckill, hm.core.dint,
    hm.core.dpaused⟩, IntOk.of_none hm.int, ⟨fn, wk, aw, wf', hst, hst', rfl⟩, fun _ => ⟨rfl, rfl⟩, fun h => by simp [isRunningPc] at h⟩

theorem lag_to_lagW (P : Prog) (c d : Cfg) (h : Lag P c d) (hI : Inv c) (fn wf : Nat) (wk aw)
    (hst : c.st = .waiting fn wf wk aw) (hw : c.wfs[wf]? = some .pending) : LagW c d := by
  obtain ⟨hap, d0, n, hn, hD, hd, hm⟩ := h
  obtain ⟨n', rfl⟩ := loopDone_pos hD
  obtain ⟨wf', w, hwk, hst', hcw, hdw, hni⟩ := hm.core.st.waiting_inv hst
  rw [hw] at hcw; cases hcw
  have hld : terminal d0.st.label = false := by rw [hst']; rfl
  have hcl : d0.closed = false :=
    (congrArg ShRec.closed hm.core.sh).symm.trans (not_closed_of_live hI (by rw [hst]; rfl))
  rw [hd, loopHead_step P n' d0 hm.ncd hld hcl hm.core.dpaused,
    stepBodyK_waiting_pending P _ d0 fn wf' none aw hst' hdw]
  exact ⟨hap, by rw [hst]; rfl, hm.stepping, hm.int, inStep_onWait_intro c d0 hm fn wf wf' wk aw hst hst'⟩

theorem onWait_eq_of_paused_none (c : Cfg) (fn wf : Nat) (wk aw) (hst : c.st = .waiting fn wf wk aw)
    (hp : c.paused = none) : onWait c = { c with stepping := true, pc := .awaitWaiting wf } := by
  rw [onWait_waiting c fn wf wk aw hst]
  cases c
  simp only at hp
  subst hp
  rfl

/-- a tick while held on a wait: nothing or re-suspension on a newer pause future (the reference run does not tick), or —
released — the wait is resumed by both runs -/
theorem tick_lagW (P : Prog) (c d : Cfg) (h : LagW c d) (hinv : InvP c) :
    (runsBody c = false → LagW (tickStepper P c) d) ∧
    (runsBody c = true → tickDone P d = true → SL P (tickStepper P c) (tickStepper P d)) := by
  constructor
  · intro hr
    exact tickStepper_held_elim (Q := (LagW · d)) P c h.pc hr h fun pf' =>
      ⟨rfl, h.wait, h.stepping, h.int, by rw [onWait_setPc c _ h.wait]; exact h.view⟩
  · intro hr hD
    rw [tickStepper_runsBody P c hr]
    cases hst : c.st with
    | waiting fn wf wk aw =>
      have hp := runsBody_paused c hinv (by rw [hst]; rfl) hr
      have hv := h.view
      rw [onWait_eq_of_paused_none c fn wf wk aw hst hp] at hv
      obtain ⟨fn0, aw0, wf', w, hst0, hst', hpd, hcw, hdw, hni⟩ := hv.at_wait rfl
      have e0 : SObj.waiting fn wf wk aw = .waiting fn0 wf none aw0 := hst.symm.trans hst0
      cases e0
      unfold stepBody
      by_cases hwp : w = .pending
      · subst hwp
        rw [stepBodyK_waiting_pending P _ c fn wf none aw hst hcw, tickStepper_wait_pending P d wf' hpd hdw]
        exact Or.inl hv
      · have he := tick_entry P d _ (tickEntry_wait_done d fn wf' none aw w hpd hst' hdw hwp)
        rw [stepBodyK_waiting_done P _ c fn wf none aw w hst hcw hwp, ← tickF_fuel0 P d, he.1]
        rw [he.2] at hD
        have hcore : Core { c with stepping := true } d := ⟨hv.core.sh, hv.core.st, hv.core.ckill, hv.core.dint, hv.core.dpaused⟩
        have hnc : NotCrashed { c with stepping := true } := fun e he => by
          have := h.pc; rw [show c.pc = .crashed e from he] at this; cases this
        exact loopHead_sim P fuel0 fuel0 _ _ (Nat.le_refl _) (Nat.le_refl _)
          (mid_of_end (wake_core _ d fn wf wf' w hcore (IntOk.of_none h.int) hni hwp) hnc (.of_pc hpd))
          (invP_closed.wake _ _ _ _ (hinv.same ⟨rfl, rfl, rfl, rfl⟩)) hD
    | _ => have := h.wait; rw [hst] at this; cases this

/-- the current state is WAITING on a future that has no outcome yet -/
def pendingWait (c : Cfg) : Bool :=
  match c.st with
  | .waiting _ wf _ _ => c.wfs[wf]? == some .pending
  | _ => false

/-- the stepping task is suspended on a pause future (the process is held by a pause, or released and not yet woken) -/
def heldPc (c : Cfg) : Bool := isAwaitPaused c.pc

/-- a position at which `C05_transparent_partial2` admits a wake-up request: a quiet one, or one at which the process is held
by a pause *on a wait* — `g` (computed along the history by `nextG`) says that an earlier wake-up already arrived during this
hold, otherwise the wait must still be pending -/
def wakeOk (g : Bool) (c : Cfg) : Bool := quiet c || (heldPc c && (g || pendingWait c))

def evAllowed2 (g : Bool) (c : Cfg) (e : Ev) : Bool :=
  match e with
  | .tick | .pause | .play => true
  | e => isWake e && wakeOk g c

/-- the flag "held on a wait, and the reference run is suspended on that wait" after one event -/
def nextG (g : Bool) (c : Cfg) (e : Ev) : Bool :=
  match e with
  | .tick => heldPc c && !runsBody c && g
  | .pause | .play => g
  | _ => if heldPc c then true else g

def admissible2 (P : Prog) : Bool → Cfg → List Ev → Bool
  | _, _, [] => true
  | g, c, e :: es => evAllowed2 g c e && admissible2 P (nextG g c e) (step P c e).1 es

/-- image of one event in the reference history: as `evImage`, but the tick that wakes the stepping task from a hold during
which wake-ups arrived is kept (the reference run resumes its wait at that tick, too) -/
def evImage2 (g : Bool) (c : Cfg) : Ev → List Ev
  | .pause => []
  | .play => []
  | .tick => if heldPc c then (if g && runsBody c then [.tick] else []) else [.tick]
  | e => [e]

def unpaused2 (P : Prog) : Bool → Cfg → List Ev → List Ev
  | _, _, [] => []
  | g, c, e :: es => evImage2 g c e ++ unpaused2 P (nextG g c e) (step P c e).1 es

def Sim2 (P : Prog) (g : Bool) (c d : Cfg) : Prop :=
  (g = true ∧ LagW c d) ∨ ((g = false ∨ heldPc c = false) ∧ Sim P c d)

theorem Sim.held {P : Prog} {c d : Cfg} (h : Sim P c d) (hp : heldPc c = true) : Lag P c d := by
  rcases h with h | h | h
  · exact absurd (h.not_awaitPaused.1.symm.trans hp) (by decide)
  · obtain ⟨fn, wf, aw, wf', k, _, _, _, _, hpc, _⟩ := h.wait
    simp [heldPc, hpc, isAwaitPaused] at hp
  · exact h

theorem wake_evImage2 (c : Cfg) (e : Ev) (h : isWake e = true) (g : Bool) : evImage2 g c e = [e] := by
  cases e <;> first | rfl | cases h

theorem wake_nextG (c : Cfg) (e : Ev) (h : isWake e = true) (g : Bool) : nextG g c e = if heldPc c then true else g := by
  cases e <;> first | rfl | cases h

theorem pendingWait_spec (c : Cfg) (h : pendingWait c = true) :
    ∃ fn wf wk aw, c.st = .waiting fn wf wk aw ∧ c.wfs[wf]? = some .pending := by
  unfold pendingWait at h
  split at h
  · rename_i fn wf wk aw hst
    exact ⟨fn, wf, wk, aw, hst, by simpa using h⟩
  · cases h

theorem quiet_not_held (c : Cfg) (h : heldPc c = true) : quiet c = false := by
  simp only [heldPc] at h
  simp [quiet, h]

theorem fuelOk_wake (P : Prog) (d : Cfg) (e : Ev) (hw : isWake e = true) : fuelOk P d [e] = true := by
  cases e <;> first | rfl | cases hw

theorem wake_sim2 (P : Prog) (g : Bool) (c d : Cfg) (e : Ev) (h : Sim2 P g c d) (hinv : InvP c) (hI : Inv c)
    (hw : isWake e = true) (hok : wakeOk g c = true) :
    Sim2 P (nextG g c e) (step P c e).1 (step P d e).1 := by
  rw [wake_nextG c e hw g]
  rcases h with ⟨hg, hl⟩ | ⟨hc, hs⟩
  · rw [if_pos (show heldPc c = true from hl.pc)]
    exact Or.inl ⟨rfl, wake_lagW P c d e hw hl⟩
  · by_cases hh : heldPc c = true
    · -- held on a wait that is still pending: the reference run is suspended on it
      rw [if_pos hh]
      obtain rfl : g = false := hc.resolve_right (by rw [hh]; decide)
      have hpw : pendingWait c = true := by simpa [wakeOk, quiet_not_held c hh, hh] using hok
      obtain ⟨fn, wf, wk, aw, hst, hwp⟩ := pendingWait_spec c hpw
      exact Or.inl ⟨rfl, wake_lagW P c d e hw (lag_to_lagW P c d (hs.held hh) hI fn wf wk aw hst hwp)⟩
    · have hhf : heldPc c = false := by simpa using hh
      rw [if_neg hh]
      have hq : quiet c = true := by simpa [wakeOk, hhf] using hok
      have := step_sim P c d e hs hinv hI (evAllowed_eq c e ▸ allowedIf_wake hw hq)
        (by rw [wake_evImage c e hw]; exact fuelOk_wake P d e hw)
      rw [wake_evImage c e hw] at this
      exact Or.inr ⟨Or.inr (by simp only [heldPc] at hhf ⊢; rw [(wake_hf P c e hw).1]; exact hhf), this⟩

theorem step_sim2 (P : Prog) (g : Bool) (c d : Cfg) (e : Ev) (h : Sim2 P g c d) (hinv : InvP c) (hI : Inv c)
    (ha : evAllowed2 g c e = true) (hf : fuelOk P d (evImage2 g c e) = true) :
    Sim2 P (nextG g c e) (step P c e).1 (run P d (evImage2 g c e)) := by
  rcases allowedIf_cases (b := wakeOk g c) ha with rfl | rfl | rfl | ⟨hw, hok⟩
  · rcases h with ⟨hg, hl⟩ | ⟨hc, hs⟩
    · have hh : heldPc c = true := hl.pc
      subst hg
      cases hr : runsBody c with
      | true =>
        have him : evImage2 true c .tick = [.tick] := by simp [evImage2, hh, hr]
        rw [him] at hf ⊢
        simp only [fuelOk, Bool.and_true] at hf
        rw [show nextG true c .tick = false by simp [nextG, hh, hr]]
        exact Or.inr ⟨Or.inl rfl, ((tick_lagW P c d hl hinv).2 hr hf).sim⟩
      | false =>
        rw [show evImage2 true c .tick = [] by simp [evImage2, hh, hr], show nextG true c .tick = true by simp [nextG, hh, hr]]
        exact Or.inl ⟨rfl, (tick_lagW P c d hl hinv).1 hr⟩
    · have him : evImage2 g c .tick = evImage c .tick := by
        rcases hc with rfl | hc
        · simp [evImage2, evImage, heldPc]
        · simp only [heldPc] at hc; simp [evImage2, evImage, heldPc, hc]
      have hng : nextG g c .tick = false := by
        rcases hc with rfl | hc
        · simp [nextG]
        · simp [nextG, hc]
      rw [him] at hf ⊢
      rw [hng]
      exact Or.inr ⟨Or.inl rfl, step_sim P c d .tick hs hinv hI rfl hf⟩
  · show Sim2 P g (pause c).1 d
    rcases h with ⟨hg, hl⟩ | ⟨hc, hs⟩
    · exact Or.inl ⟨hg, pause_lagW c d hl⟩
    · exact Or.inr ⟨by simp only [heldPc] at hc ⊢; rw [(pause_off c).pc]; exact hc, pause_sim P c d hs⟩
  · show Sim2 P g (play c).1 d
    rcases h with ⟨hg, hl⟩ | ⟨hc, hs⟩
    · exact Or.inl ⟨hg, play_lagW c d hl⟩
    · exact Or.inr ⟨by simp only [heldPc] at hc ⊢; rw [(play_off c).pc]; exact hc, play_sim P c d hs⟩
  · rw [wake_evImage2 c e hw g]
    exact wake_sim2 P g c d e h hinv hI hw hok

theorem run_sim2 (P : Prog) : ∀ (evs : List Ev) (g : Bool) (c d : Cfg), Sim2 P g c d → InvP c → Inv c →
    admissible2 P g c evs = true → fuelOk P d (unpaused2 P g c evs) = true →
    ∃ g', Sim2 P g' (run P c evs) (run P d (unpaused2 P g c evs)) := by
  intro evs
  induction evs with
  | nil => intro g c d h _ _ _ _; exact ⟨g, h⟩
  | cons e es ih =>
    intro g c d h hinv hI ha hf
    simp only [admissible2, Bool.and_eq_true] at ha
    simp only [unpaused2, fuelOk_append, Bool.and_eq_true] at hf
    rw [show run P c (e :: es) = run P (step P c e).1 es from rfl]
    simp only [unpaused2, run_append]
    exact ih _ _ _ (step_sim2 P g c d e h hinv hI ha.1 hf.1) (invP_closed.step P c e hinv) (inv_closed.step P c e hI) ha.2 hf.2

theorem sim2_init (P : Prog) (nf : Nat) : Sim2 P false (init nf) (init nf) := Or.inr ⟨Or.inl rfl, sim_init P nf⟩

theorem LagW.live {c d : Cfg} (h : LagW c d) : terminal c.st.label = false := by
  have := h.wait
  cases hst : c.st with
  | waiting fn wf wk aw => rfl
  | _ => rw [hst] at this; cases this

theorem evImage2_eq (g : Bool) (c : Cfg) (x : Ev) :
    evImage2 g c x = match x with | .pause => [] | .play => [] | .tick => evImage2 g c .tick | e => [e] := by
  cases x <;> rfl

theorem unpaused2_erases (P : Prog) (evs : List Ev) (g : Bool) (c : Cfg) : Erases [] evs (unpaused2 P g c evs) := by
  induction evs generalizing g c with
  | nil => exact .nil
  | cons x rest ih =>
    rw [unpaused2, evImage2_eq]
    refine (ih _ _).image x _ ?_
    by_cases h1 : heldPc c = true <;> by_cases h2 : (g && runsBody c) = true <;> simp [evImage2, h1, h2]

theorem admissible_sub (P : Prog) : ∀ (evs : List Ev) (c : Cfg), admissible P c evs = true →
    admissible2 P false c evs = true ∧ unpaused2 P false c evs = unpaused P c evs := by
  intro evs
  induction evs with
  | nil => intro c _; exact ⟨rfl, rfl⟩
  | cons x rest ih =>
    intro c h
    simp only [admissible, Bool.and_eq_true] at h
    have ha : allowedIf (quiet c) x = true := evAllowed_eq c x ▸ h.1
    have hng : nextG false c x = false := by
      rcases allowedIf_cases ha with rfl | rfl | rfl | ⟨hw, hq⟩
      · simp [nextG]
      · rfl
      · rfl
      · have : heldPc c = false := by
          cases hh : heldPc c with
          | false => rfl
          | true => rw [quiet_not_held c hh] at hq; cases hq
        rw [wake_nextG c x hw, this]; rfl
    have him : evImage2 false c x = evImage c x := by
      cases x <;> simp [evImage2, evImage, heldPc]
    have hal : evAllowed2 false c x = true := allowedIf_mono (b' := wakeOk false c) (fun hq => by simp [wakeOk, hq]) ha
    obtain ⟨i1, i2⟩ := ih (step P c x).1 h.2
    simp only [admissible2, unpaused2, unpaused, hng, him, hal, i1, i2, Bool.and_self]
    exact ⟨trivial, trivial⟩
