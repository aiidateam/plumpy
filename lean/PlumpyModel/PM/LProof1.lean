import PlumpyModel.PM.ClosedL
/-!
# `PMF.L` — frame facts

* `HkC` / `Hk`: what a request of the oracle cannot touch while a step is in progress (`_stepping`): the state object, the
  entered log, closedness, the flags.  (`pause()` / `kill()` defer to the interrupt-action slot, `play()` only un-pauses.)
* every notification function `fireN n` has that frame while stepping, and in the exiting / entering phase always.
-/
namespace PMF
namespace L

@[simp] theorem upd_c (l : LCfg) (f : Cfg → Cfg) : (l.upd f).c = f l.c := rfl
@[simp] theorem upd_plan (l : LCfg) (f : Cfg → Cfg) : (l.upd f).plan = l.plan := rfl
@[simp] theorem upd_cnt (l : LCfg) (f : Cfg → Cfg) : (l.upd f).cnt = l.cnt := rfl
@[simp] theorem upd_executing (l : LCfg) (f : Cfg → Cfg) : (l.upd f).executing = l.executing := rfl
@[simp] theorem upd_trans (l : LCfg) (f : Cfg → Cfg) : (l.upd f).trans = l.trans := rfl
@[simp] theorem upd_issued (l : LCfg) (f : Cfg → Cfg) : (l.upd f).issued = l.issued := rfl
@[simp] theorem upd_entryFails (l : LCfg) (f : Cfg → Cfg) : (l.upd f).entryFails = l.entryFails := rfl

structure HkC (c c' : Cfg) : Prop where
  st : c'.st = c.st
  entered : c'.entered = c.entered
  closed : c'.closed = c.closed
  stepping : c'.stepping = c.stepping

theorem HkC.rfl' (c : Cfg) : HkC c c := ⟨rfl, rfl, rfl, rfl⟩
theorem HkC.trans {a b c : Cfg} (h1 : HkC a b) (h2 : HkC b c) : HkC a c :=
  ⟨h2.st.trans h1.st, h2.entered.trans h1.entered, h2.closed.trans h1.closed, h2.stepping.trans h1.stepping⟩
theorem HkC.of_off {W : List Fld} {c c' : Cfg} (o : Off W c c')
    (hW : ∀ f ∈ [Fld.st, .entered, .closed, .stepping], f ∉ W := by decide) : HkC c c' :=
  ⟨o.st (hW _ (by decide)), o.entered (hW _ (by decide)), o.closed (hW _ (by decide)),
    o.stepping (hW _ (by decide))⟩

theorem requestL_hkc (l : LCfg) (k) : HkC l.c (requestL l k) := .of_off (requestL_off l k)

structure Hk (l l' : LCfg) : Prop where
  c : HkC l.c l'.c
  exe : l'.executing = l.executing
  tr : l'.trans = l.trans
  ef : l'.entryFails = l.entryFails

theorem Hk.rfl' (l : LCfg) : Hk l l := ⟨HkC.rfl' _, rfl, rfl, rfl⟩
theorem Hk.trans {a b c : LCfg} (h1 : Hk a b) (h2 : Hk b c) : Hk a c :=
  ⟨h1.c.trans h2.c, h2.exe.trans h1.exe, h2.tr.trans h1.tr, h2.ef.trans h1.ef⟩
theorem Hk.setc {a l : LCfg} {c' : Cfg} (h : Hk a l) (hc : HkC l.c c') : Hk a { l with c := c' } :=
  ⟨h.c.trans hc, h.exe, h.tr, h.ef⟩

def FHk (F : Hook → LCfg → LCfg) : Prop := ∀ h l, l.c.stepping = true → Hk l (F h l)
/-- in the exiting / entering phase always: outside a step no request is made there -/
def FHkPhase (F : Hook → LCfg → LCfg) : Prop := ∀ h l, hookPhase h = true → Hk l (F h l)

theorem hk_calls (a : LCfg) : CallLeaves (Hk a) where
  hand l i h := h.setc (.of_off (hand_off l.c i))
  requestPause l _ h := h.setc (.of_off (requestPause_off l))
  requestKill l _ h := h.setc (.of_off (requestKill_off l))
  played l h := h.setc (.of_off (play_off l.c))

theorem fireN_fhk (n : Nat) : FHk (fireN n) := fun h l hs =>
  (hk_calls l).fireN_stepping (fun _ a => a.c.stepping.trans hs) (fun _ _ a => a.trans ⟨HkC.rfl' _, rfl, rfl, rfl⟩)
    (fun _ _ _ _ a => a.trans ⟨HkC.rfl' _, rfl, rfl, rfl⟩) n h l (.rfl' l)

theorem fireN_phase_idle (n : Nat) (h : Hook) (l : LCfg) (hph : hookPhase h = true) (hs : l.c.stepping = false) :
    fireN n h l = { l with cnt := bump l.cnt h } := by
  cases n with
  | zero => rfl
  | succ n =>
    unfold fireN fireK
    simp only [hph, hs, Bool.false_and, Bool.not_false, Bool.and_self, if_true]

theorem fireN_fhkPhase (n : Nat) : FHkPhase (fireN n) := fun h l hph => by
  by_cases hs : l.c.stepping = true
  · exact fireN_fhk n h l hs
  · rw [fireN_phase_idle n h l hph (Bool.eq_false_iff.mpr hs)]
    exact ⟨HkC.rfl' _, rfl, rfl, rfl⟩

end L
end PMF
