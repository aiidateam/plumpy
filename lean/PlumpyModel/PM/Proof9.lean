import PlumpyModel.PM.Steps
/-!
# Progress of the stepping coroutine on a terminated process (C02: step_until_terminated() returns)

On a terminated process the end of a step enacts nothing (`endOfStep_terminal_off`), so a wake-up of the stepping task
reaches the head of the loop, which ends (`stepper_returns_gen`) — unless the task is blocked on a future that is never released;
`onTerminated_releases_pause` and `exitState_completes_wait` are what releases those futures.
-/
namespace PMF

theorem endOfStep_terminal_off (c : Cfg) (r : StepEnd) (ht : terminal c.st.label = true) :
    Off [.stepping, .actions, .interrupt] c (endOfStep c r) := by
  have p := prepare_off c r
  show Off _ c (finally_ (dispatch (prepare c r).1 (prepare c r).2))
  rw [dispatch_terminal _ _ (by rw [p.st]; exact ht)]
  exact (p.trans (finally_off _)).mono (by decide)

theorem stepBody_terminal (P : Prog) (fuel : Nat) (c : Cfg) (ht : terminal c.st.label = true)
    (hcr : ∀ e, c.pc ≠ .crashed e) : (stepBody P (fuel + 1) c).pc = .done := by
  have he := endOfStep_terminal_off { c with stepping := true } (.next none) ht
  rw [stepBody, stepBodyK_terminal P _ c ht, loopHead_term P fuel _ (fun e => by rw [he.pc]; exact hcr e) (by rw [he.st]; exact ht)]

def ticks (P : Prog) : Nat → Cfg → Cfg
  | 0, c => c
  | n + 1, c => ticks P n (tickStepper P c)

theorem finishUser_terminal_off (c : Cfg) (o : Outcome) (ht : terminal c.st.label = true) :
    Off [.wfs, .stepping, .actions, .interrupt] c (finishUser c o) := by
  unfold finishUser
  split
  · rename_i cmd
    have a := cmdToState_off c cmd
    exact a.trans (endOfStep_terminal_off (cmdToState c cmd).1 (.next (some (cmdToState c cmd).2)) (by rw [a.st]; exact ht))
  · exact (endOfStep_terminal_off c _ ht).mono (by decide)

theorem wake_terminal_off (c : Cfg) (fn wf : Nat) (w : WF) (ht : terminal c.st.label = true) :
    Off [.stepping, .actions, .interrupt] c (wake c fn wf w) := by
  cases w with
  | interrupted k =>
    show Off _ c (endOfStep (L.rearm c wf) (.interruption k))
    rw [L.rearm_fix c wf ht]; exact endOfStep_terminal_off c _ ht
  | pending => exact Off.rfl' c
  | _ => exact endOfStep_terminal_off c _ ht

/-- **step_until_terminated() returns, from a configuration**: from a terminated configuration in which the stepping
coroutine is not blocked on an unreleased future — the pause future it awaits has been released, and so has the current
one if it awaits one at all; the waiting future it awaits has been completed — finitely many wake-ups of the stepping
task end it normally. -/
theorem stepper_returns_gen (P : Prog) (c : Cfg) (ht : terminal c.st.label = true) (hcr : ∀ e, c.pc ≠ .crashed e)
    (hpz : ∀ pf pf', c.pc = .awaitPaused pf → c.paused = some pf' → c.pfs[pf']? = some true)
    (hap : ∀ pf, c.pc = .awaitPaused pf → c.pfs[pf]? = some true)
    (haw : ∀ wf, c.pc = .awaitWaiting wf → ∃ w, c.wfs[wf]? = some w ∧ w ≠ .pending) :
    ∃ n, (ticks P n c).pc = .done := by
  cases hpc : c.pc with
  | done => exact ⟨0, hpc⟩
  | crashed e => exact absurd hpc (hcr e)
  | notStarted =>
    refine ⟨1, ?_⟩
    simp only [ticks, tickStepper, hpc]
    rw [fuel0_succ, loopHead_term P _ c hcr ht]
  | awaitPaused pf =>
    refine ⟨1, ?_⟩
    have h1 := hap pf hpc
    simp only [ticks, tickStepper, hpc, h1, if_true]
    cases hp : c.paused with
    | none => simp only []; rw [fuel0_succ]; exact stepBody_terminal P _ c ht hcr
    | some pf' =>
      have h2 := hpz pf pf' hpc hp
      simp only [h2]
      rw [fuel0_succ]; exact stepBody_terminal P _ c ht hcr
  | awaitWaiting wf =>
    refine ⟨1, ?_⟩
    obtain ⟨w, hw, hne⟩ := haw wf hpc
    simp only [ticks, tickStepper, hpc, hw]
    have hwk := fun fn' w' => wake_terminal_off c fn' wf w' ht
    cases w with
    | pending => exact absurd rfl hne
    | _ =>
      rw [fuel0_succ, loopHead_term P _ _ (by intro e; rw [(hwk _ _).pc, hpc]; exact nofun) (by rw [(hwk _ _).st]; exact ht)]
  | inUser b =>
    -- by induction on the number of awaits left in the user coroutine
    have key : ∀ (k : Nat) (d : Cfg) (b : Body), b.awaits = k → terminal d.st.label = true → d.pc = .inUser b →
        ∃ n, (ticks P n d).pc = .done := by
      intro k
      induction k with
      | zero =>
        intro d b hb hdt hdp
        refine ⟨1, ?_⟩
        simp only [ticks, tickStepper, hdp, hb, if_true]
        have hf := finishUser_terminal_off d b.out hdt
        rw [fuel0_succ, loopHead_term P _ _ (by intro e; rw [hf.pc, hdp]; exact nofun) (by rw [hf.st]; exact hdt)]
      | succ k ih =>
        intro d b hb hdt hdp
        have hne : b.awaits ≠ 0 := by omega
        obtain ⟨n, hn⟩ := ih { d with pc := .inUser { b with awaits := b.awaits - 1 } } { b with awaits := b.awaits - 1 }
          (by simp; omega) hdt rfl
        refine ⟨n + 1, ?_⟩
        simp only [ticks, tickStepper, hdp, hne, if_false]
        exact hn
    exact key b.awaits c b rfl ht hpc

/-- **step_until_terminated() returns (partial)**: from a terminated configuration in which the stepping coroutine is not
blocked on an unreleased future — the pause future it awaits (and the current one) has been released, the waiting
future it awaits has been completed — finitely many wake-ups of the stepping task end it normally. -/
theorem stepper_returns (P : Prog) (c : Cfg) (ht : terminal c.st.label = true) (hcr : ∀ e, c.pc ≠ .crashed e)
    (hpz : ∀ pf, c.paused = some pf → c.pfs[pf]? = some true)
    (hap : ∀ pf, c.pc = .awaitPaused pf → c.pfs[pf]? = some true)
    (haw : ∀ wf, c.pc = .awaitWaiting wf → ∃ w, c.wfs[wf]? = some w ∧ w ≠ .pending) :
    ∃ n, (ticks P n c).pc = .done :=
  stepper_returns_gen P c ht hcr (fun _ pf' _ hp => hpz pf' hp) hap haw

/-- repair G at the transition level: `on_terminated` releases the pause future the process currently has -/
theorem onTerminated_releases_pause (d : Cfg) (pf : Nat) (hp : (onTerminated d).paused = some pf)
    (hv : (d.pfs[pf]?).isSome = true) : (onTerminated d).pfs[pf]? = some true := by
  rw [(onTerminated_off d).paused] at hp
  rw [show (onTerminated d).pfs = (releasePause d).pfs from (onClose_off _).pfs]
  unfold releasePause
  simp only [hp]
  cases hb : d.pfs[pf]? with
  | none => simp [hb] at hv
  | some b =>
    have hlt : pf < d.pfs.length := (List.getElem?_eq_some_iff.mp hb).1
    cases b
    · simp [setAt, hlt]
    · simp [hb]

/-- repair J at the transition level: leaving a WAITING state completes its wait, so a step still awaiting it returns -/
theorem exitState_completes_wait (c : Cfg) (fn wf : Nat) (wk : Option WF) (aw : List (Nat × Nat))
    (hst : c.st = .waiting fn wf wk aw) (hv : (c.wfs[wf]?).isSome = true) :
    ∃ w, (exitState c).wfs[wf]? = some w ∧ w ≠ .pending := by
  unfold exitState
  simp only [hst]
  cases hw : c.wfs[wf]? with
  | none => simp [hw] at hv
  | some w =>
    have hlt : wf < c.wfs.length := (List.getElem?_eq_some_iff.mp hw).1
    by_cases hp : w = .pending
    · subst hp
      exact ⟨.result none, by simp [setAt, hlt], by intro h; cases h⟩
    · refine ⟨w, ?_, hp⟩
      have : ¬ (some w = some WF.pending) := by intro h; cases h; exact hp rfl
      simp [hw, this]

end PMF
