import PlumpyModel.PM.Wake
import PlumpyModel.PM.Proof8
import PlumpyModel.PM.StepNext
import PlumpyModel.PM.Proof3
/-!
# C05 — transparency of pause/play as a simulation

`c` is always the configuration of the run *with* pause/play requests, `d` the configuration of the reference run
without them.  The reference history is computed from the history with pauses by `unpaused`: pause and play requests are
dropped, and so is every tick that finds the stepping task suspended on a pause future (those ticks either do nothing,
or re-suspend, or start the step body that the reference run already executed in the tick that ended the previous step).

The two runs agree on the shared record `sh` and on the state object up to the index of the wait future (`Core`).  What a
function does not write (`PM/Writes.lean`) frames the relation on one side (`PFrame.of_off`, the lemmas `….off` of the phases);
where both runs write a shared field they make the same update of the record.  Wake-up requests are treated as sequences of
elementary updates (`PM/Wake.lean`), the reference histories of all classes as erasures (`Erases`).  One step and one callback of
the stepping task are compared through what they continue with or suspend in (`PM/StepNext.lean`; `stepNext_mid`,
`tickEntry_inStep`).
-/
namespace PMF

/-- the wait future of the current WAITING state was interrupted by a pause request and the wait is not yet re-armed -/
def waitInterrupted (c : Cfg) : Bool :=
  match c.st with
  | .waiting _ wf _ _ =>
      match c.wfs[wf]? with
      | some (.interrupted _) => true
      | _ => false
  | _ => false

/-- a quiet moment: the stepping task is not suspended on a pause future (neither held nor released-but-not-yet-woken), and
the current wait has not been interrupted by a pause request that the stepping task has still to notice -/
def quiet (c : Cfg) : Bool := !isAwaitPaused c.pc && !waitInterrupted c

/-- the class of histories of the partial theorem: ticks, pause and play anywhere; wake-up requests (`resume`, completion of
an awaited future, its done-callback, `call_soon` and the run of a scheduled callback that does not raise) only at quiet
moments (a pause may be *requested* then, but not in effect); no kill / fail / cancel / failing callback -/
def evAllowed (c : Cfg) : Ev → Bool
  | .tick | .pause | .play => true
  | .resume _ | .complete _ _ | .tickCb (.adone _) => quiet c
  | .callSoon _ | .tickCb (.usercb false) => quiet c
  | _ => false

def admissible (P : Prog) : Cfg → List Ev → Bool
  | _, [] => true
  | c, e :: es => evAllowed c e && admissible P (step P c e).1 es

/-- what one event of the history with pauses becomes in the reference history: pause/play are dropped, and so is a tick
that finds the stepping task suspended on a pause future -/
def evImage (c : Cfg) : Ev → List Ev
  | .pause => []
  | .play => []
  | .tick => if isAwaitPaused c.pc then [] else [.tick]
  | e => [e]

/-- the reference history of a history with pauses, started in `c` -/
def unpaused (P : Prog) : Cfg → List Ev → List Ev
  | _, [] => []
  | c, e :: es => evImage c e ++ unpaused P (step P c e).1 es

def allowedIf (b : Bool) (e : Ev) : Bool :=
  match e with
  | .tick | .pause | .play => true
  | e => isWake e && b

theorem evAllowed_eq (c : Cfg) (e : Ev) : evAllowed c e = allowedIf (quiet c) e := by
  cases e with
  | tickCb cb =>
    cases cb with
    | usercb r => cases r <;> rfl
    | _ => rfl
  | _ => rfl

theorem allowedIf_cases {b : Bool} {e : Ev} (h : allowedIf b e = true) :
    e = .tick ∨ e = .pause ∨ e = .play ∨ (isWake e = true ∧ b = true) := by
  cases e with
  | tick => exact .inl rfl
  | pause => exact .inr (.inl rfl)
  | play => exact .inr (.inr (.inl rfl))
  | _ => exact .inr (.inr (.inr (by simpa [allowedIf] using h)))

theorem allowedIf_wake {b : Bool} {e : Ev} (hw : isWake e = true) (hb : b = true) : allowedIf b e = true := by
  cases e <;> first | rfl | simp [allowedIf, hw, hb]

theorem allowedIf_mono {b b' : Bool} {e : Ev} (hb : b = true → b' = true) (h : allowedIf b e = true) : allowedIf b' e = true := by
  rcases allowedIf_cases h with rfl | rfl | rfl | ⟨hw, h1⟩
  · rfl
  · rfl
  · rfl
  · exact allowedIf_wake hw (hb h1)

theorem wake_evImage (c : Cfg) (e : Ev) (h : isWake e = true) : evImage c e = [e] := by
  cases e <;> first | rfl | cases h

/-- mirrors `stepBodyK`: `true` where the step suspends, `k` where the synchronous chain of steps run by one tick goes on -/
def stepDoneK (P : Prog) (k : Cfg → Bool) (c : Cfg) : Bool :=
  let c := { c with stepping := true }
  match c.st with
  | .created fn => k (endOfStep c (.next (some (.running fn [] []))))
  | .running fn args kw =>
      let b := P fn args kw c.ctx
      let c := { c with trace := { fn := fn, args := args, kw := kw, paused := c.paused.isSome } :: c.trace }
      if b.awaits = 0 then k (finishUser c b.out) else true
  | .waiting fn wf _ _ =>
      match c.wfs[wf]? with
      | some .pending => true
      | some w => k (wake c fn wf w)
      | none => true
  | _ => k (endOfStep c (.next none))

/-- mirrors `loopHead`: `true` iff the loop suspends (or ends) before the fuel is used up -/
def loopDone (P : Prog) : Nat → Cfg → Bool
  | 0, _ => false
  | fuel+1, c =>
    match c.pc with
    | .crashed _ => true
    | _ =>
    if terminal c.st.label then true else
    if c.closed then true else
    match c.paused with
    | some pf => if c.pfs[pf]? = some false then true else stepDoneK P (loopDone P fuel) c
    | none => stepDoneK P (loopDone P fuel) c

/-- mirrors `tickStepper` -/
def tickDone (P : Prog) (c : Cfg) : Bool :=
  match c.pc with
  | .notStarted => loopDone P fuel0 c
  | .awaitPaused pf =>
      if c.pfs[pf]? = some true then
        match c.paused with
        | some pf' => if c.pfs[pf']? = some false then true else stepDoneK P (loopDone P fuel0) c
        | none => stepDoneK P (loopDone P fuel0) c
      else true
  | .inUser b => if b.awaits = 0 then loopDone P fuel0 (finishUser c b.out) else true
  | .awaitWaiting wf =>
      match c.wfs[wf]? with
      | some .pending => true
      | some w =>
          let fn := match c.st with | .waiting fn .. => fn | _ => 0
          loopDone P fuel0 (wake c fn wf w)
      | none => true
  | _ => true

/-- no tick of the history exhausts the fuel of the model's step loop -/
def fuelOk (P : Prog) : Cfg → List Ev → Bool
  | _, [] => true
  | c, e :: es => (match e with | .tick => tickDone P c | _ => true) && fuelOk P (step P c e).1 es

def notPP : Notif → Bool
  | .paused => false
  | .played => false
  | _ => true

structure ShRec where
  stepping : Bool
  fut : PFut
  futHasKillCb : Bool
  closed : Bool
  cleanups : Nat
  efs : List EFut
  efCb : List Nat
  efKeys : List (Nat × Nat)
  ctx : List (Nat × Val)
  ready : List Cb
  entered : List Label
  trace : List Act
  loopErrs : List Exc
  notif : List Notif
  killing : Option Nat

/-- what both runs share: everything except the pause machinery (actions, interrupt, pausing, paused, pause futures,
cookies, handed-out actions, the paused/played notifications) and the heap of wait futures with the pointers into it -/
def sh (c : Cfg) : ShRec :=
  { stepping := c.stepping, fut := c.fut, futHasKillCb := c.futHasKillCb, closed := c.closed, cleanups := c.cleanups,
    efs := c.efs, efCb := c.efCb, efKeys := c.efKeys, ctx := c.ctx, ready := c.ready, entered := c.entered,
    trace := c.trace, loopErrs := c.loopErrs, notif := c.notif.filter notPP, killing := c.killing }

theorem sh_eq_iff (c d : Cfg) : sh c = sh d ↔
    c.stepping = d.stepping ∧ c.fut = d.fut ∧ c.futHasKillCb = d.futHasKillCb ∧ c.closed = d.closed ∧
    c.cleanups = d.cleanups ∧ c.efs = d.efs ∧ c.efCb = d.efCb ∧ c.efKeys = d.efKeys ∧ c.ctx = d.ctx ∧
    c.ready = d.ready ∧ c.entered = d.entered ∧ c.trace = d.trace ∧ c.loopErrs = d.loopErrs ∧
    c.notif.filter notPP = d.notif.filter notPP ∧ c.killing = d.killing := by
  simp [sh]

def shF : List Fld :=
  [.stepping, .fut, .futHasKillCb, .closed, .cleanups, .efs, .efCb, .efKeys, .ctx, .ready, .entered, .trace, .loopErrs, .notif,
   .killing]

theorem sh_of_off {W : List Fld} {c c' : Cfg} (o : Off W c c') (hW : ∀ f ∈ shF, f ∉ W := by decide) : sh c' = sh c :=
  (sh_eq_iff c' c).mpr ⟨o.stepping (hW _ (by decide)), o.fut (hW _ (by decide)),
    o.futHasKillCb (hW _ (by decide)), o.closed (hW _ (by decide)), o.cleanups (hW _ (by decide)),
    o.efs (hW _ (by decide)), o.efCb (hW _ (by decide)), o.efKeys (hW _ (by decide)),
    o.ctx (hW _ (by decide)), o.ready (hW _ (by decide)), o.entered (hW _ (by decide)),
    o.trace (hW _ (by decide)), o.loopErrs (hW _ (by decide)),
    congrArg (List.filter notPP) (o.notif (hW _ (by decide))), o.killing (hW _ (by decide))⟩

/-- one-sided frame: `c'` differs from `c` in pause machinery only -/
def PFrame (c c' : Cfg) : Prop := sh c' = sh c ∧ c'.st = c.st ∧ c'.wfs = c.wfs ∧ c'.pc = c.pc
theorem PFrame.rfl' (c : Cfg) : PFrame c c := ⟨rfl, rfl, rfl, rfl⟩
theorem PFrame.trans {a b c : Cfg} (h1 : PFrame a b) (h2 : PFrame b c) : PFrame a c :=
  ⟨h2.1.trans h1.1, h2.2.1.trans h1.2.1, h2.2.2.1.trans h1.2.2.1, h2.2.2.2.trans h1.2.2.2⟩

theorem PFrame.of_off {W : List Fld} {c c' : Cfg} (o : Off W c c')
    (hW : ∀ f ∈ Fld.st :: .wfs :: .pc :: shF, f ∉ W := by decide) : PFrame c c' :=
  ⟨sh_of_off o fun f hf => hW f (.tail _ (.tail _ (.tail _ hf))), o.st (hW _ (by decide)),
    o.wfs (hW _ (by decide)), o.pc (hW _ (by decide))⟩

theorem hand_pf (c : Cfg) (i) : PFrame c (hand c i) := .of_off (hand_off c i)
/-- the pause hooks write the shared `notif`, but only a notification that `sh` filters out -/
theorem doPauseHooks_pf (c : Cfg) : PFrame c (doPauseHooks c) := ⟨by simp [sh, doPauseHooks, notPP], rfl, rfl, rfl⟩

def NotWaiting (s : SObj) : Prop := ∀ fn wf wk aw, s ≠ .waiting fn wf wk aw

/-- same state object up to the index of the wait future -/
def SSim (s s' : SObj) : Prop :=
  (s = s' ∧ NotWaiting s) ∨ ∃ fn wf aw wf', s = .waiting fn wf none aw ∧ s' = .waiting fn wf' none aw

theorem SSim.label {s s' : SObj} (h : SSim s s') : s.label = s'.label := by
  rcases h with ⟨rfl, _⟩ | ⟨fn, wf, aw, wf', rfl, rfl⟩ <;> rfl

/-- the state objects agree with respect to the heaps `cw`, `dw` of wait futures: equal, or both WAITING on futures with the
same outcome, which is not an interruption -/
def SRel (cw dw : List WF) (s s' : SObj) : Prop :=
  (s = s' ∧ NotWaiting s) ∨
  ∃ fn wf aw wf' w, s = .waiting fn wf none aw ∧ s' = .waiting fn wf' none aw ∧
     cw[wf]? = some w ∧ dw[wf']? = some w ∧ ∀ k, w ≠ .interrupted k

theorem SRel.ssim {cw dw s s'} (h : SRel cw dw s s') : SSim s s' := by
  rcases h with h | ⟨fn, wf, aw, wf', w, h1, h2, _⟩
  · exact Or.inl h
  · exact Or.inr ⟨fn, wf, aw, wf', h1, h2⟩


structure Core (c d : Cfg) : Prop where
  sh : sh c = sh d
  st : SRel c.wfs d.wfs c.st d.st
  ckill : c.killing = none
  dint : d.interrupt = none
  dpaused : d.paused = none

theorem Core.label {c d : Cfg} (h : Core c d) : c.st.label = d.st.label := h.st.ssim.label

/-! ### the transition machinery acts in the same way on the shared fields of both runs

Each function is unfolded on both sides, the shared field it branches on is rewritten from one run to the other, and in every
branch both runs make the same update of the shared record. -/

/-- both runs take the same branch, and in each branch they stay related -/
theorem sh_ite {p q : Prop} [Decidable p] [Decidable q] {x y x' y' : Cfg} (hpq : p ↔ q) (hx : sh x = sh x')
    (hy : sh y = sh y') : sh (if p then x else y) = sh (if q then x' else y') := by
  by_cases hp : p
  · rw [if_pos hp, if_pos (hpq.mp hp)]; exact hx
  · rw [if_neg hp, if_neg (hp ∘ hpq.mpr)]; exact hy

theorem exitState_sh (c d : Cfg) (h : sh c = sh d) (hs : SSim c.st d.st) : sh (exitState c) = sh (exitState d) := by
  rcases hs with ⟨heq, hnw⟩ | ⟨fn, wf, aw, wf', hc, hd⟩
  · rw [exitState_notWaiting c hnw, exitState_notWaiting d (heq ▸ hnw)]; exact h
  · -- the completed wait future is not shared; the callbacks of the same awaitables are dropped
    have e : ∀ (x : Cfg) (w : Nat), x.st = .waiting fn w none aw →
        sh (exitState x) = { sh x with efCb := x.efCb.filter fun f => !(aw.any (·.1 = f)) } := by
      intro x w hx; unfold exitState; rw [hx]; dsimp only; split <;> rfl
    rw [e c wf hc, e d wf' hd, h, show c.efCb = d.efCb from congrArg ShRec.efCb h]

theorem setFutExc_sh (c d : Cfg) (e : Exc) (h : sh c = sh d) : sh (setFutExc c e) = sh (setFutExc d e) := by
  unfold setFutExc
  rw [show c.fut = d.fut from congrArg ShRec.fut h]
  split
  · exact congrArg (fun r : ShRec => { r with fut := .exc e, futHasKillCb := false }) h
  · exact congrArg (fun r : ShRec => { r with fut := .exc e }) h

theorem freshFut_sh (c d : Cfg) (h : sh c = sh d) : sh (freshFutIfCancelled c) = sh (freshFutIfCancelled d) := by
  unfold freshFutIfCancelled futCancelled
  exact sh_ite (by rw [show c.fut = d.fut from congrArg ShRec.fut h])
    (congrArg (fun r : ShRec => { r with fut := .pending, futHasKillCb := false }) h) h

theorem enteringHooks_sh (c d : Cfg) (s s' : SObj) (h : sh c = sh d) (hs : SSim s s') :
    (∃ e, enteringHooks c s = .error e ∧ enteringHooks d s' = .error e) ∨
    (∃ c2 d2, enteringHooks c s = .ok c2 ∧ enteringHooks d s' = .ok d2 ∧ sh c2 = sh d2) := by
  rcases hs with ⟨rfl, _⟩ | ⟨fn, wf, aw, wf', rfl, rfl⟩
  · have hf := freshFut_sh c d h
    have ok : ∀ X : PFut, sh { freshFutIfCancelled c with fut := X } = sh { freshFutIfCancelled d with fut := X } :=
      fun X => congrArg (fun r : ShRec => { r with fut := X }) hf
    cases s with
    | finished _ _ | killed =>
      simp only [enteringHooks]
      rw [show (freshFutIfCancelled c).fut = (freshFutIfCancelled d).fut from congrArg ShRec.fut hf]
      split
      · exact Or.inr ⟨_, _, rfl, rfl, ok _⟩
      · exact Or.inl ⟨_, rfl, rfl⟩
    | excepted e => exact Or.inr ⟨_, _, rfl, rfl, setFutExc_sh c d e h⟩
    | _ => exact Or.inr ⟨_, _, rfl, rfl, h⟩
  · exact Or.inr ⟨_, _, rfl, rfl, h⟩

theorem enterState_sh (c d : Cfg) (s s' : SObj) (h : sh c = sh d) (hs : SSim s s') :
    sh (enterState c s) = sh (enterState d s') := by
  rcases hs with ⟨rfl, hnw⟩ | ⟨fn, wf, aw, wf', rfl, rfl⟩
  · cases s with
    | waiting fn wf wk aw => exact absurd rfl (hnw fn wf wk aw)
    | _ => exact h
  · unfold enterState
    dsimp only
    induction aw generalizing c d with
    | nil => exact h
    | cons p rest ih =>
      rw [List.foldl_cons, List.foldl_cons]
      apply ih
      rw [show c.efs[p.1]? = d.efs[p.1]? from congrArg (·.efs[p.1]?) h]
      split
      · exact congrArg (fun r : ShRec => { r with efKeys := p :: r.efKeys, efCb := r.efCb ++ [p.1] }) h
      · exact congrArg (fun r : ShRec => { r with efKeys := p :: r.efKeys, ready := r.ready ++ [Cb.adone p.1] }) h
      · exact congrArg (fun r : ShRec => { r with efKeys := p :: r.efKeys }) h

theorem filter_notPP_cons (n : Notif) (l : List Notif) (hn : notPP n = true) :
    (n :: l).filter notPP = n :: l.filter notPP := by simp [List.filter, hn]

theorem enteredHooks_sh (c d : Cfg) (s s' : SObj) (h : sh c = sh d) (hs : SSim s s') :
    sh (enteredHooks c s) = sh (enteredHooks d s') := by
  have hn : enteredNotif s' = enteredNotif s := by
    rcases hs with ⟨rfl, _⟩ | ⟨fn, wf, aw, wf', rfl, rfl⟩ <;> rfl
  have e (x : Cfg) : sh (enteredHooks x s) =
      { sh x with killing := if s.label = .killed then none else (sh x).killing,
                  notif := (enteredNotif s).toList.filter notPP ++ (sh x).notif } :=
    enteredHooks_eq x s ▸ congrArg (fun l => ({ sh x with killing := _, notif := l } : ShRec)) (List.filter_append ..)
  rw [enteredHooks_eq d, hn, ← hs.label, ← enteredHooks_eq, e, e, h]

theorem setState_sh (c d : Cfg) (s s' : SObj) (h : sh c = sh d) (hs : SSim s s') :
    sh (setState c s) = sh (setState d s') := by
  unfold setState
  rw [hs.label]
  exact congrArg (fun r : ShRec => { r with entered := s'.label :: r.entered }) h

theorem onClose_sh (c d : Cfg) (h : sh c = sh d) : sh (onClose c) = sh (onClose d) := by
  unfold onClose
  exact sh_ite (by rw [show c.closed = d.closed from congrArg ShRec.closed h]) h
    (congrArg (fun r : ShRec => { r with closed := true, cleanups := r.cleanups + 1 }) h)

theorem onTerminated_sh (c d : Cfg) (h : sh c = sh d) : sh (onTerminated c) = sh (onTerminated d) :=
  onClose_sh _ _ ((sh_of_off (releasePause_off c)).trans (h.trans (sh_of_off (releasePause_off d)).symm))

theorem excepted_notWaiting (e : Exc) : NotWaiting (.excepted e) := by intro a b c d h; cases h

theorem forceExcepted_sh (c d : Cfg) (e : Exc) (h : sh c = sh d) : sh (forceExcepted c e) = sh (forceExcepted d e) := by
  have hs : SSim (.excepted e) (.excepted e) := Or.inl ⟨rfl, excepted_notWaiting e⟩
  unfold forceExcepted
  exact sh_ite (by rw [show c.closed = d.closed from congrArg ShRec.closed h]) h
    (onTerminated_sh _ _ (enteredHooks_sh _ _ _ _ (setState_sh _ _ _ _ (setFutExc_sh c d e h) hs) hs))

theorem enterNext_sh (c d : Cfg) (s s' : SObj) (h : sh c = sh d) (hs : SSim s s') :
    sh (enterNext c s) = sh (enterNext d s') := by
  unfold enterNext
  dsimp only
  have h1 : sh (enteredHooks (setState (enterState c s) s) s) = sh (enteredHooks (setState (enterState d s') s') s') :=
    enteredHooks_sh _ _ _ _ (setState_sh _ _ _ _ (enterState_sh c d s s' h hs) hs) hs
  exact sh_ite (by rw [hs.label]) (onTerminated_sh _ _ h1) h1

/-- a next state object for both runs: they agree, and a wait future they point to is not the one of the state being left -/
def NextRel (c d : Cfg) (s s' : SObj) : Prop :=
  (s = s' ∧ NotWaiting s) ∨
  ∃ fn wf aw wf' w, s = .waiting fn wf none aw ∧ s' = .waiting fn wf' none aw ∧
     c.wfs[wf]? = some w ∧ d.wfs[wf']? = some w ∧ (∀ k, w ≠ .interrupted k) ∧
     (∀ f' w' wk' aw', c.st = .waiting f' w' wk' aw' → w' ≠ wf) ∧
     (∀ f' w' wk' aw', d.st = .waiting f' w' wk' aw' → w' ≠ wf')

theorem NextRel.ssim {c d s s'} (h : NextRel c d s s') : SSim s s' := by
  rcases h with h | ⟨fn, wf, aw, wf', w, h1, h2, _⟩
  · exact Or.inl h
  · exact Or.inr ⟨fn, wf, aw, wf', h1, h2⟩

theorem NextRel.afterExit {c d s s'} (h : NextRel c d s s') : SRel (exitState c).wfs (exitState d).wfs s s' := by
  rcases h with h | ⟨fn, wf, aw, wf', w, h1, h2, h3, h4, h5, h6, h7⟩
  · exact Or.inl h
  · exact Or.inr ⟨fn, wf, aw, wf', w, h1, h2, by rw [exitState_wfs_other c wf h6]; exact h3,
      by rw [exitState_wfs_other d wf' h7]; exact h4, h5⟩

def Agree (c d : Cfg) : Prop := sh c = sh d ∧ SRel c.wfs d.wfs c.st d.st

theorem forceExcepted_agree (c d : Cfg) (e : Exc) (h : sh c = sh d) : Agree (forceExcepted c e) (forceExcepted d e) :=
  ⟨forceExcepted_sh c d e h, by rw [forceExcepted_st, forceExcepted_st]; exact Or.inl ⟨rfl, excepted_notWaiting e⟩⟩

theorem transitionTo_core (c d : Cfg) (s s' : SObj) (h : Core c d) (hn : NextRel c d s s') :
    Core (transitionTo c s) (transitionTo d s') := by
  have hss := hn.ssim
  have od := transitionTo_off d s'
  suffices hp : Agree (transitionTo c s) (transitionTo d s') from
    ⟨hp.1, hp.2, (transitionTo_kn c s).imp h.ckill, od.interrupt.trans h.dint, od.paused.trans h.dpaused⟩
  have he := exitState_sh c d h.sh h.st.ssim
  -- both runs take the same branch of `transition_to`
  unfold transitionTo
  rw [hss.label, h.label, show c.closed = d.closed from congrArg ShRec.closed h.sh]
  split
  · dsimp only
    split
    · exact ⟨he, hn.afterExit⟩
    · rcases enteringHooks_sh (exitState c) (exitState d) s s' he hss with ⟨e, h1, h2⟩ | ⟨c2, d2, h1, h2, h3⟩
      · rw [h1, h2]; exact forceExcepted_agree _ _ e he
      · rw [h1, h2]
        refine ⟨enterNext_sh _ _ _ _ h3 hss, ?_⟩
        dsimp only
        rw [(enterNext_st_wfs c2 s).1, (enterNext_st_wfs c2 s).2, (enterNext_st_wfs d2 s').1, (enterNext_st_wfs d2 s').2,
          (enteringHooks_off _ h1).wfs, (enteringHooks_off _ h2).wfs]
        exact hn.afterExit
  · exact forceExcepted_agree _ _ _ h.sh

theorem Core.left {c c' d : Cfg} (h : Core c d) (f : PFrame c c') : Core c' d :=
  ⟨f.1.trans h.sh, by rw [f.2.1, f.2.2.1]; exact h.st, (congrArg ShRec.killing f.1).trans h.ckill, h.dint, h.dpaused⟩

theorem Core.right {c d d' : Cfg} (h : Core c d) (f : PFrame d d') (hi : d'.interrupt = none) (hp : d'.paused = none) :
    Core c d' :=
  ⟨h.sh.trans f.1.symm, by rw [f.2.1, f.2.2.1]; exact h.st, h.ckill, hi, hp⟩

theorem core_pc (c d : Cfg) (p q : Pc) (h : Core c d) : Core { c with pc := p } { d with pc := q } :=
  ⟨h.sh, h.st, h.ckill, h.dint, h.dpaused⟩

theorem core_stepping (c d : Cfg) (b : Bool) (h : Core c d) : Core { c with stepping := b } { d with stepping := b } :=
  ⟨congrArg (fun r : ShRec => { r with stepping := b }) h.sh, h.st, h.ckill, h.dint, h.dpaused⟩

theorem NextRel.frames {c c' d d' : Cfg} {s s' : SObj} (h : NextRel c d s s') (f : PFrame c c') (g : PFrame d d') :
    NextRel c' d' s s' := by
  unfold NextRel
  rw [f.2.1, f.2.2.1, g.2.1, g.2.2.1]; exact h

/-- the interrupt slot of the run with pauses is empty or holds a pause action that is pending or was retracted by play -/
def IntOk (c : Cfg) : Prop :=
  ∀ i, c.interrupt = some i → ∃ a, c.actions[i]? = some a ∧ a.kind = .pause ∧ (a.status = .pending ∨ a.status = .cancelled)

theorem IntOk.of_none {c : Cfg} (h : c.interrupt = none) : IntOk c := by
  intro i hi; rw [h] at hi; cases hi

theorem setInterrupt_core (c d : Cfg) (h : Core c d) : Core (setInterrupt c none) (setInterrupt d none) :=
  (h.left (.of_off (setInterrupt_off c none))).right (.of_off (setInterrupt_off d none)) (setInterrupt_interrupt d none)
    ((setInterrupt_off d none).paused.trans h.dpaused)

def transOpt (c : Cfg) (n : Option SObj) : Cfg :=
  match n with
  | some s => transitionTo c s
  | none => c

theorem runAction_pause (c : Cfg) (i : Nat) (a : Action) (next : Option SObj) (ha : c.actions[i]? = some a)
    (hk : a.kind = .pause) (hs : a.status = .pending) :
    runAction c i next = setActionStatus (doPauseHooks (transOpt c next)) i .done := by
  unfold runAction transOpt
  simp only [ha, hs, hk, ne_eq, not_true_eq_false, if_false]
  cases next <;> rfl

def NextOpt (c d : Cfg) (n n' : Option SObj) : Prop :=
  (n = none ∧ n' = none) ∨ ∃ s s', n = some s ∧ n' = some s' ∧ NextRel c d s s'

theorem NextOpt.frames {c c' d d' : Cfg} {n n' : Option SObj} (h : NextOpt c d n n') (f : PFrame c c') (g : PFrame d d') :
    NextOpt c' d' n n' := by
  rcases h with h | ⟨s, s', h1, h2, hr⟩
  · exact Or.inl h
  · exact Or.inr ⟨s, s', h1, h2, hr.frames f g⟩

theorem transOpt_core (c d : Cfg) (n n' : Option SObj) (h : Core c d) (hn : NextOpt c d n n') :
    Core (transOpt c n) (transOpt d n') := by
  rcases hn with ⟨rfl, rfl⟩ | ⟨s, s', rfl, rfl, hr⟩
  · exact h
  · exact transitionTo_core c d s s' h hr

theorem transOpt_pc (c : Cfg) (n : Option SObj) : (transOpt c n).pc = c.pc := by
  cases n with
  | none => rfl
  | some s => exact (transitionTo_off c s).pc

theorem dispatch_c (c : Cfg) (n : Option SObj) (hi : IntOk c) (hl : terminal c.st.label = false) :
    dispatch c n = transOpt c n ∨
    (∃ i, c.interrupt = some i ∧ dispatch c n = setActionStatus (doPauseHooks (transOpt c n)) i .done) := by
  cases hint : c.interrupt with
  | none => exact Or.inl (dispatch_plain c n hl (.of_none hint))
  | some i =>
    obtain ⟨a, ha, hk, hst⟩ := hi i hint
    have hst' : actionStatus c i = a.status := by simp [actionStatus, ha]
    rcases hst with hp | hc
    · right
      refine ⟨i, rfl, ?_⟩
      rw [← runAction_pause c i a n ha hk hp]
      unfold dispatch
      simp only [hl, hint, Bool.false_eq_true, if_false, hst', hp]
      simp
    · exact .inl (dispatch_plain c n hl fun j hj => by rw [hint] at hj; cases hj; exact hst'.trans hc)

theorem dispatch_core (c d : Cfg) (n n' : Option SObj) (h : Core c d) (hi : IntOk c) (hn : NextOpt c d n n') :
    Core (dispatch c n) (dispatch d n') ∧ (dispatch c n).pc = c.pc ∧ (dispatch d n').pc = d.pc := by
  by_cases hl : terminal c.st.label = true
  · have hl' : terminal d.st.label = true := by rw [← h.label]; exact hl
    rw [dispatch_terminal c n hl, dispatch_terminal d n' hl']; exact ⟨h, rfl, rfl⟩
  · have hlf : terminal c.st.label = false := by simpa using hl
    have hl' : terminal d.st.label = false := by rw [← h.label]; exact hlf
    rw [show dispatch d n' = transOpt d n' from dispatch_plain d n' hl' (.of_none h.dint)]
    have ht := transOpt_core c d n n' h hn
    rcases dispatch_c c n hi hlf with e | ⟨i, _, e⟩
    · rw [e]; exact ⟨ht, transOpt_pc c n, transOpt_pc d n'⟩
    · -- the pending pause is enacted after the transition
      have o := (doPauseHooks_off (transOpt c n)).trans (setActionStatus_off _ i .done)
      rw [e]
      exact ⟨(ht.left (doPauseHooks_pf _)).left (.of_off (setActionStatus_off ..)), o.pc.trans (transOpt_pc c n),
        transOpt_pc d n'⟩

theorem finally_core (c d : Cfg) (h : Core c d) :
    Core (finally_ c) (finally_ d) ∧ (finally_ c).interrupt = none ∧ (finally_ c).pc = c.pc ∧ (finally_ d).pc = d.pc ∧
    (finally_ c).stepping = false :=
  ⟨setInterrupt_core _ _ (core_stepping c d false h), setInterrupt_interrupt _ none, (finally_off c).pc, (finally_off d).pc,
    (setInterrupt_off { c with stepping := false } none).stepping⟩

theorem endOfStep_unfold (c : Cfg) (r : StepEnd) : endOfStep c r = finally_ (dispatch (prepare c r).1 (prepare c r).2) := rfl
theorem endOfStep_exception (c : Cfg) (e : Exc) : endOfStep c (.exception e) = endOfStep c (.next (some (.excepted e))) := rfl

theorem prepare_both (c d : Cfg) (n n' : Option SObj) (hn : NextOpt c d n n') :
    (prepare c (.next n) = (c, n) ∧ prepare d (.next n') = (d, n')) ∨
    (prepare c (.next n) = (setInterrupt c none, n) ∧ prepare d (.next n') = (setInterrupt d none, n')) := by
  rcases hn with ⟨rfl, rfl⟩ | ⟨s, s', rfl, rfl, ⟨rfl, _⟩ | ⟨fn, wf, aw, wf', w, rfl, rfl, _⟩⟩
  · exact Or.inl ⟨rfl, rfl⟩
  · cases s <;> first | exact Or.inl ⟨rfl, rfl⟩ | exact Or.inr ⟨rfl, rfl⟩
  · exact Or.inl ⟨rfl, rfl⟩

structure EndRel (c d c' d' : Cfg) : Prop where
  core : Core c' d'
  int : c'.interrupt = none
  pcc : c'.pc = c.pc
  pcd : d'.pc = d.pc
  stepping : c'.stepping = false

theorem endRel_of (c d c0 d0 : Cfg) (n n' : Option SObj) (h : Core c0 d0) (hi : IntOk c0) (hn : NextOpt c0 d0 n n')
    (hpc : c0.pc = c.pc) (hpd : d0.pc = d.pc) :
    EndRel c d (finally_ (dispatch c0 n)) (finally_ (dispatch d0 n')) := by
  obtain ⟨h1, h2, h3⟩ := dispatch_core c0 d0 n n' h hi hn
  obtain ⟨g1, g2, g3, g4, g5⟩ := finally_core _ _ h1
  exact ⟨g1, g2, g3.trans (h2.trans hpc), g4.trans (h3.trans hpd), g5⟩

theorem endOfStep_core (c d : Cfg) (n n' : Option SObj) (h : Core c d) (hi : IntOk c) (hn : NextOpt c d n n') :
    EndRel c d (endOfStep c (.next n)) (endOfStep d (.next n')) := by
  rw [endOfStep_unfold, endOfStep_unfold]
  rcases prepare_both c d n n' hn with ⟨e1, e2⟩ | ⟨e1, e2⟩
  · rw [e1, e2]; exact endRel_of c d c d n n' h hi hn rfl rfl
  · have oc := setInterrupt_off c none
    have od := setInterrupt_off d none
    rw [e1, e2]
    exact endRel_of c d _ _ n n' (setInterrupt_core c d h) (.of_none (setInterrupt_interrupt c none))
      (hn.frames (.of_off oc) (.of_off od)) oc.pc od.pc

theorem getElem?_append_of_some {α} (l : List α) (x : α) (i : Nat) (w : α) (h : l[i]? = some w) : (l ++ [x])[i]? = some w := by
  have hlt : i < l.length := (List.getElem?_eq_some_iff.mp h).1
  rw [List.getElem?_append_left hlt]; exact h

theorem SRel.append {cw dw : List WF} {s s' : SObj} (x y : WF) (h : SRel cw dw s s') : SRel (cw ++ [x]) (dw ++ [y]) s s' := by
  rcases h with h | ⟨fn, wf, aw, wf', w, h1, h2, h3, h4, h5⟩
  · exact Or.inl h
  · exact Or.inr ⟨fn, wf, aw, wf', w, h1, h2, getElem?_append_of_some _ _ _ _ h3, getElem?_append_of_some _ _ _ _ h4, h5⟩

theorem SRel.ptr_lt {cw dw : List WF} {s s' : SObj} (h : SRel cw dw s s') :
    (∀ f w wk aw, s = .waiting f w wk aw → w < cw.length) ∧ (∀ f w wk aw, s' = .waiting f w wk aw → w < dw.length) := by
  rcases h with ⟨rfl, hnw⟩ | ⟨fn, wf, aw, wf', w, rfl, rfl, h3, h4, h5⟩
  · exact ⟨fun f w wk aw hs => absurd hs (hnw _ _ _ _), fun f w wk aw hs => absurd hs (hnw _ _ _ _)⟩
  · exact ⟨fun f w' wk aw' hs => by cases hs; exact (List.getElem?_eq_some_iff.mp h3).1,
      fun f w' wk aw' hs => by cases hs; exact (List.getElem?_eq_some_iff.mp h4).1⟩

theorem NextOpt.same (c d : Cfg) {s : SObj} (h : NotWaiting s) : NextOpt c d (some s) (some s) :=
  Or.inr ⟨_, _, rfl, rfl, Or.inl ⟨rfl, h⟩⟩

theorem running_notWaiting (fn : Nat) (a : List Val) (k : List (Nat × Val)) : NotWaiting (.running fn a k) := by
  intro _ _ _ _ h; cases h

theorem alloc_core (c d : Cfg) (fn : Nat) (aw : List (Nat × Nat)) (h : Core c d) :
    Core { c with wfs := c.wfs ++ [.pending] } { d with wfs := d.wfs ++ [.pending] } ∧
    NextRel { c with wfs := c.wfs ++ [.pending] } { d with wfs := d.wfs ++ [.pending] }
      (.waiting fn c.wfs.length none aw) (.waiting fn d.wfs.length none aw) := by
  obtain ⟨p1, p2⟩ := h.st.ptr_lt
  exact ⟨⟨h.sh, h.st.append _ _, h.ckill, h.dint, h.dpaused⟩,
    Or.inr ⟨fn, c.wfs.length, aw, d.wfs.length, .pending, rfl, rfl, by simp, by simp, fun k hk => (by cases hk),
      fun f w wk aw' hs => Nat.ne_of_lt (p1 f w wk aw' hs), fun f w wk aw' hs => Nat.ne_of_lt (p2 f w wk aw' hs)⟩⟩

theorem cmdToState_core (c d : Cfg) (cmd : Cmd) (h : Core c d) :
    Core (cmdToState c cmd).1 (cmdToState d cmd).1 ∧
    NextRel (cmdToState c cmd).1 (cmdToState d cmd).1 (cmdToState c cmd).2 (cmdToState d cmd).2 := by
  cases cmd with
  | cont fn args kw => exact ⟨h, Or.inl ⟨rfl, running_notWaiting _ _ _⟩⟩
  | stop v ok => exact ⟨h, Or.inl ⟨rfl, by intro a b c d h; cases h⟩⟩
  | kill => exact ⟨h, Or.inl ⟨rfl, by intro a b c d h; cases h⟩⟩
  | wait fn => exact alloc_core c d fn [] h
  | waitOn fn aw => exact alloc_core c d fn aw h

theorem IntOk.of_eq {c c' : Cfg} (h : IntOk c) (h1 : c'.interrupt = c.interrupt) (h2 : c'.actions = c.actions) : IntOk c' := by
  intro i hi; rw [h1] at hi; rw [h2]; exact h i hi

theorem finishUser_core (c d : Cfg) (o : Outcome) (h : Core c d) (hi : IntOk c) :
    EndRel c d (finishUser c o) (finishUser d o) := by
  cases o with
  | raise e => exact endOfStep_core c d _ _ h hi (.same c d (excepted_notWaiting e))
  | ret cmd =>
    obtain ⟨h1, h2⟩ := cmdToState_core c d cmd h
    have oc := cmdToState_off c cmd
    have := endOfStep_core (cmdToState c cmd).1 (cmdToState d cmd).1 _ _ h1 (hi.of_eq oc.interrupt oc.actions)
      (Or.inr ⟨_, _, rfl, rfl, h2⟩)
    exact ⟨this.core, this.int, this.pcc.trans oc.pc, this.pcd.trans (cmdToState_off d cmd).pc, this.stepping⟩

theorem wake_core (c d : Cfg) (fn wf wf' : Nat) (w : WF) (h : Core c d) (hi : IntOk c) (hw : ∀ k, w ≠ .interrupted k)
    (hp : w ≠ .pending) : EndRel c d (wake c fn wf w) (wake d fn wf' w) := by
  cases w with
  | pending => exact absurd rfl hp
  | interrupted k => exact absurd rfl (hw k)
  | result v => exact endOfStep_core c d _ _ h hi (.same c d (running_notWaiting _ _ _))
  | failed e =>
    show EndRel c d (endOfStep c (.exception e)) (endOfStep d (.exception e))
    rw [endOfStep_exception, endOfStep_exception]
    exact endOfStep_core c d _ _ h hi (.same c d (excepted_notWaiting e))

def NotCrashed (c : Cfg) : Prop := ∀ e, c.pc ≠ .crashed e

/-- the stepping task would block on the pause future -/
def heldB (c : Cfg) : Bool :=
  match c.paused with
  | some pf => c.pfs[pf]? == some false
  | none => false

theorem heldB_iff (c : Cfg) : heldB c = true ↔ ∃ pf, c.paused = some pf ∧ c.pfs[pf]? = some false := by
  unfold heldB
  constructor
  · intro h
    split at h
    · rename_i pf hp
      exact ⟨pf, hp, by simpa using h⟩
    · cases h
  · rintro ⟨pf, hp, hf⟩
    rw [hp]
    simp [hf]

theorem Unheld.of_heldB {c : Cfg} (h : heldB c = false) : Unheld c := fun pf hp hf =>
  absurd ((heldB_iff c).mpr ⟨pf, hp, hf⟩) (by rw [h]; decide)

theorem loopHead_held (P : Prog) (m : Nat) (c : Cfg) (hn : NotCrashed c) (ht : terminal c.st.label = false)
    (hc : c.closed = false) (pf : Nat) (hp : c.paused = some pf) (hf : c.pfs[pf]? = some false) :
    loopHead P (m + 1) c = { c with pc := .awaitPaused pf } := loopHead_blocked P m c pf hn ht hc hp hf

theorem loopDone_unheld (P : Prog) (m : Nat) (c : Cfg) (hn : NotCrashed c) (ht : terminal c.st.label = false)
    (hc : c.closed = false) (hh : Unheld c) : loopDone P (m + 1) c = stepDoneK P (loopDone P m) c := by
  unfold loopDone; split
  · rename_i e he; exact absurd he (hn e)
  · simp only [ht, hc, Bool.false_eq_true, if_false]
    split
    · rename_i pf hp
      exact if_neg (hh pf hp)
    · rfl

theorem loopDone_go (P : Prog) (m : Nat) (c : Cfg) (hn : NotCrashed c) (ht : terminal c.st.label = false)
    (hc : c.closed = false) (hp : c.paused = none) : loopDone P (m + 1) c = stepDoneK P (loopDone P m) c :=
  loopDone_unheld P m c hn ht hc fun _ h => by rw [hp] at h; cases h

/-- between two steps of the loop run by one tick (the program counters are stale there) -/
structure Mid (c d : Cfg) : Prop where
  core : Core c d
  int : c.interrupt = none
  stepping : c.stepping = false
  ncc : NotCrashed c
  ncd : NotCrashed d

def isRunningPc : Pc → Bool
  | .inUser _ => true
  | .awaitWaiting _ => true
  | _ => false

/-- the stepping tasks of the two runs are suspended at the same point -/
def PcRelAt : Pc → Cfg → Cfg → Prop
  | .awaitWaiting wf, c, d =>
      ∃ fn wk aw wf', c.st = .waiting fn wf wk aw ∧ d.st = .waiting fn wf' none aw ∧ d.pc = .awaitWaiting wf'
  | .inUser b, c, d => d.pc = .inUser b ∧ ∃ fn args kw, c.st = .running fn args kw
  | .awaitPaused _, _, _ => False
  | p, _, d => d.pc = p

/-- both runs are at the same point of the same step; a pause may have been requested (`interrupt` set) but has not
taken effect -/
structure InStep (c d : Cfg) : Prop where
  core : Core c d
  intOk : IntOk c
  pc : PcRelAt c.pc c d
  run : isRunningPc c.pc = true → c.stepping = true ∧ c.paused = none
  idle : isRunningPc c.pc = false → c.stepping = false ∧ c.interrupt = none

/-- the run with pauses is held at (or released from, but not yet woken after) a pause future; the reference run has
already executed the loop from that point on -/
def Lag (P : Prog) (c d : Cfg) : Prop :=
  isAwaitPaused c.pc = true ∧ ∃ d0 n, n ≤ fuel0 ∧ loopDone P n d0 = true ∧ d = loopHead P n d0 ∧ Mid c d0

/-- a pause was requested while both runs wait on a pending future: the run with pauses has interrupted its future and
will re-arm the wait at the next tick -/
structure QW (c d : Cfg) : Prop where
  sh : sh c = sh d
  ckill : c.killing = none
  dint : d.interrupt = none
  dpaused : d.paused = none
  wait : ∃ fn wf aw wf' k, c.st = .waiting fn wf none aw ∧ d.st = .waiting fn wf' none aw ∧
    c.wfs[wf]? = some (.interrupted k) ∧ d.wfs[wf']? = some .pending ∧ c.pc = .awaitWaiting wf ∧ d.pc = .awaitWaiting wf'
  intOk : IntOk c
  intSome : c.interrupt ≠ none
  stepping : c.stepping = true
  paused : c.paused = none

def SL (P : Prog) (c d : Cfg) : Prop := InStep c d ∨ Lag P c d

def Sim (P : Prog) (c d : Cfg) : Prop := InStep c d ∨ QW c d ∨ Lag P c d

theorem live_of_label {s : SObj} : (∃ fn, s = .created fn) ∨ (∃ fn a k, s = .running fn a k) ∨
    (∃ fn wf wk aw, s = .waiting fn wf wk aw) → terminal s.label = false := by
  rintro (⟨fn, rfl⟩ | ⟨fn, a, k, rfl⟩ | ⟨fn, wf, wk, aw, rfl⟩) <;> simp [SObj.label, terminal, allowed]

theorem live_cases {s : SObj} (h : terminal s.label = false) : (∃ fn, s = .created fn) ∨ (∃ fn a k, s = .running fn a k) ∨
    (∃ fn wf wk aw, s = .waiting fn wf wk aw) := by
  cases s with
  | created fn => exact Or.inl ⟨fn, rfl⟩
  | running fn a k => exact Or.inr (Or.inl ⟨fn, a, k, rfl⟩)
  | waiting fn wf wk aw => exact Or.inr (Or.inr ⟨fn, wf, wk, aw, rfl⟩)
  | _ => simp [SObj.label, terminal, allowed] at h

theorem stepDoneK_eq (P : Prog) (k : Cfg → Bool) (c : Cfg) :
    stepDoneK P k c = match stepNext P c with | some e => k e | none => true := by
  unfold stepDoneK stepNext; dsimp only
  cases c.st with
  | running fn a kw => dsimp only; split <;> rfl
  | waiting fn wf wk aw =>
    dsimp only
    cases c.wfs[wf]? with
    | none => rfl
    | some w => cases w <;> rfl
  | _ => rfl

theorem tick_entry (P : Prog) (c c0 : Cfg) (h : tickEntry c = some c0) :
    (∀ n, tickF P n c = loopHead P n c0) ∧ tickDone P c = loopDone P fuel0 c0 := by
  cases hpc : c.pc with
  | notStarted => simp only [tickEntry, hpc] at h; cases h; exact ⟨fun _ => by simp only [tickF, hpc], by simp only [tickDone, hpc]⟩
  | inUser b =>
    simp only [tickEntry, hpc] at h
    split at h
    · rename_i ha; cases h; exact ⟨fun _ => by simp only [tickF, hpc, ha, if_true], by simp only [tickDone, hpc, ha, if_true]⟩
    · cases h
  | awaitWaiting wf =>
    cases hw : c.wfs[wf]? with
    | none => simp only [tickEntry, hpc, hw] at h; cases h
    | some w =>
      cases w <;> simp only [tickEntry, hpc, hw] at h <;> cases h <;>
        exact ⟨fun _ => by simp only [tickF, hpc, hw]; rfl, by simp only [tickDone, hpc, hw]; rfl⟩
  | awaitPaused _ | done | crashed _ => simp only [tickEntry, hpc] at h; cases h

theorem mid_of_end {c d e e' : Cfg} (he : EndRel c d e e') (hc : NotCrashed c) (hd : NotCrashed d) : Mid e e' :=
  ⟨he.core, he.int, he.stepping, fun x hx => hc x (he.pcc ▸ hx), fun x hx => hd x (he.pcd ▸ hx)⟩

theorem stepNext_mid (P : Prog) (c d : Cfg) (hm : Mid c d) (hp : c.paused = none) :
    (stepNext P c = none ∧ stepNext P d = none ∧ InStep (stepSusp P c) (stepSusp P d) ∧
      isRunningPc (stepSusp P c).pc = true ∧
      ∀ b, (stepSusp P d).pc = .inUser b → ∃ fn args kw, b.out = (P fn args kw d.ctx).out) ∨
    (∃ e e', stepNext P c = some e ∧ stepNext P d = some e' ∧ Mid e e') := by
  have hc1 : Core { c with stepping := true } { d with stepping := true } := core_stepping c d true hm.core
  have hi1 : IntOk { c with stepping := true } := IntOk.of_none hm.int
  have cont : ∀ {c1 d1 e e'}, EndRel c1 d1 e e' → c1.pc = c.pc → d1.pc = d.pc → Mid e e' := fun he hpc hpd =>
    mid_of_end he (fun x hx => hm.ncc x (hpc ▸ hx)) (fun x hx => hm.ncd x (hpd ▸ hx))
  rcases hm.core.st with ⟨heq, hnw⟩ | ⟨fn, wf, aw, wf', w, h1, h2, h3, h4, h5⟩
  · by_cases ht : terminal c.st.label = true
    · right
      exact ⟨_, _, stepNext_terminal P c ht, stepNext_terminal P d (heq ▸ ht),
        cont (endOfStep_core _ _ _ _ hc1 hi1 (Or.inl ⟨rfl, rfl⟩)) rfl rfl⟩
    rcases live_cases (by simpa using ht) with ⟨fn, hst⟩ | ⟨fn, args, kw, hst⟩ | ⟨fn, wf, wk, aw, hst⟩
    · right
      exact ⟨_, _, stepNext_created P c fn hst, stepNext_created P d fn (heq ▸ hst),
        cont (endOfStep_core _ _ _ _ hc1 hi1 (.same _ _ (running_notWaiting _ _ _))) rfl rfl⟩
    · have hst' : d.st = .running fn args kw := heq ▸ hst
      have hb : P fn args kw d.ctx = P fn args kw c.ctx := congrArg (P fn args kw ·.ctx) hm.core.sh.symm
      have hpz : d.paused.isSome = c.paused.isSome := by rw [hp, hm.core.dpaused]
      rw [stepNext_running P c fn args kw hst, stepNext_running P d fn args kw hst', stepSusp_running P c fn args kw hst,
        stepSusp_running P d fn args kw hst', hb, hpz]
      generalize ({ fn := fn, args := args, kw := kw, paused := c.paused.isSome } : Act) = a
      have hc2 : Core { c with stepping := true, trace := a :: c.trace } { d with stepping := true, trace := a :: d.trace } :=
        ⟨congrArg (fun r : ShRec => { r with stepping := true, trace := a :: r.trace }) hm.core.sh, hm.core.st, hm.core.ckill,
          hm.core.dint, hm.core.dpaused⟩
      by_cases ha : (P fn args kw c.ctx).awaits = 0
      · right
        rw [if_pos ha, if_pos ha]
        exact ⟨_, _, rfl, rfl, cont (finishUser_core _ _ _ hc2 hi1) rfl rfl⟩
      · left
        rw [if_neg ha, if_neg ha]
        exact ⟨rfl, rfl, ⟨core_pc _ _ _ _ hc2, hi1, ⟨rfl, fn, args, kw, hst⟩, fun _ => ⟨rfl, hp⟩,
          fun h => by simp [isRunningPc] at h⟩, rfl, fun b hb' => ⟨fn, args, kw, by cases hb'; rw [hb]⟩⟩
    · exact absurd hst (hnw _ _ _ _)
  · by_cases hw : w = .pending
    · subst hw
      left
      rw [stepSusp_waiting_pending P c fn wf none aw h1 h3, stepSusp_waiting_pending P d fn wf' none aw h2 h4]
      exact ⟨stepNext_waiting_pending P c fn wf none aw h1 h3, stepNext_waiting_pending P d fn wf' none aw h2 h4,
        ⟨core_pc _ _ _ _ hc1, hi1, ⟨fn, none, aw, wf', h1, h2, rfl⟩, fun _ => ⟨rfl, hp⟩, fun h => by simp [isRunningPc] at h⟩,
        rfl, fun b hb => nomatch hb⟩
    · right
      exact ⟨_, _, stepNext_waiting_done P c fn wf none aw w h1 h3 hw, stepNext_waiting_done P d fn wf' none aw w h2 h4 hw,
        cont (wake_core _ _ fn wf wf' w hc1 hi1 h5 hw) rfl rfl⟩

theorem stepBodyK_sim (P : Prog) (k kd : Cfg → Cfg) (kD : Cfg → Bool)
    (hk : ∀ e e', Mid e e' → InvP e → kD e' = true → SL P (k e) (kd e'))
    (c d : Cfg) (hm : Mid c d) (hp : c.paused = none) (hinv : InvP c)
    (hl : terminal c.st.label = false) (hD : stepDoneK P kD d = true) : SL P (stepBodyK P k c) (stepBodyK P kd d) := by
  have _ := hl  -- not needed: on a terminated process both runs only close a step (`stepNext_terminal`)
  have hie := invP_closed.stepBodyK P (k := id) (fun _ h => h) c (fun _ pf h => by rw [hp] at h; cases h) hinv
  rw [stepBodyK_eq] at hie
  rw [stepBodyK_eq, stepBodyK_eq]
  rw [stepDoneK_eq] at hD
  rcases stepNext_mid P c d hm hp with ⟨h1, h2, h3, _⟩ | ⟨e, e', h1, h2, h3⟩
  · rw [h1, h2]; exact .inl h3
  · rw [h1] at hie
    rw [h2] at hD
    rw [h1, h2]; exact hk e e' h3 hie hD

theorem inStep_idle (c d : Cfg) (p : Pc) (hm : Mid c d) (hp : isRunningPc p = false) (hap : isAwaitPaused p = false) :
    InStep { c with pc := p } { d with pc := p } := by
  refine ⟨core_pc _ _ _ _ hm.core, IntOk.of_none hm.int, ?_, fun h => ?_, fun _ => ⟨hm.stepping, hm.int⟩⟩
  · show PcRelAt p _ _
    cases p with
    | inUser b => cases hp
    | awaitWaiting wf => cases hp
    | awaitPaused pf => cases hap
    | _ => rfl
  · exact absurd (hp ▸ h : false = true) (by decide)

theorem Mid.setPc {c d : Cfg} (h : Mid c d) (pf : Nat) : Mid { c with pc := .awaitPaused pf } d :=
  ⟨⟨h.core.sh, h.core.st, h.core.ckill, h.core.dint, h.core.dpaused⟩, h.int, h.stepping, fun _ he => (by cases he), h.ncd⟩

theorem Mid.frame {c c' d : Cfg} (h : Mid c d) (f : PFrame c c') (hi : c'.interrupt = none) : Mid c' d :=
  ⟨h.core.left f, hi, (congrArg ShRec.stepping f.1).trans h.stepping, fun e he => h.ncc e (f.2.2.2 ▸ he), h.ncd⟩

theorem loopHead_sim (P : Prog) : ∀ (n m : Nat) (c d : Cfg), n ≤ m → n ≤ fuel0 → Mid c d → InvP c →
    loopDone P n d = true → SL P (loopHead P m c) (loopHead P n d) := by
  intro n
  induction n with
  | zero => intro m c d _ _ _ _ hD; simp [loopDone] at hD
  | succ n ih =>
    intro m c d hnm hnf hm hinv hD
    obtain ⟨m', rfl⟩ : ∃ m', m = m' + 1 := ⟨m - 1, by omega⟩
    have hlab := hm.core.label
    have hcl : c.closed = d.closed := congrArg ShRec.closed hm.core.sh
    by_cases ht : terminal c.st.label = true
    · rw [loopHead_term P m' c hm.ncc ht, loopHead_term P n d hm.ncd (hlab ▸ ht)]
      exact Or.inl (inStep_idle c d .done hm rfl rfl)
    · have htf : terminal c.st.label = false := by simpa using ht
      have htd : terminal d.st.label = false := hlab ▸ htf
      by_cases hc : c.closed = true
      · rw [loopHead_closed P m' c hm.ncc htf hc, loopHead_closed P n d hm.ncd htd (hcl ▸ hc)]
        exact Or.inl (inStep_idle c d (.crashed .closedErr) hm rfl rfl)
      · have hcf : c.closed = false := by simpa using hc
        cases hp : c.paused with
        | some pf =>
          rw [loopHead_blocked P m' c pf hm.ncc htf hcf hp (hinv.pausedPending htf pf hp)]
          exact Or.inr ⟨rfl, d, n + 1, hnf, hD, rfl, hm.setPc pf⟩
        | none =>
          rw [loopHead_step P m' c hm.ncc htf hcf hp,
            loopHead_step P n d hm.ncd htd (hcl ▸ hcf) hm.core.dpaused]
          rw [loopDone_go P n d hm.ncd htd (hcl ▸ hcf) hm.core.dpaused] at hD
          exact stepBodyK_sim P _ _ _ (fun e e' hme hie hde => ih m' e e' (by omega) (by omega) hme hie hde)
            c d hm hp hinv htf hD

theorem SRel.waiting_inv {cw dw : List WF} {s s' : SObj} {fn wf : Nat} {wk aw} (h : SRel cw dw s s')
    (hs : s = .waiting fn wf wk aw) :
    ∃ wf' w, wk = none ∧ s' = .waiting fn wf' none aw ∧ cw[wf]? = some w ∧ dw[wf']? = some w ∧ ∀ k, w ≠ .interrupted k := by
  rcases h with ⟨_, hnw⟩ | ⟨fn0, wf0, aw0, wf0', w, h1, h2, h3, h4, h5⟩
  · exact absurd hs (hnw _ _ _ _)
  · rw [hs] at h1; cases h1
    exact ⟨wf0', w, rfl, h2, h3, h4, h5⟩

theorem InStep.at_wait {c d : Cfg} (h : InStep c d) {wf : Nat} (hpc : c.pc = .awaitWaiting wf) :
    ∃ fn aw wf' w, c.st = .waiting fn wf none aw ∧ d.st = .waiting fn wf' none aw ∧ d.pc = .awaitWaiting wf' ∧
      c.wfs[wf]? = some w ∧ d.wfs[wf']? = some w ∧ ∀ k, w ≠ .interrupted k := by
  have hp := h.pc
  rw [hpc] at hp
  obtain ⟨fn, wk, aw, wf', hst, hst', hpd⟩ := hp
  obtain ⟨wf2, w, rfl, hst2, hw, hw', hni⟩ := h.core.st.waiting_inv hst
  rw [hst'] at hst2; cases hst2
  exact ⟨fn, aw, wf', w, hst, hst', hpd, hw, hw', hni⟩

theorem NotCrashed.of_pc {c : Cfg} {p : Pc} (h : c.pc = p) (hp : ∀ e, p ≠ .crashed e := by intro e he; cases he) :
    NotCrashed c := fun e he => hp e (h ▸ he)

theorem InStep.not_awaitPaused {c d : Cfg} (h : InStep c d) : isAwaitPaused c.pc = false ∧ isAwaitPaused d.pc = false := by
  have hpcr := h.pc
  cases hpc : c.pc with
  | awaitPaused pf => rw [hpc] at hpcr; exact hpcr.elim
  | notStarted | done | crashed _ => rw [hpc] at hpcr; have : d.pc = _ := hpcr; rw [this]; exact ⟨rfl, rfl⟩
  | inUser b => rw [hpc] at hpcr; rw [hpcr.1]; exact ⟨rfl, rfl⟩
  | awaitWaiting wf => rw [hpc] at hpcr; obtain ⟨_, _, _, wf', _, _, hpd⟩ := hpcr; rw [hpd]; exact ⟨rfl, rfl⟩

theorem tickEntry_inStep (P : Prog) (c d : Cfg) (h : InStep c d) :
    (tickEntry c = none ∧ tickEntry d = none ∧ InStep (tickF P 0 c) (tickF P 0 d)) ∨
    (∃ c0 d0, tickEntry c = some c0 ∧ tickEntry d = some d0 ∧ Mid c0 d0) := by
  have hpcr := h.pc
  cases hpc : c.pc with
  | notStarted =>
    rw [hpc] at hpcr
    have hpd : d.pc = .notStarted := hpcr
    obtain ⟨hs, hi⟩ := h.idle (by rw [hpc]; rfl)
    exact .inr ⟨c, d, by simp only [tickEntry, hpc], by simp only [tickEntry, hpd], h.core, hi, hs, .of_pc hpc, .of_pc hpd⟩
  | done | crashed _ =>
    rw [hpc] at hpcr
    have hpd : d.pc = _ := hpcr
    have e1 : tickF P 0 c = c := by simp only [tickF, hpc]
    have e2 : tickF P 0 d = d := by simp only [tickF, hpd]
    rw [e1, e2]
    exact .inl ⟨by simp only [tickEntry, hpc], by simp only [tickEntry, hpd], h⟩
  | awaitPaused pf => rw [hpc] at hpcr; exact hpcr.elim
  | inUser b =>
    rw [hpc] at hpcr
    obtain ⟨hpd, fn, args, kw, hst⟩ := hpcr
    by_cases ha : b.awaits = 0
    · exact .inr ⟨finishUser c b.out, finishUser d b.out, by simp only [tickEntry, hpc, ha, if_true],
        by simp only [tickEntry, hpd, ha, if_true],
        mid_of_end (finishUser_core c d b.out h.core h.intOk) (.of_pc hpc) (.of_pc hpd)⟩
    · have e1 : tickF P 0 c = { c with pc := .inUser { b with awaits := b.awaits - 1 } } := by simp only [tickF, hpc, ha, if_false]
      have e2 : tickF P 0 d = { d with pc := .inUser { b with awaits := b.awaits - 1 } } := by simp only [tickF, hpd, ha, if_false]
      rw [e1, e2]
      exact .inl ⟨by simp only [tickEntry, hpc, ha, if_false], by simp only [tickEntry, hpd, ha, if_false],
        core_pc _ _ _ _ h.core, h.intOk.of_eq rfl rfl, ⟨rfl, fn, args, kw, hst⟩, fun _ => h.run (by rw [hpc]; rfl),
        fun hh => by simp [isRunningPc] at hh⟩
  | awaitWaiting wf =>
    obtain ⟨fn, aw, wf', w, hst, hst', hpd, hw, hw', hni⟩ := h.at_wait hpc
    by_cases hwp : w = .pending
    · subst hwp
      have e1 : tickF P 0 c = c := by simp only [tickF, hpc, hw]
      have e2 : tickF P 0 d = d := by simp only [tickF, hpd, hw']
      rw [e1, e2]
      exact .inl ⟨by simp only [tickEntry, hpc, hw], by simp only [tickEntry, hpd, hw'], h⟩
    · exact .inr ⟨_, _, tickEntry_wait_done c fn wf none aw w hpc hst hw hwp, tickEntry_wait_done d fn wf' none aw w hpd hst' hw' hwp,
        mid_of_end (wake_core c d fn wf wf' w h.core h.intOk hni hwp) (.of_pc hpc) (.of_pc hpd)⟩

theorem tick_inStep (P : Prog) (c d : Cfg) (h : InStep c d) (hinv : InvP c) (hD : tickDone P d = true) :
    SL P (tickStepper P c) (tickStepper P d) := by
  rw [← tickF_fuel0, ← tickF_fuel0]
  rcases tickEntry_inStep P c d h with ⟨h1, h2, h3⟩ | ⟨c0, d0, h1, h2, h3⟩
  · rw [tickF_idle P fuel0 c h1 h.not_awaitPaused.1, tickF_idle P fuel0 d h2 h.not_awaitPaused.2]; exact .inl h3
  · rw [(tick_entry P c c0 h1).1, (tick_entry P d d0 h2).1]
    rw [(tick_entry P d d0 h2).2] at hD
    exact loopHead_sim P fuel0 fuel0 c0 d0 (Nat.le_refl _) (Nat.le_refl _) h3 (invP_closed.tickEntry h1 hinv) hD

/-- the stepping task notices the interruption of its wait: it re-arms the wait with the parked outcome (or as pending) and
ends the step without a next state -/
theorem wake_interrupted_dispatch (c : Cfg) (fn wf k f : Nat) (wk) (aw : List (Nat × Nat)) (hst : c.st = .waiting f wf wk aw)
    (hi : c.interrupt ≠ none) :
    wake c fn wf (.interrupted k) =
      finally_ (dispatch { c with st := .waiting f c.wfs.length none aw, wfs := c.wfs ++ [wk.getD .pending] } none) := by
  rw [wake_interrupted c fn wf k _ hst rfl, endOfStep_unfold]
  cases hint : c.interrupt with
  | none => exact absurd hint hi
  | some i => simp only [prepare]

theorem endNone_mid (c d : Cfg) (h : Core c d) (hi : IntOk c) (hl : terminal d.st.label = false) (hc : NotCrashed c)
    (hd : NotCrashed d) : Mid (finally_ (dispatch c none)) { d with stepping := false, interrupt := none } := by
  have hm := mid_of_end (endRel_of c d c d none none h hi (Or.inl ⟨rfl, rfl⟩) rfl rfl) hc hd
  have e : finally_ (dispatch d none) = { d with stepping := false, interrupt := none } := by
    rw [show dispatch d none = d from dispatch_plain d none hl (.of_none h.dint)]
    unfold finally_ setInterrupt
    simp only [h.dint]
  rwa [e] at hm

theorem unfinished_eq (d : Cfg) (p : Pc) (hs : d.stepping = true) (hi : d.interrupt = none) (hp : d.pc = p) :
    ({ ({ d with stepping := false, interrupt := none } : Cfg) with stepping := true, pc := p } : Cfg) = d := by
  cases d
  simp only at hs hi hp
  subst hs hi hp
  rfl

theorem fuel0_ge_one : 1 ≤ fuel0 := by unfold fuel0; omega

/-- the tick after a pause request that hit a pending wait: the run with pauses re-arms its wait and then either pauses
or (the request was retracted) waits again; the reference run does nothing -/
theorem tick_qw (P : Prog) (c d : Cfg) (h : QW c d) (hinv : InvP c) (hI : Inv c) :
    SL P (tickStepper P c) d ∧ tickStepper P d = d := by
  obtain ⟨fn, wf, aw, wf', k, hst, hst', hw, hw', hpc, hpd⟩ := h.wait
  refine ⟨?_, tickStepper_wait_pending P d wf' hpd hw'⟩
  rw [tickStepper_wait_done P c fn wf none aw (.interrupted k) hpc hst hw (by intro x; cases x)]
  have hwinv := invP_closed.wake c fn wf (.interrupted k) hinv
  rw [wake_interrupted_dispatch c fn wf k fn none aw hst h.intSome] at hwinv ⊢
  have hlive : terminal d.st.label = false := by rw [hst']; rfl
  have hm := endNone_mid { c with st := .waiting fn c.wfs.length none aw, wfs := c.wfs ++ [.pending] } d
    ⟨h.sh, Or.inr ⟨fn, c.wfs.length, aw, wf', .pending, rfl, hst', by simp, hw', fun x hx => by cases hx⟩, h.ckill, h.dint, h.dpaused⟩
    (h.intOk.of_eq rfl rfl) hlive (.of_pc hpc) (.of_pc hpd)
  -- the reference side is `d` with the stepping flag cleared; one loop iteration restores `d`
  have hcl : d.closed = false :=
    (congrArg ShRec.closed h.sh).symm.trans (not_closed_of_live hI (by rw [hst]; rfl))
  have hl1 : loopHead P 1 { d with stepping := false, interrupt := none } = d := by
    rw [loopHead_step P 0 _ hm.ncd hlive hcl h.dpaused,
      stepBodyK_waiting_pending P _ { d with stepping := false, interrupt := none } fn wf' none aw hst' hw']
    exact unfinished_eq d _ ((congrArg ShRec.stepping h.sh).symm.trans h.stepping) h.dint hpd
  have hD1 : loopDone P 1 { d with stepping := false, interrupt := none } = true := by
    rw [loopDone_go P 0 _ hm.ncd hlive hcl h.dpaused]
    rw [stepDoneK_eq, stepNext_waiting_pending P { d with stepping := false, interrupt := none } fn wf' none aw hst' hw']
  have := loopHead_sim P 1 fuel0 _ _ fuel0_ge_one fuel0_ge_one hm hwinv hD1
  rwa [hl1] at this

theorem endOfStep_terminal_pf (c : Cfg) (ht : terminal c.st.label = true) (hs : c.stepping = false) :
    PFrame c (endOfStep { c with stepping := true } (.next none)) ∧
    (endOfStep { c with stepping := true } (.next none)).interrupt = none := by
  rw [endOfStep_unfold, prepare_next _ none (by intro e he; cases he),
    show dispatch _ none = { c with stepping := true } from dispatch_terminal _ none ht]
  have f : PFrame c { ({ c with stepping := true } : Cfg) with stepping := false } := ⟨by rw [← hs], rfl, rfl, rfl⟩
  exact ⟨f.trans (.of_off (setInterrupt_off _ none)), setInterrupt_interrupt _ none⟩

/-- the tick wakes the stepping task from a released pause future and starts the next step -/
def runsBody (c : Cfg) : Bool :=
  match c.pc with
  | .awaitPaused pf =>
      c.pfs[pf]? == some true &&
        (match c.paused with
         | some pf' => !(c.pfs[pf']? == some false)
         | none => true)
  | _ => false

theorem tickStepper_runsBody (P : Prog) (c : Cfg) (h : runsBody c = true) : tickStepper P c = stepBody P fuel0 c := by
  unfold runsBody at h
  unfold tickStepper
  split at h
  · rename_i pf hpc
    rw [hpc]
    simp only [Bool.and_eq_true, beq_iff_eq] at h
    dsimp only
    rw [if_pos h.1]
    split
    · rename_i pf' hpa
      rw [hpa] at h
      have h2 := h.2
      simp only [Bool.not_eq_true', beq_eq_false_iff_ne, ne_eq] at h2
      rw [if_neg h2]
    · rfl
  · cases h

/-- a tick that finds the stepping task on a pause future and does not start a step: nothing happens (the future is pending), or the
task, released, is suspended again on a newer pause future -/
theorem tickStepper_held_elim {Q : Cfg → Prop} (P : Prog) (c : Cfg) (hap : isAwaitPaused c.pc = true) (h : runsBody c = false)
    (hsame : Q c) (hagain : ∀ pf', Q { c with pc := .awaitPaused pf' }) : Q (tickStepper P c) := by
  unfold runsBody at h
  unfold tickStepper
  split at h
  · rename_i pf hpc
    rw [hpc]
    dsimp only
    by_cases h1 : c.pfs[pf]? = some true
    · rw [if_pos h1]
      simp only [h1, beq_self_eq_true, Bool.true_and] at h
      split
      · rename_i pf' hpa
        rw [hpa] at h
        simp only [Bool.not_eq_false', beq_iff_eq] at h
        rw [if_pos h]
        exact hagain pf'
      · rename_i hpa
        rw [hpa] at h; cases h
    · rw [if_neg h1]; exact hsame
  · rename_i hne
    cases hpc : c.pc with
    | awaitPaused pf => exact absurd hpc (hne pf)
    | _ => rw [hpc] at hap; cases hap

theorem runsBody_paused (c : Cfg) (hinv : InvP c) (hl : terminal c.st.label = false) (h : runsBody c = true) :
    c.paused = none := by
  cases hp : c.paused with
  | none => rfl
  | some pf' =>
    have := hinv.pausedPending hl pf' hp
    unfold runsBody at h
    split at h
    · rw [hp] at h
      simp [this] at h
    · cases h

theorem loopDone_pos {P : Prog} {n : Nat} {c : Cfg} (h : loopDone P n c = true) : ∃ n', n = n' + 1 := by
  cases n with
  | zero => simp [loopDone] at h
  | succ n' => exact ⟨n', rfl⟩

/-- a tick while the run with pauses is suspended on a pause future: nothing, or re-suspension on a newer pause future, or
(released) the rest of the loop that the reference run has already executed -/
theorem tick_lag (P : Prog) (c d : Cfg) (h : Lag P c d) (hinv : InvP c) (hI : Inv c) :
    SL P (tickStepper P c) d := by
  obtain ⟨hap, d0, n, hn, hD, hd, hm⟩ := h
  cases hr : runsBody c with
  | false =>
    exact tickStepper_held_elim (Q := (SL P · d)) P c hap hr (Or.inr ⟨hap, d0, n, hn, hD, hd, hm⟩) fun pf' =>
      Or.inr ⟨rfl, d0, n, hn, hD, hd, hm.setPc pf'⟩
  | true =>
    obtain ⟨n', rfl⟩ := loopDone_pos hD
    have hlab := hm.core.label
    rw [tickStepper_runsBody P c hr, hd]
    unfold stepBody
    by_cases ht : terminal c.st.label = true
    · -- a terminated process: the released task ends its loop, as the reference run did
      obtain ⟨pf1, hi1⟩ := endOfStep_terminal_pf c ht hm.stepping
      have hm1 := hm.frame pf1 hi1
      rw [stepBodyK_terminal P _ c ht, loopHead_term P n' d0 hm.ncd (hlab ▸ ht), show fuel0 = 999 + 1 from rfl,
        loopHead_term P 999 _ hm1.ncc (by rw [pf1.2.1]; exact ht)]
      exact Or.inl (inStep_idle _ d0 .done hm1 rfl rfl)
    · have htf : terminal c.st.label = false := by simpa using ht
      have htd : terminal d0.st.label = false := hlab ▸ htf
      have hcl : d0.closed = false := (congrArg ShRec.closed hm.core.sh).symm.trans (not_closed_of_live hI htf)
      rw [loopHead_step P n' d0 hm.ncd htd hcl hm.core.dpaused]
      rw [loopDone_go P n' d0 hm.ncd htd hcl hm.core.dpaused] at hD
      exact stepBodyK_sim P _ _ _
        (fun e e' hme hie hde => loopHead_sim P n' fuel0 e e' (by omega) (by omega) hme hie hde)
        c d0 hm (runsBody_paused c hinv htf hr) hinv htf hD

/-! ### pause and play requests: they only touch the pause machinery of the run with pauses -/

theorem intOk_iff (c : Cfg) : IntOk c ↔ ∀ i, c.interrupt = some i →
    actionKind c i = some .pause ∧ (actionStatus c i = .pending ∨ actionStatus c i = .cancelled) := by
  constructor
  · intro h i hi
    obtain ⟨a, ha, hk, hs⟩ := h i hi
    simp [actionKind, actionStatus, ha, hk, hs]
  · intro h i hi
    obtain ⟨hk, hs⟩ := h i hi
    cases ha : c.actions[i]? with
    | none => simp [actionKind, ha] at hk
    | some a =>
      refine ⟨a, rfl, ?_, ?_⟩
      · simpa [actionKind, ha] using hk
      · simpa [actionStatus, ha] using hs

theorem cancelAction_intOk (c : Cfg) (j : Nat) (h : IntOk c) : IntOk (cancelAction c j) := by
  rw [intOk_iff] at h ⊢
  intro i hi
  rw [(cancelAction_off c j).interrupt] at hi
  obtain ⟨hk, hs⟩ := h i hi
  refine ⟨by rw [cancelAction_kind]; exact hk, ?_⟩
  by_cases hij : j = i
  · subst hij
    rw [cancelAction_status]
    split
    · exact .inr rfl
    · exact hs
  · rw [cancelAction_other c j i hij]; exact hs

theorem interruptState_wfs (c : Cfg) (k : Nat) :
    (interruptState c k).wfs = c.wfs ∨
      ∃ fn wf wk aw, c.st = .waiting fn wf wk aw ∧ c.wfs[wf]? = some .pending ∧
        (interruptState c k).wfs = setAt c.wfs wf (.interrupted k) :=
  interruptState_elim (Q := fun d => d.wfs = c.wfs ∨ ∃ fn wf wk aw, c.st = .waiting fn wf wk aw ∧ c.wfs[wf]? = some .pending ∧
      d.wfs = setAt c.wfs wf (.interrupted k)) c k (Or.inl rfl) fun fn wf wk aw hst hw => Or.inr ⟨fn, wf, wk, aw, hst, hw, rfl⟩

theorem requestInterrupt_pause (c : Cfg) :
    IntOk (requestInterrupt c .pause) ∧ (requestInterrupt c .pause).interrupt ≠ none ∧
    ((requestInterrupt c .pause).wfs = c.wfs ∨
      ∃ fn wf wk aw, c.st = .waiting fn wf wk aw ∧ c.wfs[wf]? = some .pending ∧
        (requestInterrupt c .pause).wfs = setAt c.wfs wf (.interrupted c.nextCookie)) := by
  obtain ⟨n1, n2, n3⟩ := requestInterrupt_new c .pause
  refine ⟨(intOk_iff _).mpr fun i hi => ?_, (by rw [n1]; exact fun h => nomatch h), ?_⟩
  · rw [n1] at hi; cases hi
    exact ⟨n2, Or.inl n3⟩
  · rw [requestInterrupt_wfs]; exact interruptState_wfs c c.nextCookie

theorem requestInterrupt_wfs_of_interrupted (c : Cfg) {fn wf k : Nat} {wk aw} (hst : c.st = .waiting fn wf wk aw)
    (hw : c.wfs[wf]? = some (.interrupted k)) : (requestInterrupt c .pause).wfs = c.wfs := by
  rcases (requestInterrupt_pause c).2.2 with h | ⟨fn2, wf2, wk2, aw2, hst2, hpend, _⟩
  · exact h
  · rw [hst] at hst2; cases hst2
    rw [hw] at hpend; cases hpend

theorem play_shape (c : Cfg) : PFrame c (play c).1 ∧ (IntOk c → IntOk (play c).1) ∧ (play c).1.paused = none := by
  refine ⟨?_, ?_, play_paused c⟩
  · exact play_elim c (fun _ _ => PFrame.rfl' c) (fun i _ _ => .of_off ((cancelAction_off c i).trans (Off.set _ .pausing none)))
      (fun _ _ _ => ⟨by simp [sh, notPP], rfl, rfl, rfl⟩) fun _ _ _ => ⟨by simp [sh, notPP], rfl, rfl, rfl⟩
  · exact fun h => play_elim c (fun _ _ => h) (fun i _ _ => (cancelAction_intOk c i h).of_eq rfl rfl) (fun _ _ _ => h.of_eq rfl rfl)
      fun _ _ _ => h.of_eq rfl rfl

theorem pause_idle (c : Cfg) (hs : c.stepping = false) : PFrame c (pause c).1 ∧ (pause c).1.interrupt = c.interrupt :=
  pause_elim (Q := fun x => PFrame c x ∧ x.interrupt = c.interrupt) c ⟨.rfl' c, rfl⟩
    (fun x i hx => ⟨hx.1.trans (hand_pf x i), (hand_off x i).interrupt.trans hx.2⟩)
    (fun _ h _ _ => absurd (hs.symm.trans h) (by decide)) fun _ _ _ _ _ => ⟨doPauseHooks_pf c, rfl⟩

/-! each phase of the simulation is kept by an update of the pause machinery of the run with pauses (`frame`), given what the
phase says about `interrupt` and `paused`; in particular by bookkeeping (`off`) -/

theorem PcRelAt_congr2 (p : Pc) (c c' d d' : Cfg) (hc : c'.st = c.st) (hd : d'.st = d.st) (hp : d'.pc = d.pc)
    (h : PcRelAt p c d) : PcRelAt p c' d' := by
  cases p with
  | awaitPaused pf => exact h
  | inUser b => simp only [PcRelAt] at h ⊢; rw [hc, hp]; exact h
  | awaitWaiting wf => simp only [PcRelAt] at h ⊢; rw [hc, hd, hp]; exact h
  | _ => exact hp.trans h

theorem InStep.frame {c c' d : Cfg} (h : InStep c d) (f : PFrame c c') (hio : IntOk c')
    (hi : isRunningPc c.pc = false → c'.interrupt = none)
    (hp : isRunningPc c.pc = true → c'.paused = none) : InStep c' d := by
  have hs : c'.stepping = c.stepping := congrArg ShRec.stepping f.1
  refine ⟨h.core.left f, hio, ?_, ?_, ?_⟩
  · rw [f.2.2.2]; exact PcRelAt_congr2 _ _ _ _ _ f.2.1 rfl rfl h.pc
  · intro hr; rw [f.2.2.2] at hr; exact ⟨hs.trans (h.run hr).1, hp hr⟩
  · intro hr; rw [f.2.2.2] at hr; exact ⟨hs.trans (h.idle hr).1, hi hr⟩

theorem QW.frame {c c' d : Cfg} (h : QW c d) (f : PFrame c c') (hi : c'.interrupt ≠ none) (hio : IntOk c')
    (hp : c'.paused = none) : QW c' d := by
  obtain ⟨fn, wf, aw, wf', k, hst, hst', hw, hw', hpc, hpd⟩ := h.wait
  exact ⟨f.1.trans h.sh, (congrArg ShRec.killing f.1).trans h.ckill, h.dint, h.dpaused,
    ⟨fn, wf, aw, wf', k, f.2.1.trans hst, hst', by rw [f.2.2.1]; exact hw, hw', f.2.2.2.trans hpc, hpd⟩,
    hio, hi, (congrArg ShRec.stepping f.1).trans h.stepping, hp⟩

theorem Lag.mid {P : Prog} {c d : Cfg} (h : Lag P c d) : ∃ d0, Mid c d0 := by
  obtain ⟨_, d0, _, _, _, _, hm⟩ := h
  exact ⟨d0, hm⟩

theorem Lag.frame {P : Prog} {c c' d : Cfg} (h : Lag P c d) (f : PFrame c c') (hi : c'.interrupt = none) : Lag P c' d := by
  obtain ⟨hap, d0, n, hn, hD, hd, hm⟩ := h
  exact ⟨by rw [f.2.2.2]; exact hap, d0, n, hn, hD, hd, hm.frame f hi⟩

/-- the fields whose preservation keeps every phase -/
def phaseF : List Fld := .interrupt :: .actions :: .paused :: .st :: .wfs :: .pc :: shF

theorem PFrame.of_phase {W : List Fld} {c c' : Cfg} (o : Off W c c') (hW : ∀ f ∈ phaseF, f ∉ W) : PFrame c c' :=
  .of_off o fun f hf => hW f (.tail _ (.tail _ (.tail _ hf)))

theorem InStep.off {W : List Fld} {c c' d : Cfg} (h : InStep c d) (o : Off W c c')
    (hW : ∀ f ∈ phaseF, f ∉ W := by decide) : InStep c' d :=
  have hi := o.interrupt (hW _ (by decide))
  h.frame (.of_phase o hW) (h.intOk.of_eq hi (o.actions (hW _ (by decide))))
    (fun hr => hi.trans (h.idle hr).2) (fun hr => (o.paused (hW _ (by decide))).trans (h.run hr).2)

theorem QW.off {W : List Fld} {c c' d : Cfg} (h : QW c d) (o : Off W c c')
    (hW : ∀ f ∈ phaseF, f ∉ W := by decide) : QW c' d :=
  have hi := o.interrupt (hW _ (by decide))
  h.frame (.of_phase o hW) (by rw [hi]; exact h.intSome) (h.intOk.of_eq hi (o.actions (hW _ (by decide))))
    ((o.paused (hW _ (by decide))).trans h.paused)

theorem Lag.off {P : Prog} {W : List Fld} {c c' d : Cfg} (h : Lag P c d) (o : Off W c c')
    (hW : ∀ f ∈ phaseF, f ∉ W := by decide) : Lag P c' d :=
  let ⟨_, hm⟩ := h.mid
  h.frame (.of_phase o hW) ((o.interrupt (hW _ (by decide))).trans hm.int)

theorem setAt_self_get {α} (l : List α) (i : Nat) (a b : α) (h : l[i]? = some b) : (setAt l i a)[i]? = some a := by
  have hlt : i < l.length := (List.getElem?_eq_some_iff.mp h).1
  simp [setAt, hlt]

theorem Sim.off {P : Prog} {W : List Fld} {c c' d : Cfg} (h : Sim P c d) (o : Off W c c')
    (hW : ∀ f ∈ phaseF, f ∉ W := by decide) : Sim P c' d :=
  h.imp (·.off o hW) (.imp (·.off o hW) (·.off o hW))

theorem pause_sim (P : Prog) (c d : Cfg) (h : Sim P c d) : Sim P (pause c).1 d := by
  refine pause_elim (Q := fun x => Sim P x d) c h (fun x i hx => hx.off (hand_off x i)) (fun _ hs _ _ => ?_)
    (fun _ hs _ _ _ => ?_)
  · -- a request to the step in progress; the alias `_pausing` is not looked at
    have o := requestInterrupt_off c .pause
    obtain ⟨r5, r6, r7⟩ := requestInterrupt_pause c
    have b := Off.set (requestInterrupt c .pause) .pausing (requestInterrupt c .pause).interrupt
    rcases h with h | h | h
    · have hrun : isRunningPc c.pc = true := by
        cases hr : isRunningPc c.pc with
        | true => rfl
        | false => exact absurd ((h.idle hr).1.symm.trans hs) (by decide)
      have hpn := (h.run hrun).2
      rcases r7 with hw | ⟨fn, wf, wk, aw, hst, hpend, hw⟩
      · exact Or.inl ((h.frame ⟨sh_of_off o, o.st, hw, o.pc⟩ r5 (fun hf => absurd (hrun.symm.trans hf) (by decide))
          (fun _ => o.paused.trans hpn)).off b)
      · -- the pending wait is interrupted: the stepping task is suspended on it
        have hpcr := h.pc
        cases hpc : c.pc with
        | notStarted | done | crashed _ | awaitPaused _ => rw [hpc] at hrun; cases hrun
        | inUser b' =>
          rw [hpc] at hpcr
          obtain ⟨_, fn', a', k', hst2⟩ := hpcr
          rw [hst] at hst2; cases hst2
        | awaitWaiting wf0 =>
          obtain ⟨fn0, aw0, wf', w, hst0, hst', hpd, hcw, hdw, hni⟩ := h.at_wait hpc
          rw [hst] at hst0; cases hst0
          rw [hpend] at hcw; cases hcw
          have hq : QW (requestInterrupt c .pause) d :=
            ⟨(sh_of_off o).trans h.core.sh, o.killing.trans h.core.ckill, h.core.dint, h.core.dpaused,
              ⟨fn, wf, aw, wf', c.nextCookie, o.st.trans hst, hst', by rw [hw]; exact setAt_self_get _ _ _ _ hpend,
                hdw, o.pc.trans hpc, hpd⟩,
              r5, r6, o.stepping.trans hs, o.paused.trans hpn⟩
          exact Or.inr (Or.inl (hq.off b))
    · obtain ⟨fn, wf, aw, wf', k, hst, hst', hw, hw', hpc, hpd⟩ := h.wait
      exact Or.inr (Or.inl ((h.frame ⟨sh_of_off o, o.st, requestInterrupt_wfs_of_interrupted c hst hw, o.pc⟩ r6 r5
        (o.paused.trans h.paused)).off b))
    · exact absurd (h.mid.choose_spec.stepping.symm.trans hs) (by decide)
  · -- between two steps the process is paused on the spot
    rcases h with h | h | h
    · exact Or.inl (h.frame (doPauseHooks_pf c) (h.intOk.of_eq rfl rfl) (fun hr => (h.idle hr).2)
        fun hr => absurd ((h.run hr).1.symm.trans hs) (by decide))
    · exact absurd (h.stepping.symm.trans hs) (by decide)
    · exact Or.inr (Or.inr (h.frame (doPauseHooks_pf c) h.mid.choose_spec.int))

theorem play_sim (P : Prog) (c d : Cfg) (h : Sim P c d) : Sim P (play c).1 d := by
  obtain ⟨f, hio, hp⟩ := play_shape c
  have hi := (play_off c).interrupt
  rcases h with h | h | h
  · exact Or.inl (h.frame f (hio h.intOk) (fun hr => hi.trans (h.idle hr).2) (fun _ => hp))
  · exact Or.inr (Or.inl (h.frame f (by rw [hi]; exact h.intSome) (hio h.intOk) hp))
  · exact Or.inr (Or.inr (h.frame f (hi.trans h.mid.choose_spec.int)))

/-! ### wake-up requests at quiet moments act alike on both runs

A wake-up request is a sequence of elementary updates (`PM/Wake.lean`) that both runs plan alike; each elementary update keeps
`InStep`. -/

theorem InStep.both {W : List Fld} {c d c' d' : Cfg} (h : InStep c d) (oc : Off W c c') (od : Off W d d') (hcore : Core c' d')
    (hW : ∀ f ∈ [Fld.st, .pc, .interrupt, .actions, .stepping, .paused], f ∉ W := by decide) : InStep c' d' := by
  have hpc := oc.pc (hW _ (by decide))
  have hint := oc.interrupt (hW _ (by decide))
  have hstep := oc.stepping (hW _ (by decide))
  refine ⟨hcore, h.intOk.of_eq hint (oc.actions (hW _ (by decide))), ?_, ?_, ?_⟩
  · rw [hpc]
    exact PcRelAt_congr2 _ _ _ _ _ (oc.st (hW _ (by decide))) (od.st (hW _ (by decide)))
      (od.pc (hW _ (by decide))) h.pc
  · intro hr; rw [hpc] at hr; rw [hstep, oc.paused (hW _ (by decide))]; exact h.run hr
  · intro hr; rw [hpc] at hr; rw [hstep, hint]; exact h.idle hr

theorem InStep.shared {c d : Cfg} (h : InStep c d) (f : Fld) (v : f.type) (hf : f ∈ [Fld.ctx, .efs, .efCb, .ready] := by decide) :
    InStep (c.set f v) (d.set f v) := by
  have core : sh (c.set f v) = sh (d.set f v) → Core (c.set f v) (d.set f v) := fun hsh => by
    simp only [List.mem_cons, List.not_mem_nil, or_false] at hf
    rcases hf with rfl | rfl | rfl | rfl <;> exact ⟨hsh, h.core.st, h.core.ckill, h.core.dint, h.core.dpaused⟩
  simp only [List.mem_cons, List.not_mem_nil, or_false] at hf
  rcases hf with rfl | rfl | rfl | rfl
  · exact h.both (Off.set c .ctx v) (Off.set d .ctx v) (core (congrArg (fun r : ShRec => { r with ctx := v }) h.core.sh))
  · exact h.both (Off.set c .efs v) (Off.set d .efs v) (core (congrArg (fun r : ShRec => { r with efs := v }) h.core.sh))
  · exact h.both (Off.set c .efCb v) (Off.set d .efCb v) (core (congrArg (fun r : ShRec => { r with efCb := v }) h.core.sh))
  · exact h.both (Off.set c .ready v) (Off.set d .ready v) (core (congrArg (fun r : ShRec => { r with ready := v }) h.core.sh))

theorem deliver_inStep (c d : Cfg) (o : WF) (h : InStep c d) (ho : ∀ k, o ≠ .interrupted k) :
    InStep (deliver c o) (deliver d o) := by
  rcases h.core.st with ⟨heq, hnw⟩ | ⟨fn, wf, aw, wf', w, h1, h2, h3, h4, h5⟩
  · rw [deliver_notWaiting c o hnw, deliver_notWaiting d o (heq ▸ hnw)]; exact h
  · by_cases hw : w = .pending
    · subst hw
      rw [deliver_store c o h1 h3, deliver_store d o h2 h4]
      exact h.both (Off.set c .wfs _) (Off.set d .wfs _) ⟨h.core.sh,
        Or.inr ⟨fn, wf, aw, wf', o, h1, h2, setAt_self_get _ _ _ _ h3, setAt_self_get _ _ _ _ h4, ho⟩, h.core.ckill, h.core.dint,
        h.core.dpaused⟩
    · have e : ∀ (x : Cfg) (i : Nat), x.st = .waiting fn i none aw → x.wfs[i]? = some w → deliver x o = x := by
        intro x i hx hi
        simp only [deliver, hx, hi]
        cases w <;> first | rfl | exact absurd rfl hw | exact absurd rfl (h5 _)
      rw [e c wf h1 h3, e d wf' h2 h4]; exact h

theorem InStep.aw {c d : Cfg} (h : InStep c d) (l : List (Nat × Nat)) : InStep (setAw c l) (setAw d l) := by
  rcases h.core.st with ⟨heq, hnw⟩ | ⟨fn, wf, aw, wf', w, hst, hst', hcw, hdw, hni⟩
  · have e : ∀ x : Cfg, NotWaiting x.st → setAw x l = x := by
      intro x hx; unfold setAw; split
      · rename_i hs; exact absurd hs (hx _ _ _ _)
      · rfl
    rw [e c hnw, e d (heq ▸ hnw)]; exact h
  · have e1 : setAw c l = { c with st := .waiting fn wf none l } := by simp only [setAw, hst]
    have e2 : setAw d l = { d with st := .waiting fn wf' none l } := by simp only [setAw, hst']
    rw [e1, e2]
    refine ⟨⟨h.core.sh, Or.inr ⟨fn, wf, l, wf', w, rfl, rfl, hcw, hdw, hni⟩, h.core.ckill, h.core.dint, h.core.dpaused⟩,
      h.intOk.of_eq rfl rfl, ?_, h.run, h.idle⟩
    have hp := h.pc
    show PcRelAt c.pc _ _
    cases hpc : c.pc with
    | inUser b =>
      rw [hpc] at hp
      obtain ⟨_, fn', a', k', hr⟩ := hp
      rw [hst] at hr; cases hr
    | awaitWaiting wf0 =>
      rw [hpc] at hp
      obtain ⟨fn0, wk0, aw0, wf0', g1, g2, g3⟩ := hp
      rw [hst] at g1; cases g1
      rw [hst'] at g2; cases g2
      exact ⟨fn, none, l, wf', rfl, rfl, g3⟩
    | _ => rw [hpc] at hp; exact hp

theorem InStep.upd {c d : Cfg} (h : InStep c d) (u : Upd) : InStep (u.run c) (u.run d) := by
  cases u with
  | aw l => exact h.aw l
  | deliver o ok => exact deliver_inStep c d o h ok.2
  | ctx X => exact h.shared .ctx X
  | efs E => exact h.shared .efs E
  | efCb L => exact h.shared .efCb L
  | ready R => exact h.shared .ready R

theorem SSim.awaiting {s s' : SObj} (h : SSim s s') : awaiting s = awaiting s' := by
  rcases h with ⟨rfl, _⟩ | ⟨fn, wf, aw, wf', rfl, rfl⟩ <;> rfl

theorem Core.planOf {c d : Cfg} (h : Core c d) (e : Ev) : planOf c e = planOf d e :=
  planOf_congr e h.st.ssim.awaiting (congrArg ShRec.efKeys h.sh) (congrArg ShRec.efs h.sh) (congrArg ShRec.efCb h.sh) (congrArg ShRec.ready h.sh)
    (congrArg ShRec.ctx h.sh)

theorem wake_inStep (P : Prog) (c d : Cfg) (e : Ev) (hw : isWake e = true) (h : InStep c d) :
    InStep (step P c e).1 (step P d e).1 := by
  rw [step_plan P c e hw, step_plan P d e hw, ← h.core.planOf e]
  exact runAll_rel (R := InStep) _ (fun u _ _ _ hxy => hxy.upd u) h

theorem resume_inStep (c d : Cfg) (v : Option Val) (h : InStep c d) : InStep (resume c v).1 (resume d v).1 :=
  wake_inStep (fun _ _ _ _ => default) c d (.resume v) rfl h

theorem complete_inStep (c d : Cfg) (f : Nat) (o : EFut) (h : InStep c d) : InStep (complete c f o) (complete d f o) :=
  wake_inStep (fun _ _ _ _ => default) c d (.complete f o) rfl h

theorem tickCb_adone_inStep (c d : Cfg) (f : Nat) (h : InStep c d) :
    InStep (tickCb c (.adone f)) (tickCb d (.adone f)) :=
  wake_inStep (fun _ _ _ _ => default) c d (.tickCb (.adone f)) rfl h

theorem fuelOk_append (P : Prog) : ∀ (xs ys : List Ev) (c : Cfg),
    fuelOk P c (xs ++ ys) = (fuelOk P c xs && fuelOk P (run P c xs) ys) := by
  intro xs
  induction xs with
  | nil => intro ys c; simp [fuelOk, run]
  | cons x rest ih =>
    intro ys c
    simp only [List.cons_append, fuelOk, ih, Bool.and_assoc]
    rfl

theorem sim_init (P : Prog) (nf : Nat) : Sim P (init nf) (init nf) := by
  refine Or.inl ⟨⟨rfl, Or.inl ⟨rfl, by intro a b c d h; cases h⟩, rfl, rfl, rfl⟩, IntOk.of_none rfl, rfl, ?_, fun _ => ⟨rfl, rfl⟩⟩
  intro h; cases h

theorem SL.sim {P : Prog} {c d : Cfg} (h : SL P c d) : Sim P c d := by
  rcases h with h | h
  · exact Or.inl h
  · exact Or.inr (Or.inr h)

theorem quiet_inStep {P : Prog} {c d : Cfg} (h : Sim P c d) (hq : quiet c = true) : InStep c d := by
  simp only [quiet, Bool.and_eq_true, Bool.not_eq_true'] at hq
  rcases h with h | h | h
  · exact h
  · obtain ⟨fn, wf, aw, wf', k, hst, _, hw, _⟩ := h.wait
    have : waitInterrupted c = true := by simp only [waitInterrupted, hst, hw]
    rw [this] at hq; simp at hq
  · rw [h.1] at hq; simp at hq

theorem step_sim (P : Prog) (c d : Cfg) (e : Ev) (h : Sim P c d) (hinv : InvP c) (hI : Inv c)
    (ha : evAllowed c e = true) (hf : fuelOk P d (evImage c e) = true) :
    Sim P (step P c e).1 (run P d (evImage c e)) := by
  rcases allowedIf_cases (evAllowed_eq c e ▸ ha) with rfl | rfl | rfl | ⟨hw, hq⟩
  · rcases h with h | h | h
    · have hnp := h.not_awaitPaused.1
      simp only [evImage, hnp, Bool.false_eq_true, if_false, fuelOk, Bool.and_true] at hf ⊢
      exact (tick_inStep P c d h hinv hf).sim
    · obtain ⟨fn, wf, aw, wf', k, hst, hst', hw, hw', hpc, hpd⟩ := h.wait
      have hnp : isAwaitPaused c.pc = false := by rw [hpc]; rfl
      simp only [evImage, hnp, Bool.false_eq_true, if_false]
      obtain ⟨h1, h2⟩ := tick_qw P c d h hinv hI
      show Sim P (tickStepper P c) (tickStepper P d)
      rw [h2]; exact h1.sim
    · simp only [evImage, h.1, if_true]
      exact (tick_lag P c d h hinv hI).sim
  · exact pause_sim P c d h
  · exact play_sim P c d h
  · rw [wake_evImage c e hw]
    exact Or.inl (wake_inStep P c d e hw (quiet_inStep h hq))

theorem run_sim (P : Prog) : ∀ (evs : List Ev) (c d : Cfg), Sim P c d → InvP c → Inv c → admissible P c evs = true →
    fuelOk P d (unpaused P c evs) = true → Sim P (run P c evs) (run P d (unpaused P c evs)) := by
  intro evs
  induction evs with
  | nil => intro c d h _ _ _ _; exact h
  | cons e es ih =>
    intro c d h hinv hI ha hf
    simp only [admissible, Bool.and_eq_true] at ha
    simp only [unpaused, fuelOk_append, Bool.and_eq_true] at hf
    rw [show run P c (e :: es) = run P (step P c e).1 es from rfl]
    simp only [unpaused, run_append]
    exact ih _ _ (step_sim P c d e h hinv hI ha.1 hf.1) (invP_closed.step P c e hinv) (inv_closed.step P c e hI) ha.2 hf.2

theorem same_result_of {c d : Cfg} (h : d.st = c.st ∧ sh d = sh c) {Q : Prop} (q : Q) :
    d.st = c.st ∧ d.trace = c.trace ∧ d.ctx = c.ctx ∧ d.fut = c.fut ∧ d.entered = c.entered ∧ d.cleanups = c.cleanups ∧
    d.notif.filter notPP = c.notif.filter notPP ∧ Q :=
  ⟨h.1, congrArg ShRec.trace h.2, congrArg ShRec.ctx h.2, congrArg ShRec.fut h.2, congrArg ShRec.entered h.2,
    congrArg ShRec.cleanups h.2, congrArg ShRec.notif h.2, q⟩

theorem Sim.at_quiet {P : Prog} {c d : Cfg} (h : Sim P c d) (hq : quiet c = true) : SSim c.st d.st ∧ sh d = sh c :=
  ⟨(quiet_inStep h hq).core.st.ssim, (quiet_inStep h hq).core.sh.symm⟩

def erasePP : List Ev → List Ev
  | [] => []
  | .pause :: es => erasePP es
  | .play :: es => erasePP es
  | e :: es => e :: erasePP es

def isTick : Ev → Bool
  | .tick => true
  | _ => false

/-- `l` is `evs` without its pause and play requests and without some of its ticks, followed by `t` -/
inductive Erases (t : List Ev) : List Ev → List Ev → Prop
  | nil : Erases t [] t
  | drop {x es l} : x = .tick ∨ x = .pause ∨ x = .play → Erases t es l → Erases t (x :: es) l
  | keep {x es l} : x ≠ .pause → x ≠ .play → Erases t es l → Erases t (x :: es) (x :: l)

theorem erasePP_cons_keep (x : Ev) (es : List Ev) (h1 : x ≠ .pause) (h2 : x ≠ .play) : erasePP (x :: es) = x :: erasePP es := by
  cases x <;> first | rfl | exact absurd rfl h1 | exact absurd rfl h2

theorem Erases.image {t es l : List Ev} (x : Ev) (T : List Ev) (hT : T = [] ∨ T = [.tick]) (h : Erases t es l) :
    Erases t (x :: es) ((match x with | .pause => [] | .play => [] | .tick => T | e => [e]) ++ l) := by
  cases x with
  | pause => exact .drop (.inr (.inl rfl)) h
  | play => exact .drop (.inr (.inr rfl)) h
  | tick =>
    rcases hT with rfl | rfl
    · exact .drop (.inl rfl) h
    · exact .keep nofun nofun h
  | _ => exact .keep nofun nofun h

theorem Erases.sublist {t evs l : List Ev} (h : Erases t evs l) : l.Sublist (erasePP evs ++ t) := by
  induction h with
  | nil => exact List.Sublist.refl _
  | @drop x es l hx _ ih =>
    rcases hx with rfl | rfl | rfl
    · exact List.Sublist.cons _ ih
    · exact ih
    · exact ih
  | @keep x es l h1 h2 _ ih => rw [erasePP_cons_keep x es h1 h2]; exact List.Sublist.cons_cons _ ih

theorem Erases.no_pp {t evs l : List Ev} (h : Erases t evs l) (ht : ∀ e ∈ t, e ≠ .pause ∧ e ≠ .play) :
    ∀ e ∈ l, e ≠ .pause ∧ e ≠ .play := by
  induction h with
  | nil => exact ht
  | drop _ _ ih => exact ih
  | keep h1 h2 _ ih =>
    intro e he
    rcases List.mem_cons.mp he with rfl | he
    · exact ⟨h1, h2⟩
    · exact ih e he

theorem Erases.nonticks {t evs l : List Ev} (h : Erases t evs l) (ht : t.filter (fun e => !isTick e) = []) :
    l.filter (fun e => !isTick e) = (erasePP evs).filter (fun e => !isTick e) := by
  induction h with
  | nil => exact ht
  | @drop x es l hx _ ih => rcases hx with rfl | rfl | rfl <;> exact ih
  | @keep x es l h1 h2 _ ih => rw [erasePP_cons_keep x es h1 h2, List.filter_cons, List.filter_cons, ih]

theorem Erases.spec {evs l : List Ev} (h : Erases [] evs l) :
    l.Sublist (erasePP evs) ∧ (∀ e ∈ l, e ≠ .pause ∧ e ≠ .play) ∧
    l.filter (fun e => !isTick e) = (erasePP evs).filter (fun e => !isTick e) :=
  ⟨by simpa using h.sublist, h.no_pp (by simp), h.nonticks rfl⟩

theorem evImage_eq (c : Cfg) (x : Ev) :
    evImage c x = match x with | .pause => [] | .play => [] | .tick => evImage c .tick | e => [e] := by
  cases x <;> rfl

theorem unpaused_erases (P : Prog) (evs : List Ev) (c : Cfg) : Erases [] evs (unpaused P c evs) := by
  induction evs generalizing c with
  | nil => exact .nil
  | cons x rest ih =>
    rw [unpaused, evImage_eq]
    refine (ih _).image x _ ?_
    by_cases hp : isAwaitPaused c.pc = true
    · exact .inl (if_pos hp)
    · exact .inr (if_neg hp)

/-- `c'` has executed what `c` has executed, and possibly more (traces are newest first) -/
def TraceExt (c c' : Cfg) : Prop := ∃ l, c'.trace = l ++ c.trace
theorem TraceExt.of_eq {c c' : Cfg} (h : c'.trace = c.trace) : TraceExt c c' := ⟨[], by simp [h]⟩

end PMF
