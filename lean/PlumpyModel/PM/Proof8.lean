import PlumpyModel.PM.Closed
import PlumpyModel.PM.Steps
/-!
# Barrier invariant (C10)

`InvB`: the wait of a WAITING state can hold (or have parked) a *result* only when nothing is awaited any more.
A transition keeps it only into a fresh target (`Fresh`) and a delivery of a result only while nothing is awaited
(`Deliverable`), so `InvB` is closed under the leaves of the control skeleton with these two guards (`invB_closed`);
everything that writes neither the state object nor the waiting futures is covered by `InvB.off`.
-/
namespace PMF

def isResult : WF → Bool
  | .result _ => true | _ => false

/-- the barrier invariant, together with well-formedness of the waiting-future index -/
def InvB (c : Cfg) : Prop :=
  ∀ fn wf wk aw, c.st = .waiting fn wf wk aw →
    wf < c.wfs.length ∧
    (((c.wfs[wf]?).map isResult = some true ∨ (wk.map isResult) = some true) → aw = [])

theorem invB_init (nf : Nat) : InvB (init nf) := by
  intro fn wf wk aw hst; simp [init] at hst

theorem invB_waiting {d : Cfg} {fn wf wk aw} (hst : d.st = .waiting fn wf wk aw) (hlt : wf < d.wfs.length)
    (himp : (d.wfs[wf]?.map isResult = some true ∨ wk.map isResult = some true) → aw = []) : InvB d := by
  intro fn' wf' wk' aw' h
  rw [hst] at h; cases h
  exact ⟨hlt, himp⟩

theorem InvB.off {W : List Fld} {c c' : Cfg} (h : InvB c) (o : Off W c c')
    (hW : ∀ f ∈ [Fld.st, .wfs], f ∉ W := by decide) : InvB c' := by
  intro fn wf wk aw hst
  rw [o.st (hW _ (by decide))] at hst; rw [o.wfs (hW _ (by decide))]; exact h fn wf wk aw hst

/-- the target of a transition is *fresh*: if it is a WAITING state, its future is pending, nothing is parked, and its
index differs from the one of the state being left -/
def Fresh (c : Cfg) (s : SObj) : Prop :=
  ∀ fn wf wk aw, s = .waiting fn wf wk aw →
    c.wfs[wf]? = some .pending ∧ wk = none ∧ ∀ f' wf' wk' aw', c.st = .waiting f' wf' wk' aw' → wf' ≠ wf

theorem fresh_of_not_waiting (c : Cfg) (s : SObj) (h : ∀ fn wf wk aw, s ≠ .waiting fn wf wk aw) : Fresh c s := by
  intro fn wf wk aw hs; exact absurd hs (h fn wf wk aw)

theorem exitState_wfs_other (c : Cfg) (j : Nat) (hj : ∀ f' wf' wk' aw', c.st = .waiting f' wf' wk' aw' → wf' ≠ j) :
    (exitState c).wfs[j]? = c.wfs[j]? :=
  exitState_elim (Q := fun d => d.wfs[j]? = c.wfs[j]?) c (fun _ => rfl)
    (fun _ _ _ _ hst _ => setAt_getElem?_ne _ _ _ _ (hj _ _ _ _ hst)) fun _ _ _ _ _ _ => rfl

theorem exitState_wfs_len (c : Cfg) : (exitState c).wfs.length = c.wfs.length :=
  exitState_elim (Q := fun d => d.wfs.length = c.wfs.length) c (fun _ => rfl) (fun _ _ _ _ _ _ => by simp [setAt])
    fun _ _ _ _ _ _ => rfl

theorem invB_install (d : Cfg) (s : SObj) (hst : d.st = s)
    (hfr : ∀ fn wf wk aw, s = .waiting fn wf wk aw → d.wfs[wf]? = some .pending ∧ wk = none) : InvB d := by
  intro fn wf wk aw h
  rw [hst] at h
  obtain ⟨hp, hw⟩ := hfr fn wf wk aw h
  refine ⟨(List.getElem?_eq_some_iff.mp hp).1, ?_⟩
  intro hpre
  rcases hpre with g | g
  · rw [hp] at g; simp [isResult] at g
  · rw [hw] at g; simp at g

theorem enterNext_invB (c : Cfg) (s : SObj)
    (hfr : ∀ fn wf wk aw, s = .waiting fn wf wk aw → c.wfs[wf]? = some .pending ∧ wk = none) : InvB (enterNext c s) :=
  invB_install _ s (enterNext_st c s) fun fn wf wk aw hs => by rw [(enterNext_off c s).wfs]; exact hfr fn wf wk aw hs

theorem transitionTo_invB (c : Cfg) (s : SObj) (hf : Fresh c s) : InvB (transitionTo c s) := by
  -- the wait of the state entered is pending after the exit phase: EXCEPTED has none, the requested state's is fresh
  have hfr : ∀ d s', Enters c s d s' → ∀ fn wf wk aw, s' = .waiting fn wf wk aw → d.wfs[wf]? = some .pending ∧ wk = none := by
    rintro d s' (_ | e | e) fn wf wk aw hs
    · obtain ⟨hp, hw, hne⟩ := hf fn wf wk aw hs
      exact ⟨by rw [exitState_wfs_other c wf hne]; exact hp, hw⟩
    all_goals cases hs
  exact transitionTo_elim c s (fun _ d s' he => invB_install _ s' rfl (hfr d s' he))
    fun _ d s' c2 he hok => enterNext_invB c2 s' fun fn wf wk aw hs => by
      rw [(enteringHooks_off _ hok).wfs]; exact hfr d s' he fn wf wk aw hs

theorem interruptState_invB (c : Cfg) (k : Nat) (h : InvB c) : InvB (interruptState c k) := by
  refine interruptState_elim c k h fun fn wf wk aw hst _ => ?_
  obtain ⟨hlt, himp⟩ := h fn wf wk aw hst
  refine invB_waiting hst (by simpa [setAt] using hlt) fun hpre => himp (.inr (hpre.resolve_left ?_))
  simp [setAt, hlt, isResult]

/-- a result may be delivered to the current wait only while it awaits nothing -/
def Deliverable (c : Cfg) (o : WF) : Prop := isResult o = true → ∀ fn wf wk aw, c.st = .waiting fn wf wk aw → aw = []

theorem deliver_invB (c : Cfg) (o : WF) (h : InvB c) (hempty : Deliverable c o) : InvB (deliver c o) := by
  refine deliver_elim c o h (fun fn wf wk aw hst _ => ?_) fun fn wf aw k hst _ => ?_
  all_goals obtain ⟨hlt, himp⟩ := h _ _ _ _ hst
  · refine invB_waiting hst (by simpa [setAt] using hlt) fun hpre => ?_
    rcases hpre with g | g
    · exact hempty (by simpa [setAt, List.getElem?_set, hlt] using g) fn wf wk aw hst
    · exact himp (Or.inr g)
  · refine invB_waiting rfl hlt fun hpre => ?_
    rcases hpre with g | g
    · exact himp (Or.inl g)
    · exact hempty (by simpa using g) fn wf none aw hst

theorem cmdToState_invB (c : Cfg) (cmd : Cmd) (h : InvB c) : InvB (cmdToState c cmd).1 := by
  have happ : InvB { c with wfs := c.wfs ++ [WF.pending] } := by
    intro fn wf wk aw hst
    obtain ⟨hlt, himp⟩ := h fn wf wk aw hst
    refine ⟨List.length_append ▸ Nat.lt_add_right _ hlt, fun hpre => himp ?_⟩
    rwa [List.getElem?_append_left hlt] at hpre
  cases cmd <;> first | exact h | exact happ

theorem cmdToState_fresh (c : Cfg) (cmd : Cmd) (h : InvB c) : Fresh (cmdToState c cmd).1 (cmdToState c cmd).2 := by
  have key : ∀ fn aw, Fresh { c with wfs := c.wfs ++ [WF.pending] } (.waiting fn c.wfs.length none aw) := by
    intro fn aw fn' wf wk aw' hs
    cases hs
    exact ⟨by simp, rfl, fun f' wf' wk' aw'' hst => Nat.ne_of_lt (h f' wf' wk' aw'' hst).1⟩
  cases cmd with
  | wait fn => exact key _ _
  | waitOn fn aw => exact key _ _
  | _ => exact fresh_of_not_waiting _ _ (by intro _ _ _ _ h; cases h)

/-- re-arming a wait: the fresh future holds the parked outcome -/
theorem rearm_invB (c : Cfg) (f wf wk aw) (hst : c.st = .waiting f wf wk aw) (h : InvB c) :
    InvB { c with st := .waiting f c.wfs.length none aw,
                  wfs := c.wfs ++ [match (generalizing := false) wk with | some o => o | none => .pending] } := by
  refine invB_waiting rfl (by simp) fun hpre => (h f wf wk aw hst).2 (.inr ?_)
  rcases hpre with g | g
  · cases wk with
    | none => simp [isResult] at g
    | some o => simpa using g
  · simp at g

theorem awaitableDone_invB (c : Cfg) (f) (h : InvB c) : InvB (awaitableDone c f) := by
  unfold awaitableDone
  have hold : ∀ d : Cfg, InvB d → InvB (match d.efKeys.find? (·.1 = f), d.efs[f]? with
      | some (_, key), some (EFut.result v) => { d with ctx := (key, v) :: d.ctx.filter (·.1 ≠ key) }
      | _, _ => d) := by
    intro d hd; split
    · exact hd.off (Off.set d .ctx _)
    · exact hd
  dsimp only
  split
  · rename_i fn wf wakeup aw hst
    split
    · exact hold c h
    · -- `f` leaves the awaiting set
      obtain ⟨hlt, himp⟩ := h fn wf wakeup aw hst
      have h1 : InvB { c with st := .waiting fn wf wakeup (aw.filter (·.1 ≠ f)) } :=
        invB_waiting rfl hlt fun hpre => by rw [himp hpre]; rfl
      split
      · split
        · rename_i hemp
          refine deliver_invB _ _ (h1.off (Off.set _ .ctx _)) fun _ fn' wf' wk' aw' hst' => ?_
          cases (hst' : SObj.waiting fn wf wakeup (aw.filter (·.1 ≠ f)) = .waiting fn' wf' wk' aw')
          simpa using hemp
        · exact h1.off (Off.set _ .ctx _)
      · exact deliver_invB _ _ h1 nofun
      · exact h1
  · exact hold c h

theorem invB_closed : StepClosedG InvB Fresh Deliverable where
  ctl o h := h.off o
  tgt c s hs := fresh_of_not_waiting c s fun _ _ _ _ e => hs (e ▸ rfl)
  transG c s _ hf _ := transitionTo_invB c s hf
  paused c h := h.off (doPauseHooks_off c)
  played c h := h.off (play_off c)
  interrupted c k h := interruptState_invB c k h
  activate c _ _ _ _ _ h := h.off (Off.set c .trace _)
  allocG c cmd h := ⟨cmdToState_invB c cmd h, cmdToState_fresh c cmd h⟩
  rearmG := rearm_invB
  deliverG c o hd h := deliver_invB c o h hd
  adone c f h := awaitableDone_invB c f h
  complete c f o h := h.off (complete_off c f o)
  cancelFut c h := h.off (cancelFut_off c)
  unsched c _ _ h := h.off (Off.set c .ready _)
  sched c _ h := h.off (Off.set c .ready _)

theorem run_invB (P : Prog) (c0 : Cfg) (evs : List Ev) (h : InvB c0) (hnr : ∀ e ∈ evs, ∀ v, e ≠ .resume v) :
    InvB (run P c0 evs) :=
  invB_closed.run P (Ok := fun _ es => ∀ e ∈ es, ∀ v, e ≠ .resume v)
    (fun _ e _ hg => ⟨fun v he => absurd he (hg e List.mem_cons_self v), fun e' he' => hg e' (List.mem_cons_of_mem _ he')⟩)
    c0 evs hnr h

end PMF
