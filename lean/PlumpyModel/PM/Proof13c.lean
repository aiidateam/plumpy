import PlumpyModel.PM.Proof13b
/-!
# A held failure excepts the chain; the context is a map (C10 at the level of histories)

* `CtxOk`: the keys of the context are pairwise distinct (an assignment replaces the earlier value of its key) — in every
  configuration, whatever the history.
* `Chain`, `Chain2`: the corpus programs of harness/pm.py on which the history-level theorems are instantiated.
-/
namespace PMF.B10
open PMF.H6

/-- `Waiting.execute` whose future failed with `e`: the process is EXCEPTED with `e`, no activation -/
theorem wake_failed_fields (c : Cfg) (fn wf : Nat) (e : Exc) (hl : terminal c.st.label = false) :
    (wake c fn wf (.failed e)).st = .excepted e ∧ (wake c fn wf (.failed e)).pc = c.pc ∧
    (wake c fn wf (.failed e)).trace = c.trace := by
  have hs := setInterrupt_off c none
  have ht := transitionTo_off (setInterrupt c none) (.excepted e)
  have hf := finally_off (transitionTo (setInterrupt c none) (.excepted e))
  rw [show wake c fn wf (.failed e) = endOfStep c (.next (some (.excepted e))) from rfl, endOfStep_failed c e hl]
  exact ⟨hf.st.trans (transitionTo_installs _ _ (live_excepted _ (by rw [hs.st]; exact hl)) fun _ => ⟨_, rfl⟩), (hf.pc.trans ht.pc).trans hs.pc,
    (hf.trace.trans ht.trace).trans hs.trace⟩

/-- **a held failure is delivered**: in a coherent configuration whose WAITING state holds the failure `e`, if the process
is playing (not paused, no pause or kill request pending), the next callback of the stepping task ends it EXCEPTED with
`e`; the trace of user calls is unchanged (the following step is not activated). -/
theorem tick_fails (P : Prog) (c : Cfg) (fn wf : Nat) (wk : Option WF) (aw : List (Nat × Nat)) (e : Exc)
    (h : Coh c) (hst : c.st = .waiting fn wf wk aw) (hh : HoldsF c wf wk e)
    (hpa : c.paused = none) (hpi : c.pausing = none) (hk : c.killing = none) :
    (tickStepper P c).st = .excepted e ∧ (tickStepper P c).trace = c.trace := by
  obtain ⟨d, wf', m, he, hl, _, _, _, htr, _⟩ :=
    tick_wakes P c fn wf wk aw (.failed e) h hst hh nofun hpa (plain_of_no_request c h.rob hpi hk)
  have hf := wake_failed_fields d fn wf' e (by rw [hl]; rfl)
  have ht := (terminal_closed _ _ (by rw [hf.1]; rfl)).loopHead P (m + 1) (wake d fn wf' (.failed e)) ⟨rfl, rfl⟩
  rw [he]
  exact ⟨ht.1.trans hf.1, (ht.2.trans hf.2.2).trans htr⟩

def CtxOk (c : Cfg) : Prop := (c.ctx.map (·.1)).Nodup

theorem ctxOk_assign (l : List (Nat × Val)) (key : Nat) (v : Val) (h : (l.map (·.1)).Nodup) :
    (((key, v) :: l.filter (·.1 ≠ key)).map (·.1)).Nodup := by
  rw [List.map_cons, List.nodup_cons]
  refine ⟨?_, List.Nodup.sublist (List.Sublist.map _ List.filter_sublist) h⟩
  intro hm
  rw [List.mem_map] at hm
  obtain ⟨a, ha, hk⟩ := hm
  have := (List.mem_filter.mp ha).2
  simp at this
  exact this hk

theorem CtxOk.off {W : List Fld} {c d : Cfg} (h : CtxOk c) (o : Off W c d) (hW : Fld.ctx ∉ W := by decide) :
    CtxOk d := by
  unfold CtxOk; rw [o.ctx hW]; exact h

/-- only `_awaitable_done` writes the context, and it replaces the binding of the key it assigns -/
theorem ctxOk_closed : StepClosed CtxOk where
  ctl o h := h.off o
  trans c s _ h := h.off (transitionTo_off c s)
  paused c h := h.off (doPauseHooks_off c)
  played c h := h.off (play_off c)
  interrupted c k h := h.off (interruptState_off c k)
  activate _ _ _ _ _ _ h := h
  alloc c cmd h := h.off (cmdToState_off c cmd)
  rearmG _ _ _ _ _ _ h := h
  deliver c o h := h.off (deliver_off c o)
  adone c f h := awaitableDone_elim c f h (fun d _ _ hd => ctxOk_assign d.ctx _ _ hd) (fun _ _ _ _ _ _ _ => h)
    fun d o _ hd => hd.off (deliver_off d o)
  complete c f o h := h.off (complete_off c f o)
  cancelFut c h := h.off (cancelFut_off c)
  unsched c _ _ h := h.off (Off.set c .ready _)
  sched c _ h := h.off (Off.set c .ready _)

theorem run_ctxOk (P : Prog) (c0 : Cfg) (evs : List Ev) (h : CtxOk c0) : CtxOk (run P c0 evs) := ctxOk_closed.run P c0 evs h

theorem ctxOk_init (nf : Nat) : CtxOk (init nf) := List.nodup_nil

/-- a callback of the stepping task never touches the context: every step activated in it sees the same context -/
theorem tickStepper_ctx (P : Prog) (c : Cfg) : (tickStepper P c).ctx = c.ctx := (tickStepper_off P c).ctx

/-- the corpus program `Chain2` of harness/pm.py (`chain_prog([[(0, 0), (1, 1)], [(2, 0)], []], 3)`): step 0 awaits futures
0 and 1 under the keys 0 and 1, step 1 awaits future 2 under the key 0 again, step 2 stops -/
def Chain2 : Prog := fun fn _ _ _ =>
  if fn = 0 then ⟨0, .ret (.waitOn 1 [(0, 0), (1, 1)])⟩
  else if fn = 1 then ⟨0, .ret (.waitOn 2 [(2, 0)])⟩ else ⟨0, .ret (.stop none true)⟩

/-- the corpus program `Chain` (`chain_prog([[(0, 0)], []], 1)`): step 0 awaits future 0 under key 0, step 1 stops -/
def Chain : Prog := fun fn _ _ _ =>
  if fn = 0 then ⟨0, .ret (.waitOn 1 [(0, 0)])⟩ else ⟨0, .ret (.stop none true)⟩

theorem chain2_awDistinct : AwDistinct Chain2 := by
  intro fn args kw ctx; unfold Chain2; split
  · simp [OutOk, DistinctF]
  · split <;> simp [OutOk, DistinctF]

theorem chain_awDistinct : AwDistinct Chain := by
  intro fn args kw ctx; unfold Chain; split <;> simp [OutOk, DistinctF]

end PMF.B10
