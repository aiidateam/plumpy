import PlumpyModel.PM.Proof11d
import PlumpyModel.PM.Proof11b
/-!
# Delivery: one tick of the stepping task starts the continuation (C06 at the level of histories)

`tick_delivers`: in a coherent configuration (`Coh`, i.e. every configuration reachable without running out of fuel) whose
WAITING state holds an outcome `v` for its continuation `fn` (`Holds`: the waiting future completed with `v`, or `v` is
parked in the wake-up slot while the future carries an interruption), if the process is playing (not paused, no pause
or kill request pending), the next callback of the stepping task activates `fn` with exactly `v`'s argument list.
-/
namespace PMF.H6

/-- the positional arguments a continuation is called with when the wait completed with `v` -/
def argsOf (v : Option Val) : List Val := match v with | some x => [x] | none => []

/-- the wait of the current WAITING state (future `wf`, wake-up slot `wk`) holds the outcome `v` -/
def Holds (c : Cfg) (wf : Nat) (wk : Option WF) (v : Option Val) : Prop :=
  c.wfs[wf]? = some (.result v) ∨ ((∃ k, c.wfs[wf]? = some (.interrupted k)) ∧ wk = some (.result v))

theorem endOfStep_interruption_plain (c : Cfg) (k i : Nat) (hl : terminal c.st.label = false)
    (hi : c.interrupt = some i) (hc : actionStatus c i = .cancelled) : endOfStep c (.interruption k) = finally_ c := by
  have hp : prepare c (.interruption k) = (c, none) := by unfold prepare; simp [hi]
  unfold endOfStep
  rw [hp]
  exact congrArg finally_ (dispatch_plain c none hl fun j hj => by rw [hi] at hj; cases hj; exact hc)

/-- `Waiting.execute` after its future completed with `v`, no runnable interrupt action: RUNNING `fn(*argsOf v)` -/
theorem wake_result_fields (c : Cfg) (fn wf : Nat) (v : Option Val) (hl : c.st.label = .waiting) (hcl : c.closed = false)
    (hi : Plain c) :
    (wake c fn wf (.result v)).st = .running fn (argsOf v) [] ∧ (wake c fn wf (.result v)).paused = c.paused ∧
    (wake c fn wf (.result v)).closed = false ∧ (wake c fn wf (.result v)).pc = c.pc ∧
    (wake c fn wf (.result v)).trace = c.trace := by
  have hw : wake c fn wf (.result v) = finally_ (transitionTo c (.running fn (argsOf v) [])) :=
    endOfStep_plain c _ (by rw [hl]; rfl) (by intro e h; cases h) hi
  have hst : (transitionTo c (.running fn (argsOf v) [])).st = .running fn (argsOf v) [] :=
    transitionTo_installs c _ (by rw [hl]; exact (by decide : Label.running ∈ allowed .waiting)) fun _ =>
      ⟨_, enteringHooks_live _ _ rfl⟩
  have of := finally_off (transitionTo c (.running fn (argsOf v) []))
  have o := (transitionTo_off c (.running fn (argsOf v) [])).trans of
  rw [hw]
  refine ⟨of.st.trans hst, o.paused, of.closed.trans ?_, o.pc, o.trace⟩
  rcases transitionTo_res c (.running fn (argsOf v) []) with ⟨e, he⟩ | ⟨_, _, h3⟩
  · rw [hst] at he; cases he
  · exact (h3 rfl).2.1.trans hcl

theorem stepBodyK_activates (P : Prog) (m : Nat) (d : Cfg) (fn : Nat) (args : List Val)
    (hst : d.st = .running fn args []) (hpa : d.paused = none) :
    ∃ extra, (stepBodyK P (loopHead P m) d).trace =
      extra ++ { fn := fn, args := args, kw := [], paused := false } :: d.trace := by
  rw [stepBodyK_running P _ d fn args [] hst, hpa]
  split
  · obtain ⟨x, hx⟩ := ((trext_closed _).loopHead P m _ (.rfl' _)).ext
    exact ⟨x, by rw [hx, (finishUser_off _ _).trace]; rfl⟩
  · exact ⟨[], rfl⟩

theorem loopHead_activates (P : Prog) (m : Nat) (d : Cfg) (fn : Nat) (args : List Val)
    (hst : d.st = .running fn args []) (hncr : ∀ e, d.pc ≠ .crashed e) (hcl : d.closed = false) (hpa : d.paused = none) :
    ∃ extra, (loopHead P (m + 1) d).trace = extra ++ { fn := fn, args := args, kw := [], paused := false } :: d.trace := by
  rw [loopHead_step P m d hncr (by rw [hst]; rfl) hcl hpa]
  exact stepBodyK_activates P m d fn args hst hpa

theorem stepBodyK_waiting_delivers (P : Prog) (m : Nat) (c : Cfg) (fn wf : Nat) (wk : Option WF) (aw : List (Nat × Nat))
    (v : Option Val) (hst : c.st = .waiting fn wf wk aw) (hw : c.wfs[wf]? = some (.result v)) (hi : Plain c)
    (hncr : ∀ e, c.pc ≠ .crashed e) (hcl : c.closed = false) (hpa : c.paused = none) :
    ∃ extra, (stepBodyK P (loopHead P (m + 1)) c).trace =
      extra ++ { fn := fn, args := argsOf v, kw := [], paused := false } :: c.trace := by
  have hf := wake_result_fields { c with stepping := true } fn wf v (by show c.st.label = _; rw [hst]; rfl) hcl hi
  have ha := loopHead_activates P m (wake { c with stepping := true } fn wf (.result v)) fn (argsOf v) hf.1
    (by intro e; rw [hf.2.2.2.1]; exact hncr e) hf.2.2.1 (hf.2.1.trans hpa)
  rw [hf.2.2.2.2] at ha
  rw [stepBodyK_waiting_done P _ c fn wf wk aw _ hst hw nofun]
  exact ha

theorem loopHead_waiting_delivers (P : Prog) (m : Nat) (c : Cfg) (fn wf : Nat) (wk : Option WF) (aw : List (Nat × Nat))
    (v : Option Val) (hst : c.st = .waiting fn wf wk aw) (hw : c.wfs[wf]? = some (.result v)) (hi : Plain c)
    (hncr : ∀ e, c.pc ≠ .crashed e) (hcl : c.closed = false) (hpa : c.paused = none) :
    ∃ extra, (loopHead P (m + 2) c).trace = extra ++ { fn := fn, args := argsOf v, kw := [], paused := false } :: c.trace := by
  rw [loopHead_step P (m + 1) c hncr (by rw [hst]; rfl) hcl hpa]
  exact stepBodyK_waiting_delivers P m c fn wf wk aw v hst hw hi hncr hcl hpa

/-- `Waiting.execute` resumed by an interruption whose action was retracted: the wait is re-armed on a fresh future that
holds the parked outcome, and the step ends without doing anything else -/
theorem wake_interrupted_plain (c : Cfg) (fn wf : Nat) (wk : Option WF) (aw : List (Nat × Nat)) (k i : Nat)
    (hst : c.st = .waiting fn wf wk aw) (hi : c.interrupt = some i) (hc : actionStatus c i = .cancelled) :
    wake c fn wf (.interrupted k) =
      finally_ { c with st := .waiting fn c.wfs.length none aw, wfs := c.wfs ++ [wk.getD WF.pending] } := by
  rw [wake_interrupted c fn wf k _ hst rfl]
  exact endOfStep_interruption_plain _ k i rfl hi hc

/-- the wait (future `wf`, wake-up slot `wk`) holds the outcome `o`: in its future, or parked behind an interruption.
`Holds c wf wk v` is `HoldsO c wf wk (.result v)` and `B10.HoldsF c wf wk e` is `HoldsO c wf wk (.failed e)`, by unfolding. -/
def HoldsO (c : Cfg) (wf : Nat) (wk : Option WF) (o : WF) : Prop :=
  c.wfs[wf]? = some o ∨ ((∃ k, c.wfs[wf]? = some (.interrupted k)) ∧ wk = some o)

/-- in a coherent, playing configuration whose wait holds `o`, the next callback of the stepping task is `Waiting.execute`
on `o` — on a configuration `d` that is still that WAITING epoch, open, playing, with no runnable interrupt action and the
same trace — followed by the rest of the loop -/
theorem tick_wakes (P : Prog) (c : Cfg) (fn wf : Nat) (wk : Option WF) (aw : List (Nat × Nat)) (o : WF)
    (h : Coh c) (hst : c.st = .waiting fn wf wk aw) (hh : HoldsO c wf wk o) (ho : o ≠ .pending)
    (hpa : c.paused = none) (hplain : Plain c) :
    ∃ (d : Cfg) (wf' m : Nat), tickStepper P c = loopHead P (m + 1) (wake d fn wf' o) ∧ d.st.label = .waiting ∧
      d.closed = false ∧ d.paused = none ∧ Plain d ∧ d.trace = c.trace ∧ ∀ e, d.pc ≠ .crashed e := by
  have hlab : c.st.label = .waiting := by rw [hst]; rfl
  have hlive : terminal c.st.label = false := by rw [hlab]; rfl
  have hcl : c.closed = false := not_closed_of_live h.inv hlive
  have hwfo : wfOf c.st = some wf := by rw [hst]; rfl
  have hpcok := h.pcOk
  unfold PcOk at hpcok
  have hncr : ∀ e, c.pc ≠ .crashed e := by intro e hpc; simp only [hpc] at hpcok
  have hown : ∀ wf', c.pc = .awaitWaiting wf' → wf' = wf := by
    intro wf' hpc
    simp only [hpc] at hpcok
    rcases hpcok.2 with g | g
    · rw [hlive] at g; cases g
    · exact Option.some.inj (g.symm.trans hwfo)
  rcases hh with hw | ⟨⟨k, hwk⟩, rfl⟩
  · -- the outcome is in the future of the wait
    cases hpc : c.pc with
    | notStarted =>
      exact ⟨{ c with stepping := true }, wf, 998,
        (tickStepper_notStarted P c hpc).trans (loopHead_wakes P 999 c fn wf wk aw o hst hw ho hncr hcl hpa),
        hlab, hcl, hpa, hplain, rfl, hncr⟩
    | awaitPaused pf =>
      simp only [hpc] at hpcok
      have hpf : c.pfs[pf]? = some true := (hpcok.2 hlive).resolve_right (by rw [hpa]; exact nofun)
      exact ⟨{ c with stepping := true }, wf, 999,
        (tickStepper_released P c pf hpc hpf hpa).trans (stepBodyK_waiting_done P _ c fn wf wk aw o hst hw ho),
        hlab, hcl, hpa, hplain, rfl, hncr⟩
    | inUser b => simp only [hpc] at hpcok; rw [hpcok.2] at hwfo; cases hwfo
    | awaitWaiting wf' =>
      cases hown wf' hpc
      exact ⟨c, wf, 999, tickStepper_wait_done P c fn wf wk aw o hpc hst hw ho, hlab, hcl, hpa, hplain, rfl, hncr⟩
    | done => simp only [hpc] at hpcok; rw [hlive] at hpcok; cases hpcok.2
    | crashed e => exact absurd hpc (hncr e)
  · -- the outcome is parked while the future carries an interruption: the interrupted step is still in flight, the
    -- coroutine sleeps on this future; its action was retracted, so the wait is re-armed with `o` and the loop goes on
    obtain ⟨hstep, hint⟩ := h.rob.intr wf k hwfo hwk
    cases hpc : c.pc with
    | notStarted => simp only [hpc] at hpcok; rw [hstep] at hpcok; cases hpcok
    | awaitPaused pf => simp only [hpc] at hpcok; rw [hstep] at hpcok; cases hpcok.1
    | inUser b => simp only [hpc] at hpcok; rw [hpcok.2] at hwfo; cases hwfo
    | done => simp only [hpc] at hpcok; rw [hstep] at hpcok; cases hpcok.1
    | crashed e => exact absurd hpc (hncr e)
    | awaitWaiting wf' =>
      cases hown wf' hpc
      cases hi : c.interrupt with
      | none => exact absurd hi hint
      | some i =>
        have of := finally_off { c with st := .waiting fn c.wfs.length none aw, wfs := c.wfs ++ [o] }
        have hncr' : ∀ e, (finally_ { c with st := .waiting fn c.wfs.length none aw, wfs := c.wfs ++ [o] }).pc ≠ .crashed e :=
          fun e => by rw [of.pc]; exact hncr e
        refine ⟨{ finally_ { c with st := .waiting fn c.wfs.length none aw, wfs := c.wfs ++ [o] } with stepping := true },
          c.wfs.length, 998, ?_, congrArg SObj.label of.st, of.closed.trans hcl, of.paused.trans hpa,
          fun j hj => (by cases hj), of.trace, hncr'⟩
        rw [tickStepper_wait_done P c fn wf _ aw _ hpc hst hwk nofun,
          wake_interrupted_plain c fn wf (some o) aw k i hst hi (hplain i hi)]
        exact loopHead_wakes P 999 _ fn c.wfs.length none aw o of.st ((congrArg (·[c.wfs.length]?) of.wfs).trans List.getElem?_concat_length) ho
          hncr' (of.closed.trans hcl) (of.paused.trans hpa)

/-- **delivery, one configuration** (the header of this file), with `Plain c` for "no pause or kill request pending" -/
theorem tick_delivers_plain (P : Prog) (c : Cfg) (fn wf : Nat) (wk : Option WF) (aw : List (Nat × Nat)) (v : Option Val)
    (h : Coh c) (hst : c.st = .waiting fn wf wk aw) (hh : Holds c wf wk v)
    (hpa : c.paused = none) (hplain : Plain c) :
    ∃ extra, (tickStepper P c).trace = extra ++ { fn := fn, args := argsOf v, kw := [], paused := false } :: c.trace := by
  obtain ⟨d, wf', m, he, hl, hcl, hpa', hpl, htr, hncr⟩ := tick_wakes P c fn wf wk aw (.result v) h hst hh nofun hpa hplain
  have hf := wake_result_fields d fn wf' v hl hcl hpl
  have ha := loopHead_activates P m (wake d fn wf' (.result v)) fn (argsOf v) hf.1
    (by intro e; rw [hf.2.2.2.1]; exact hncr e) hf.2.2.1 (hf.2.1.trans hpa')
  rw [hf.2.2.2.2, htr] at ha
  rw [he]; exact ha

theorem plain_of_no_request (c : Cfg) (h : Rob c) (hpi : c.pausing = none) (hk : c.killing = none) : Plain c := by
  intro i hi
  rcases h.alias i hi with g | g | g
  · exact g
  · rw [hpi] at g; cases g
  · rw [hk] at g; cases g

theorem tick_delivers (P : Prog) (c : Cfg) (fn wf : Nat) (wk : Option WF) (aw : List (Nat × Nat)) (v : Option Val)
    (h : Coh c) (hst : c.st = .waiting fn wf wk aw) (hh : Holds c wf wk v)
    (hpa : c.paused = none) (hpi : c.pausing = none) (hk : c.killing = none) :
    ∃ extra, (tickStepper P c).trace = extra ++ { fn := fn, args := argsOf v, kw := [], paused := false } :: c.trace :=
  tick_delivers_plain P c fn wf wk aw v h hst hh hpa (plain_of_no_request c h.rob hpi hk)

end PMF.H6
