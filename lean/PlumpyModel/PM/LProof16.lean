import PlumpyModel.PM.ClosedL
import PlumpyModel.PM.Proof10
/-!
# `PMF.L` — progress with listeners: what no notification and no transition ever touches (`QQ`)

For every model function below the closing part of a step — hence for every request a listener or state-event callback can
issue, in every context — : the program counter of the stepping task and `_stepping` are untouched, the future heaps only grow
and only get completed (`MonoW`, `MonoP`), the interrupt-action slot is untouched unless a step is in progress, and the slot never
holds an action that already ran (`IA`).
-/
namespace PMF
namespace L

structure QC (c c' : Cfg) : Prop where
  pc : c'.pc = c.pc
  stepping : c'.stepping = c.stepping
  wfs : MonoW c.wfs c'.wfs
  pfs : MonoP c.pfs c'.pfs
  int : c.stepping = false → c'.interrupt = c.interrupt
  ia : IA c → IA c'

theorem QC.rfl' (c : Cfg) : QC c c := ⟨rfl, rfl, MonoW.rfl' _, MonoP.rfl' _, fun _ => rfl, fun h => h⟩
theorem QC.trans {a b c : Cfg} (h1 : QC a b) (h2 : QC b c) : QC a c :=
  ⟨h2.pc.trans h1.pc, h2.stepping.trans h1.stepping, h1.wfs.trans h2.wfs, h1.pfs.trans h2.pfs,
   fun hs => (h2.int (by rw [h1.stepping]; exact hs)).trans (h1.int hs), fun h => h2.ia (h1.ia h)⟩
theorem QC.of_tr {c c' : Cfg} (r : TR c c') : QC c c' :=
  ⟨r.pc, r.stepping, r.wfs, r.pfs, fun _ => r.interrupt, fun h => h.of_eq r.interrupt r.actions⟩

theorem QC.of_off {W : List Fld} {c c' : Cfg} (o : Off W c c')
    (hW : ∀ f ∈ [Fld.pc, .stepping, .wfs, .pfs, .interrupt, .actions], f ∉ W := by decide) : QC c c' :=
  have hi := o.interrupt (hW _ (by decide))
  ⟨o.pc (hW _ (by decide)), o.stepping (hW _ (by decide)), .of_eq (o.wfs (hW _ (by decide))),
   .of_eq (o.pfs (hW _ (by decide))), fun _ => hi, fun h => h.of_eq hi (o.actions (hW _ (by decide)))⟩

def QQ (l l' : LCfg) : Prop := QC l.c l'.c

theorem QQ.rfl' (l : LCfg) : QQ l l := QC.rfl' _
theorem QQ.trans {a b c : LCfg} (h1 : QQ a b) (h2 : QQ b c) : QQ a c := QC.trans h1 h2
theorem QQ.of_tr {l l' : LCfg} (r : TR l.c l'.c) : QQ l l' := QC.of_tr r
theorem QQ.upd_tr (l : LCfg) (f : Cfg → Cfg) (r : TR l.c (f l.c)) : QQ l (l.upd f) := QC.of_tr r
theorem QQ.same {l l' : LCfg} (h : l'.c = l.c) : QQ l l' := by
  unfold QQ; rw [h]; exact QC.rfl' _

def FQ (F : Hook → LCfg → LCfg) : Prop := ∀ h l, QQ l (F h l)

theorem doPauseHooks_qq (l : LCfg) : QQ l (l.upd doPauseHooks) :=
  ⟨rfl, rfl, MonoW.rfl' _, MonoP.append _ _, fun _ => rfl, fun h => h⟩

/-- `play()`: a retracted pause action is cancelled (never un-run), a pause future is released -/
theorem play_qc (c : Cfg) : QC c (play c).1 :=
  play_elim c (fun _ _ => QC.rfl' c)
    (fun i _ _ =>
      have o := (cancelAction_off c i).trans (Off.set _ .pausing none)
      ⟨o.pc, o.stepping, MonoW.of_eq o.wfs, MonoP.of_eq o.pfs, fun _ => o.interrupt, fun h => (cancelAction_ia c i h).of_eq rfl rfl⟩)
    (fun _ _ _ => ⟨rfl, rfl, MonoW.rfl' _, MonoP.set_true _ _, fun _ => rfl, fun h => h⟩)
    fun _ _ _ => ⟨rfl, rfl, MonoW.rfl' _, MonoP.rfl' _, fun _ => rfl, fun h => h⟩

theorem play_qq (l : LCfg) : QQ l (l.upd (fun c => (play c).1)) := play_qc l.c

/-- a deferred request (made while a step is in progress): a fresh pending action in the slot -/
theorem requestL_qq (l : LCfg) (k : AKind) (p q : Option Nat → Option Nat) (hs : l.c.stepping = true) :
    QQ l { l with c := { requestL l k with pausing := p (requestL l k).pausing, killing := q (requestL l k).killing } } := by
  have hint : ∀ x : Prop, l.c.stepping = false → x := fun _ h => by rw [hs] at h; cases h
  have b := setInterruptFromExc_ia { l.c with nextCookie := l.c.nextCookie + 1 } k l.c.nextCookie
  unfold requestL
  split
  · have o := requestInterrupt_off l.c k
    exact ⟨o.pc, o.stepping, requestInterrupt_wfs l.c k ▸ (interruptState_tr l.c _).wfs, .of_eq o.pfs, fun h => hint _ h,
      fun _ => b.of_eq (interruptState_off _ _).interrupt (interruptState_off _ _).actions⟩
  · have o := setInterruptFromExc_off { l.c with nextCookie := l.c.nextCookie + 1 } k l.c.nextCookie
    exact ⟨o.pc, o.stepping, .of_eq o.wfs, .of_eq o.pfs, fun h => hint _ h, fun _ => b.of_eq rfl rfl⟩

theorem qq_req (l₀ : LCfg) : ReqLeaves (fun l => QQ l₀ l) where
  setTrans _ _ h := h.trans (QQ.same rfl)
  exit l h := h.trans (QQ.upd_tr _ _ (exitState_tr _))
  stClosed l s _ h := h.trans (QC.of_off (Off.set l.c .st s))
  entering l _ _ hok h := h.trans (QC.of_off (enteringHooks_off l.c hok))
  futExc l e h := h.trans (QC.of_off (setFutExc_off l.c e))
  enterState l s h := h.trans (QC.of_off (enterState_off l.c s))
  setState l s h := h.trans (QC.of_off (setState_off l.c s))
  entered l s h := h.trans (QC.of_off (enteredHooks_off l.c s))
  terminated l h := h.trans (QQ.upd_tr _ _ (onTerminated_tr _))
  paused l h := h.trans (doPauseHooks_qq l)
  clearPausing l h := h.trans (QC.of_off (Off.set l.c .pausing none))
  hand l i h := h.trans (QC.of_off (hand_off l.c i))
  requestPause l hs h := h.trans (requestL_qq l .pause (fun _ => (requestL l .pause).interrupt) id hs)
  requestKill l hs h := h.trans (requestL_qq l .kill id (fun _ => (requestL l .kill).interrupt) hs)
  played l h := h.trans (play_qq l)
  count _ _ h := h.trans (QQ.same rfl)
  issue _ _ _ _ h := h.trans (QQ.same rfl)

section
variable {F : Hook → LCfg → LCfg} (hF : FQ F)
include hF

theorem FQ.step {l₀ : LCfg} : ∀ h l, QQ l₀ l → QQ l₀ (F h l) := fun h l q => q.trans (hF h l)

theorem transitionToL_qq (l : LCfg) (s : SObj) : QQ l (transitionToL F l s) :=
  (qq_req l).transitionToL hF.step l s (QQ.rfl' l)
theorem doPauseL_qq (l : LCfg) : QQ l (doPauseL F l) := (qq_req l).doPauseL hF.step l (QQ.rfl' l)
theorem reqK_qq (r : Req) (l : LCfg) : QQ l (reqK F r l) := (qq_req l).reqK hF.step r l (QQ.rfl' l)
theorem failL_qq (l : LCfg) (e : Exc) : QQ l (failL F l e).1 :=
  failL_closed (fun l' s _ => (qq_req l).transitionToL hF.step l' s) l e (QQ.rfl' l)
end

theorem fireN_qq (n : Nat) : FQ (fireN n) := fun h l => (qq_req l).fireN n h l (QQ.rfl' l)

end L
end PMF
