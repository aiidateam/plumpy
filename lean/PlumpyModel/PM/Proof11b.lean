import PlumpyModel.PM.Proof11
import PlumpyModel.PM.Proof3
/-!
# The coherence invariant `Coh` of reachable configurations (C06 at the level of histories)

`Coh c` ties the program counter of the stepping coroutine to the rest of the configuration:

* `Rob` (robust part): while no step is in flight there is no interrupt action; an installed interrupt action is pending
  or was cancelled by `play()`, and it is cancelled or aliased by `_pausing` / `_killing`; the future of the current
  WAITING state carries an interruption only while the interrupted step is still in flight; its index is valid; a parked
  wake-up is an outcome, never an interruption.
* `PcOk`: where the coroutine is suspended matches `stepping` and the state object (suspended inside user code: RUNNING or
  terminated by `fail()`; suspended on a waiting future: that of the current WAITING state; suspended on a pause future:
  that future is the current one or was released; finished: terminal) — and the coroutine never crashed.

`PcOk` is an invariant only of histories in which no single callback of the stepping task runs out of the model's
fuel (`histFuelOk`: fewer than `fuel0 = 1000` synchronous steps in one callback); `loopHead P 0 c = c` leaves a stale
program counter behind, after which the model's next tick would re-run an already consumed continuation.
-/
namespace PMF.H6

def wfOf : SObj → Option Nat
  | .waiting _ wf _ _ => some wf
  | _ => none
def wkOf : SObj → Option WF
  | .waiting _ _ wk _ => wk
  | _ => none

theorem wfOf_waiting {s : SObj} {wf : Nat} (h : wfOf s = some wf) : ∃ fn wk aw, s = .waiting fn wf wk aw := by
  cases s <;> simp [wfOf] at h
  subst h; exact ⟨_, _, _, rfl⟩
theorem wfOf_none_of_terminal {s : SObj} (h : terminal s.label = true) : wfOf s = none := by
  cases s <;> simp [wfOf, SObj.label, terminal, allowed] at h ⊢

def Int0 (c : Cfg) : Prop := c.stepping = false → c.interrupt = none
def Alias (c : Cfg) : Prop :=
  ∀ i, c.interrupt = some i → actionStatus c i = .cancelled ∨ c.pausing = some i ∨ c.killing = some i
def Intr (c : Cfg) : Prop :=
  ∀ wf k, wfOf c.st = some wf → c.wfs[wf]? = some (.interrupted k) → c.stepping = true ∧ c.interrupt ≠ none
def Wfv (c : Cfg) : Prop := ∀ wf, wfOf c.st = some wf → wf < c.wfs.length
def Park (c : Cfg) : Prop := ∀ o k, wkOf c.st = some o → o ≠ .interrupted k

/-- the robust part of the invariant (holds whatever the fuel) -/
structure Rob (c : Cfg) : Prop where
  int0 : Int0 c
  actOk : ActOk c
  alias : Alias c
  intr : Intr c
  wfv : Wfv c
  park : Park c

theorem wkOf_none_of_wfOf_none {s : SObj} (h : wfOf s = none) : wkOf s = none := by
  cases s <;> simp [wfOf, wkOf] at h ⊢

theorem wkOf_none_of_terminal {s : SObj} (h : terminal s.label = true) : wkOf s = none :=
  wkOf_none_of_wfOf_none (wfOf_none_of_terminal h)

theorem Intr.of_notWaiting {c : Cfg} (h : wfOf c.st = none) : Intr c := fun _ _ hw => by rw [h] at hw; cases hw
theorem Wfv.of_notWaiting {c : Cfg} (h : wfOf c.st = none) : Wfv c := fun _ hw => by rw [h] at hw; cases hw
theorem Park.of_notWaiting {c : Cfg} (h : wfOf c.st = none) : Park c :=
  fun _ _ hw => by rw [wkOf_none_of_wfOf_none h] at hw; cases hw
theorem ActOk.of_none {c : Cfg} (h : c.interrupt = none) : ActOk c := fun i hi => by rw [h] at hi; cases hi
theorem Alias.of_none {c : Cfg} (h : c.interrupt = none) : Alias c := fun i hi => by rw [h] at hi; cases hi

def PcOk (c : Cfg) : Prop :=
  match c.pc with
  | .notStarted => c.stepping = false
  | .awaitPaused pf => c.stepping = false ∧ (terminal c.st.label = false → c.pfs[pf]? = some true ∨ c.paused = some pf)
  | .inUser _ => c.stepping = true ∧ wfOf c.st = none
  | .awaitWaiting wf => c.stepping = true ∧ (terminal c.st.label = true ∨ wfOf c.st = some wf)
  | .done => c.stepping = false ∧ terminal c.st.label = true
  | .crashed _ => False

structure Coh (c : Cfg) : Prop where
  rob : Rob c
  inv : Inv c
  invP : InvP c
  pcOk : PcOk c

/-- a configuration between two steps of one callback of the stepping task (the program counter is stale) -/
structure Mid (c : Cfg) : Prop where
  rob : Rob c
  inv : Inv c
  invP : InvP c
  nstep : c.stepping = false
  ncr : ∀ e, c.pc ≠ .crashed e

/-- `d` agrees with `c` on everything `Coh` looks at -/
structure SameAll (c d : Cfg) : Prop where
  label : d.st.label = c.st.label
  wfOf : wfOf d.st = wfOf c.st
  wkOf : wkOf d.st = wkOf c.st
  wfs : d.wfs = c.wfs
  stepping : d.stepping = c.stepping
  interrupt : d.interrupt = c.interrupt
  actions : d.actions = c.actions
  pausing : d.pausing = c.pausing
  killing : d.killing = c.killing
  pc : d.pc = c.pc
  paused : d.paused = c.paused
  pfs : d.pfs = c.pfs
  entered : d.entered = c.entered
  closed : d.closed = c.closed
  trace : d.trace = c.trace

theorem SameAll.of_off {W : List Fld} {c d : Cfg} (o : Off W c d)
    (hW : ∀ f ∈ [Fld.st, .wfs, .stepping, .interrupt, .actions, .pausing, .killing, .pc, .paused, .pfs, .entered, .closed, .trace],
      f ∉ W := by decide) : SameAll c d :=
  have hst := o.st (hW _ (by decide))
  ⟨congrArg SObj.label hst, congrArg H6.wfOf hst, congrArg H6.wkOf hst, o.wfs (hW _ (by decide)),
   o.stepping (hW _ (by decide)), o.interrupt (hW _ (by decide)), o.actions (hW _ (by decide)),
   o.pausing (hW _ (by decide)), o.killing (hW _ (by decide)), o.pc (hW _ (by decide)),
   o.paused (hW _ (by decide)), o.pfs (hW _ (by decide)), o.entered (hW _ (by decide)),
   o.closed (hW _ (by decide)), o.trace (hW _ (by decide))⟩

theorem Rob.congr {c d : Cfg} (h : Rob c) (hwf : wfOf d.st = wfOf c.st) (hwk : wkOf d.st = wkOf c.st) (hwfs : d.wfs = c.wfs)
    (hstep : d.stepping = c.stepping) (hint : d.interrupt = c.interrupt) (hact : d.actions = c.actions)
    (hpau : d.pausing = c.pausing) (hkil : d.killing = c.killing) : Rob d := by
  refine ⟨?_, ?_, ?_, ?_, ?_, ?_⟩
  · intro hs; rw [hint]; exact h.int0 (by rw [← hstep]; exact hs)
  · intro i hi; rw [actionStatus_of_actions hact]; exact h.actOk i (by rw [← hint]; exact hi)
  · intro i hi; rw [actionStatus_of_actions hact, hpau, hkil]; exact h.alias i (by rw [← hint]; exact hi)
  · intro wf k h1 h2; rw [hstep, hint]
    exact h.intr wf k (by rw [← hwf]; exact h1) (by rw [← hwfs]; exact h2)
  · intro wf h1; rw [hwfs]; exact h.wfv wf (by rw [← hwf]; exact h1)
  · intro o k h1; exact h.park o k (by rw [← hwk]; exact h1)

theorem Rob.same {c d : Cfg} (h : Rob c) (s : SameAll c d) : Rob d :=
  h.congr s.wfOf s.wkOf s.wfs s.stepping s.interrupt s.actions s.pausing s.killing

/-- `PcOk` reads the state object through its label and its waiting future only, and the pause futures only as "the one the
coroutine sleeps on is released or current" -/
theorem PcOk.mono {c d : Cfg} (h : PcOk c) (hpc : d.pc = c.pc) (hst : d.stepping = c.stepping)
    (hl : d.st.label = c.st.label) (hw : wfOf d.st = wfOf c.st)
    (hpf : terminal c.st.label = false → ∀ pf, c.pfs[pf]? = some true ∨ c.paused = some pf →
      d.pfs[pf]? = some true ∨ d.paused = some pf) : PcOk d := by
  unfold PcOk at *
  rw [hpc]
  cases hpc' : c.pc <;> simp only [hpc'] at h ⊢ <;> simp only [hst, hl, hw] <;> try exact h
  exact ⟨h.1, fun g => hpf g _ (h.2 g)⟩

theorem PcOk.congr {c d : Cfg} (h : PcOk c) (hpc : d.pc = c.pc) (hst : d.stepping = c.stepping)
    (hl : d.st.label = c.st.label) (hw : wfOf d.st = wfOf c.st) (hpf : d.pfs = c.pfs) (hpa : d.paused = c.paused) : PcOk d :=
  h.mono hpc hst hl hw fun _ _ g => by rw [hpf, hpa]; exact g

theorem PcOk.same {c d : Cfg} (h : PcOk c) (s : SameAll c d) : PcOk d :=
  h.congr s.pc s.stepping s.label s.wfOf s.pfs s.paused

theorem Coh.same {c d : Cfg} (h : Coh c) (s : SameAll c d) : Coh d :=
  ⟨h.rob.same s, h.inv.same ⟨s.label, s.entered, s.closed⟩, h.invP.same ⟨s.label, s.trace, s.paused, s.pfs⟩, h.pcOk.same s⟩

theorem Coh.off {W : List Fld} {c d : Cfg} (h : Coh c) (o : Off W c d)
    (hW : ∀ f ∈ [Fld.st, .wfs, .stepping, .interrupt, .actions, .pausing, .killing, .pc, .paused, .pfs, .entered, .closed, .trace],
      f ∉ W := by decide) : Coh d := h.same (.of_off o hW)

/-- the control calls are handled in two halves: `Rob ∧ PcOk` here, the lifecycle and pause invariants by their own passes -/
theorem Coh.of_rp {d : Cfg} (h : Rob d ∧ PcOk d) (hi : Inv d) (hp : InvP d) : Coh d := ⟨h.1, hi, hp, h.2⟩

theorem coh_init (nf : Nat) : Coh (init nf) := by
  exact ⟨⟨fun _ => rfl, .of_none rfl, .of_none rfl, .of_notWaiting rfl, .of_notWaiting rfl, .of_notWaiting rfl⟩,
    inv_init nf, invP_init nf, by simp [PcOk, init]⟩

theorem deliver_coh (c : Cfg) (o : WF) (ho : ∀ k, o ≠ .interrupted k) (h : Coh c) : Coh (deliver c o) := by
  refine .of_rp ?_ (h.inv.same (deliver_same c o)) (h.invP.same (deliver_sameP c o))
  refine deliver_elim (Q := fun d => Rob d ∧ PcOk d) c o ⟨h.rob, h.pcOk⟩ (fun fn wf wk aw hst _ => ?_) fun fn wf aw k hst _ => ?_
  all_goals have hlt : wf < c.wfs.length := h.rob.wfv wf (by rw [hst]; rfl)
  · refine ⟨⟨h.rob.int0, h.rob.actOk, h.rob.alias, ?_, ?_, h.rob.park⟩, h.pcOk.congr rfl rfl rfl rfl rfl rfl⟩
    · intro wf' k h1 h2
      have h1' : wfOf c.st = some wf' := h1
      rw [hst] at h1'; simp [wfOf] at h1'; subst h1'
      have h2' : (setAt c.wfs wf o)[wf]? = some (.interrupted k) := h2
      simp [setAt, hlt] at h2'
      exact absurd h2' (ho k)
    · intro wf' h1
      have := h.rob.wfv wf' h1
      show wf' < (setAt c.wfs wf o).length
      simpa [setAt] using this
  · refine ⟨⟨h.rob.int0, h.rob.actOk, h.rob.alias, ?_, ?_, ?_⟩,
      h.pcOk.congr rfl rfl (by simp [hst, SObj.label]) (by simp [hst, wfOf]) rfl rfl⟩
    · intro wf' k h1 h2
      simp [wfOf] at h1; subst h1
      exact h.rob.intr wf k (by rw [hst]; rfl) h2
    · intro wf' h1
      simp [wfOf] at h1; subst h1
      exact hlt
    · intro o' k h1
      simp [wkOf] at h1; subst h1
      exact ho k

theorem resume_coh (c : Cfg) (v) (h : Coh c) : Coh (resume c v).1 :=
  resume_eq_deliver c v ▸ deliver_coh c _ (by intro k hk; cases hk) h

/-- a transition to a terminal state requested from outside a step: `kill()` between two steps (no interrupt action is
installed then) or `fail()` -/
theorem transitionTo_rp (c : Cfg) (s : SObj) (hr : Rob c) (hp : PcOk c) (hterm : terminal s.label = true)
    (hint : c.interrupt = none ∨ s.label ≠ .killed) : Rob (transitionTo c s) ∧ PcOk (transitionTo c s) := by
  have hc := transitionTo_core c s
  have ht := transitionTo_terminal c s hterm
  have hnw := wfOf_none_of_terminal ht
  constructor
  · refine ⟨?_, ?_, ?_, .of_notWaiting hnw, .of_notWaiting hnw, .of_notWaiting hnw⟩
    · intro h1; rw [hc.interrupt]; exact hr.int0 (by rw [← hc.stepping]; exact h1)
    · intro i hi; rw [actionStatus_of_actions hc.actions]; exact hr.actOk i (by rw [← hc.interrupt]; exact hi)
    · intro i hi
      rw [hc.interrupt] at hi
      rcases hint with h0 | hk
      · rw [h0] at hi; cases hi
      · rw [actionStatus_of_actions hc.actions, hc.pausing, transitionTo_killing c s hk]; exact hr.alias i hi
  · unfold PcOk at hp ⊢
    rw [hc.pc]
    cases hpc : c.pc <;> simp only [hpc] at hp ⊢
    · rw [hc.stepping]; exact hp
    · rw [hc.stepping]; exact ⟨hp.1, fun hl => by rw [ht] at hl; cases hl⟩
    · rw [hc.stepping]; exact ⟨hp.1, hnw⟩
    · rw [hc.stepping]; exact ⟨hp.1, Or.inl ht⟩
    · rw [hc.stepping]; exact ⟨hp.1, ht⟩

theorem fail_coh (c : Cfg) (e) (h : Coh c) : Coh (fail c e).1 :=
  .of_rp (Task.fail_elim Task.baseE (Q := fun d => Rob d ∧ PcOk d) c e ⟨h.rob, h.pcOk⟩ fun _ =>
      transitionTo_rp c _ h.rob h.pcOk rfl (Or.inr (by intro g; cases g)))
    (inv_closed.fail c e h.inv) (invP_closed.fail c e h.invP)

theorem requestInterrupt_len (c : Cfg) (k : AKind) : (requestInterrupt c k).wfs.length = c.wfs.length := by
  rw [requestInterrupt_wfs]
  exact interruptState_elim (Q := fun e => e.wfs.length = c.wfs.length) c _ rfl fun _ _ _ _ _ _ => by simp [setAt]

/-- after `requestInterrupt` on a stepping process, whichever alias (`_pausing` or `_killing`) is pointed at the new
interrupt action -/
theorem requestInterrupt_rp (c : Cfg) (k : AKind) (hr : Rob c) (hp : PcOk c) (hs : c.stepping = true) {d : Cfg}
    (o : Off [.pausing, .killing] (requestInterrupt c k) d)
    (hal : d.pausing = d.interrupt ∨ d.killing = d.interrupt) : Rob d ∧ PcOk d := by
  have o' := (requestInterrupt_off c k).trans o
  have hn := requestInterrupt_new c k
  have hstep : d.stepping = true := o'.stepping.trans hs
  have hint : d.interrupt = some c.actions.length := o.interrupt.trans hn.1
  constructor
  · refine ⟨?_, ?_, ?_, ?_, ?_, ?_⟩
    · intro h1; rw [hstep] at h1; cases h1
    · intro i h1; rw [hint] at h1; cases h1
      rw [actionStatus_of_actions o.actions]; exact Or.inl hn.2.2
    · intro i h1
      rcases hal with g | g
      · exact Or.inr (Or.inl (by rw [g]; exact h1))
      · exact Or.inr (Or.inr (by rw [g]; exact h1))
    · intro wf k' _ _; exact ⟨hstep, by rw [hint]; intro g; cases g⟩
    · intro wf h1; rw [o.wfs, requestInterrupt_len]; exact hr.wfv wf (by rw [← o'.st]; exact h1)
    · intro o k' h1; exact hr.park o k' (by rw [← o'.st]; exact h1)
  · exact hp.congr o'.pc o'.stepping (by rw [o'.st]) (by rw [o'.st]) o'.pfs o'.paused

theorem rp_hand {d : Cfg} (i : Nat) (h : Rob d ∧ PcOk d) : Rob (hand d i) ∧ PcOk (hand d i) :=
  ⟨h.1.same (.of_off (hand_off d i)), h.2.same (.of_off (hand_off d i))⟩

theorem pause_rp (c : Cfg) (hr : Rob c) (hp : PcOk c) : Rob (pause c).1 ∧ PcOk (pause c).1 := by
  refine pause_elim (Q := fun d => Rob d ∧ PcOk d) c ⟨hr, hp⟩ (fun _ => rp_hand)
    (fun _ hs _ _ => requestInterrupt_rp c .pause hr hp hs (Off.setIn _ .pausing _) (Or.inl rfl)) fun _ hs hpn _ _ => ?_
  have hi0 := hr.int0 hs
  refine ⟨⟨hr.int0, hr.actOk, .of_none hi0, hr.intr, hr.wfv, hr.park⟩, hp.mono rfl rfl rfl rfl fun _ pf g => ?_⟩
  rcases g with g | g
  · left
    show (c.pfs ++ [false])[pf]? = some true
    rw [List.getElem?_append_left (List.getElem?_eq_some_iff.mp g).1]; exact g
  · rw [hpn] at g; cases g

theorem pause_coh (c : Cfg) (h : Coh c) : Coh (pause c).1 :=
  .of_rp (pause_rp c h.rob h.pcOk) (inv_closed.pause c h.inv) (invP_closed.pause c h.invP)

theorem kill_rp (c : Cfg) (hr : Rob c) (hp : PcOk c) : Rob (kill c).1 ∧ PcOk (kill c).1 :=
  kill_elim (Q := fun d => Rob d ∧ PcOk d) c ⟨hr, hp⟩ (fun _ => rp_hand)
    (fun _ hs _ => requestInterrupt_rp c .kill hr hp hs (Off.setIn _ .killing _) (Or.inr rfl))
    fun _ hs _ => transitionTo_rp c .killed hr hp rfl (Or.inl (hr.int0 hs))

theorem kill_coh (c : Cfg) (h : Coh c) : Coh (kill c).1 :=
  .of_rp (kill_rp c h.rob h.pcOk) (inv_closed.kill c h.inv) (invP_closed.kill c h.invP)

/-- `play()` retracts a pause request: its action is cancelled, the interrupt action stays installed -/
theorem retract_rp (c : Cfg) (i : Nat) (hr : Rob c) (hp : PcOk c) (hpi : c.pausing = some i) {d : Cfg}
    (o : Off [.pausing] (cancelAction c i) d) : Rob d ∧ PcOk d := by
  have o' := (cancelAction_off c i).trans o
  have hs : ∀ j, d.interrupt = some j → c.interrupt = some j ∧
      (actionStatus d j = .cancelled ∨ (i ≠ j ∧ actionStatus d j = actionStatus c j)) := by
    intro j hj
    have hj' : c.interrupt = some j := o'.interrupt.symm.trans hj
    rw [actionStatus_of_actions o.actions]
    by_cases hji : i = j
    · subst hji
      refine ⟨hj', Or.inl ?_⟩
      rw [cancelAction_status]
      rcases hr.actOk i hj' with g | g <;> rw [g] <;> rfl
    · exact ⟨hj', Or.inr ⟨hji, cancelAction_other c i j hji⟩⟩
  refine ⟨⟨?_, ?_, ?_, ?_, ?_, ?_⟩, hp.congr o'.pc o'.stepping (by rw [o'.st]) (by rw [o'.st]) o'.pfs o'.paused⟩
  · intro h1; rw [o'.interrupt]; exact hr.int0 (o'.stepping.symm.trans h1)
  · intro j hj
    obtain ⟨hj', g | ⟨_, g⟩⟩ := hs j hj
    · exact Or.inr g
    · rw [g]; exact hr.actOk j hj'
  · intro j hj
    obtain ⟨hj', g | ⟨hji, g⟩⟩ := hs j hj
    · exact Or.inl g
    · rw [g, o'.killing]
      rcases hr.alias j hj' with a | a | a
      · exact Or.inl a
      · exact absurd (Option.some.inj (hpi.symm.trans a)) hji
      · exact Or.inr (Or.inr a)
  · intro wf k h1 h2
    rw [o'.stepping, o'.interrupt]
    exact hr.intr wf k (by rw [← o'.st]; exact h1) (by rw [← o'.wfs]; exact h2)
  · intro wf h1; rw [o'.wfs]; exact hr.wfv wf (by rw [← o'.st]; exact h1)
  · intro w k h1; exact hr.park w k (by rw [← o'.st]; exact h1)

theorem play_rp (c : Cfg) (hr : Rob c) (hp : PcOk c) (hP : InvP c) : Rob (play c).1 ∧ PcOk (play c).1 := by
  -- the pause future in use is released (it is pending while the process is live: `InvP`)
  refine play_elim (Q := fun d => Rob d ∧ PcOk d) c (fun _ _ => ⟨hr, hp⟩) (fun i _ hpi => retract_rp c i hr hp hpi (Off.set _ .pausing none))
    (fun pf hpa hfalse => ⟨hr.congr rfl rfl rfl rfl rfl rfl rfl rfl, hp.mono rfl rfl rfl rfl fun _ pf' g => Or.inl ?_⟩)
    fun pf hpa hfalse => ⟨hr.congr rfl rfl rfl rfl rfl rfl rfl rfl, hp.mono rfl rfl rfl rfl fun hl pf' g => Or.inl ?_⟩
  · show (setAt c.pfs pf true)[pf']? = some true
    by_cases hpp : pf = pf'
    · subst hpp; simp [setAt, (List.getElem?_eq_some_iff.mp hfalse).1]
    · rw [setAt_getElem?_ne _ _ _ _ hpp]
      exact g.resolve_right fun g => hpp (Option.some.inj (hpa.symm.trans g))
  · refine g.resolve_right fun g => hfalse ?_
    cases hpa.symm.trans g
    exact hP.pausedPending hl pf hpa

theorem play_coh (c : Cfg) (h : Coh c) : Coh (play c).1 :=
  .of_rp (play_rp c h.rob h.pcOk h.invP) (inv_closed.played c h.inv) (play_invP c h.invP)

theorem awaitableDone_coh (c : Cfg) (f) (h : Coh c) : Coh (awaitableDone c f) :=
  awaitableDone_elim c f h (fun d _ _ h => h.off (Off.set d .ctx _))
    (fun fn wf wk aw _ hst _ => h.same ⟨by simp [hst, SObj.label], by simp [hst, wfOf], by simp [hst, wkOf], rfl, rfl, rfl, rfl, rfl,
      rfl, rfl, rfl, rfl, rfl, rfl, rfl⟩)
    deliver_coh

theorem tickCb_coh (c : Cfg) (cb) (h : Coh c) : Coh (tickCb c cb) :=
  tickCb_elim c cb h (fun _ => h.off (Off.set c .ready _)) (fun d f _ => awaitableDone_coh d f)
    (fun d hd => (kill_coh d hd).off (Off.set _ .handed _)) fail_coh

end PMF.H6
