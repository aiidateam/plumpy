import PlumpyModel.ProcStack.Model
/-!
# Invariants of the process-stack model (helper lemmas for C18)

`WF s sv c`: symbolic execution of the remaining coroutine `c` of a task on that task's own stack `s` (and the history
variable `sv`): every `pop p` finds `p` on top and restores the stack saved at the matching `push`, every sample taken
by in-scope code of `p` finds `p` on top.  Compiled code (`stepperOps`, `cbOps`) is `WF` from *any* stack, which is what
makes context inheritance (children, callbacks, nested executions) harmless; and `WF` is preserved by every micro
operation of every task, whatever the interleaving.
-/
namespace ProcStack
open PMF

def WF : List Pid → List (List Pid) → List Op → Prop
  | _, sv, [] => sv = []       -- when the coroutine ends no scope is open
  | s, sv, .push p :: c => WF (p :: s) (s :: sv) c
  | s, sv, .pop p _ :: c => ∃ s' sv', s = p :: s' ∧ sv = s' :: sv' ∧ WF s' sv' c
  | s, sv, .obs p k :: c => (k.inScope = true → current s = some p) ∧ WF s sv c
  | s, sv, .yield :: c => WF s sv c
  | s, sv, .park :: c => WF s sv c
  | s, sv, .callSoon _ _ :: c => WF s sv c
  | s, sv, .launch _ _ :: c => WF s sv c
  | s, sv, .execute _ _ :: c => WF s sv c
  | s, sv, .inline p _ :: c => current s = some p ∧ WF s sv c     -- the handler of the awaiting code will run in `p`'s scope
  | s, sv, .handler p s0 _ :: c => s = s0 ∧ current s = some p ∧ WF s sv c
  | s, sv, .throw :: c => WF s sv c    -- over-approximation: what follows is well-scoped whether the raise falls through or not
  | s, sv, .callSoonCreator _ _ :: c => WF s sv c
  | s, sv, .excepted _ s0 :: c => s = s0 ∧ WF s sv c   -- `callback_excepted` runs on the stack the callback's task started with

def Op.isScope : Op → Bool
  | .push _ | .pop _ _ => true
  | _ => false

theorem WF.tail {s : List Pid} {sv : List (List Pid)} {op : Op} {c : List Op} (h : WF s sv (op :: c))
    (hop : op.isScope = false) : WF s sv c := by
  cases op with
  | push | pop => cases hop
  | obs | inline | excepted => exact h.2
  | handler => exact h.2.2
  | _ => exact h

/-- operations that user code of `p` may perform inside its scope: no push/pop of its own, samples are `p`'s -/
def Op.neutral (p : Pid) : Op → Bool
  | .push _ => false
  | .pop _ _ => false
  | .obs q _ => q == p
  | .inline q _ => q == p
  | .handler _ _ _ => false
  | .excepted _ _ => false
  | _ => true

theorem wf_neutral_append {p : Pid} {s : List Pid} {sv : List (List Pid)} (c1 c2 : List Op)
    (hn : c1.all (Op.neutral p) = true) (hs : current s = some p) (h2 : WF s sv c2) : WF s sv (c1 ++ c2) := by
  induction c1 with
  | nil => exact h2
  | cons op c1 ih =>
    obtain ⟨hop, hn'⟩ := Bool.and_eq_true_iff.1 (List.all_cons ▸ hn)
    have ih' : WF s sv (c1 ++ c2) := ih hn'
    cases op with
    | obs q k => cases beq_iff_eq.1 hop; exact ⟨fun _ => hs, ih'⟩
    | inline q k => cases beq_iff_eq.1 hop; exact ⟨hs, ih'⟩
    | push | pop | handler | excepted => cases hop
    | _ => exact ih'

theorem transitionHooks_lifecycle (old : Option Label) (new : Label) :
    (transitionHooks old new).all (fun h => !h.isOutput) = true := by
  cases old with
  | none => cases new <;> decide +kernel
  | some l => cases l <;> cases new <;> decide +kernel

/-- lifecycle hooks sample outside any scope of their process: they ask nothing of the stack -/
theorem wf_hooks_append (p : Pid) (hs : List Hook) {s : List Pid} {sv : List (List Pid)} {c2 : List Op}
    (hh : hs.all (fun h => !h.isOutput) = true) (h2 : WF s sv c2) : WF s sv (hooksOps p hs ++ c2) := by
  induction hs with
  | nil => exact h2
  | cons h hs ih =>
    obtain ⟨h1, hh'⟩ := Bool.and_eq_true_iff.1 (List.all_cons ▸ hh)
    refine ⟨fun hc => ?_, ih hh'⟩
    rw [show h.isOutput = true from hc] at h1
    cases h1

theorem actOps_neutral (p : Pid) (inCb : Bool) (a : Act) : (actOps p inCb a).all (Op.neutral p) = true := by
  cases a <;> simp only [actOps, List.all_cons, List.all_nil, Op.neutral, beq_self_eq_true, Bool.and_self]

theorem codeOps_neutral (p : Pid) (inCb : Bool) (code : List Act) :
    (codeOps p inCb code).all (Op.neutral p) = true := by
  simp [codeOps, Op.neutral, List.all_flatMap, actOps_neutral]

theorem stepBody_neutral (p : Pid) (st : Step) : (stepBody p st).all (Op.neutral p) = true := by
  rw [stepBody, List.all_append, codeOps_neutral]
  cases st.end_ <;> rfl

theorem wf_runTask (p : Pid) (body : List Op) {s : List Pid} {sv : List (List Pid)} (rest : List Op)
    (hn : body.all (Op.neutral p) = true) (h2 : WF s sv rest) : WF s sv (runTask p body ++ rest) := by
  simp only [runTask, List.cons_append, List.append_assoc, WF]
  exact wf_neutral_append body _ hn rfl ⟨s, sv, rfl, rfl, h2⟩

theorem wf_stepsOps (p : Pid) (steps : List Step) (s : List Pid) (sv : List (List Pid)) (rest : List Op)
    (h2 : WF s sv rest) : WF s sv (stepsOps p steps ++ rest) := by
  induction steps with
  | nil => exact h2
  | cons st steps ih =>
    simp only [stepsOps, List.append_assoc]
    apply wf_runTask p _ _ (stepBody_neutral p st)
    cases st.end_ with
    | finish => exact wf_hooks_append p _ (transitionHooks_lifecycle _ _) h2
    | raise => exact wf_hooks_append p _ (transitionHooks_lifecycle _ _) h2
    | raiseBase => simpa using h2
    | next =>
      simp only [List.append_assoc]
      exact wf_hooks_append p _ (transitionHooks_lifecycle _ _) ih
    | wait =>
      simp only [List.append_assoc]
      apply wf_hooks_append p _ (transitionHooks_lifecycle _ _)
      apply wf_runTask p _ _ rfl
      exact wf_hooks_append p _ (transitionHooks_lifecycle _ _) ih

/-- `rest`: what follows a child awaited inline (the handler and the rest of the awaiting code) -/
theorem wf_stepperOps_append (p : Pid) (steps : List Step) (s : List Pid) (sv : List (List Pid)) (rest : List Op)
    (h2 : WF s sv rest) : WF s sv (stepperOps p steps ++ rest) := by
  simp only [stepperOps, List.append_assoc]
  apply wf_runTask p _ _ rfl
  exact wf_hooks_append p _ (transitionHooks_lifecycle _ _) (wf_stepsOps p steps s sv rest h2)

theorem wf_stepperOps (p : Pid) (steps : List Step) (s : List Pid) :
    WF s [] (stepperOps p steps) := by
  simpa using wf_stepperOps_append p steps s [] [] rfl

/-- **a BaseException raised anywhere in well-scoped code leaves well-scoped code**: with `d` not-yet-entered scopes
skipped so far (their entries are the top `d` elements of the symbolic stack), `unwind` keeps exactly the exits of the open
scopes, each of which finds its own process on top and restores the stack saved at its entry, and the absorbing handler
runs on the stack of the scope that contains the `try`. -/
theorem wf_unwind (how : Exit) (c : List Op) : ∀ (d : Nat) (s : List Pid) (sv : List (List Pid)),
    WF s sv c → WF (s.drop d) (sv.drop d) (unwind how d c) := by
  induction c with
  | nil => intro d s sv h; cases (h : sv = []); exact List.drop_nil
  | cons op c ih =>
    intro d s sv h
    cases op with
    | push p => exact ih (d + 1) _ _ h
    | pop p e =>
      obtain ⟨s', sv', rfl, rfl, hw⟩ := h
      cases d with
      | zero => exact ⟨s', sv', rfl, rfl, ih 0 _ _ hw⟩
      | succ d => exact ih d _ _ hw
    | handler p s0 a =>
      cases d with
      | zero => exact h
      | succ d => exact ih (d + 1) _ _ h.2.2
    | _ => simpa only [unwind] using ih d _ _ (h.tail rfl)

theorem wf_toHandler (c : List Op) : ∀ (d : Nat) (s : List Pid) (sv : List (List Pid)),
    WF s sv c → WF (s.drop d) (sv.drop d) (toHandler d c) := by
  induction c with
  | nil => intro d s sv h; cases (h : sv = []); exact List.drop_nil
  | cons op c ih =>
    intro d s sv h
    cases op with
    | push p => exact ih (d + 1) _ _ h
    | pop p e =>
      cases d with
      | zero => exact h
      | succ d => obtain ⟨s', sv', rfl, rfl, hw⟩ := h; exact ih d _ _ hw
    | handler p s0 a =>
      cases d with
      | zero => exact h
      | succ d => exact ih (d + 1) _ _ h.2.2
    | _ => simpa only [toHandler] using ih d _ _ (h.tail rfl)

theorem wf_cbOps (p : Pid) (code : List Act) (s : List Pid) : WF s [] (cbOps p code) := by
  simpa [cbOps] using wf_runTask p _ (s := s) [] (codeOps_neutral p true code) rfl

/-- a callback that ends by raising: well-scoped from any stack `s`, and `callback_excepted` — after the scope was left
through the exception — runs on exactly `s`, the stack of the code that scheduled it -/
theorem wf_cbOpsExc (p : Pid) (code : List Act) (s : List Pid) : WF s [] (cbOpsExc p s code) :=
  wf_neutral_append _ _ (codeOps_neutral p true code) rfl ⟨s, [], rfl, rfl, rfl, rfl⟩

theorem wf_cbCode (scn : Scenario) (p : Pid) (cb : Nat) (code : List Act) (s : List Pid) :
    WF s [] (cbCode scn p s cb code) := by
  unfold cbCode
  split
  · exact wf_cbOpsExc p code s
  · exact wf_cbOps p code s

structure Inv (σ : State) : Prop where
  tasks : ∀ T ∈ σ.tasks, WF T.stack T.saved T.code
  log : ∀ o ∈ σ.log, o.kind.inScope = true → o.cur = some o.owner
  scopes : ∀ x ∈ σ.scopes, x.after = x.before
  joins : ∀ j ∈ σ.joins, j.after = j.before ∧ current j.after = some j.pid
  cbExcs : ∀ x ∈ σ.cbExcs, x.observed = x.scheduled ∧
    (⟨x.pid, .hook .callback_excepted, current x.scheduled, x.scheduled, x.tid⟩ : Obs) ∈ σ.log
  noAssert : σ.err ≠ some .scopeAssertion

/-! How the invariant follows the updates that the transitions make to a state, one field at a time (a transition that
changes several fields chains them: the nested updates are the same state, by reduction of the projections). -/
namespace Inv
variable {σ : State} (h : Inv σ)
include h

theorem fail {e : Err} (he : e ≠ .scopeAssertion) : Inv { σ with err := some e } :=
  ⟨h.tasks, h.log, h.scopes, h.joins, h.cbExcs, fun h' => he (Option.some.inj h')⟩

theorem rest (n : Nat) (cs : List Tid) (cr : List (Option Pid)) :
    Inv { σ with nextPid := n, callStack := cs, creators := cr } :=
  ⟨h.tasks, h.log, h.scopes, h.joins, h.cbExcs, h.noAssert⟩

theorem setTask (t : Tid) {T : Task} (hT : WF T.stack T.saved T.code) : Inv { σ with tasks := σ.tasks.set t T } :=
  ⟨fun x hx => (List.mem_or_eq_of_mem_set hx).elim (h.tasks x) (· ▸ hT), h.log, h.scopes, h.joins, h.cbExcs, h.noAssert⟩

theorem addTask {T : Task} (hT : WF T.stack T.saved T.code) : Inv { σ with tasks := σ.tasks ++ [T] } :=
  ⟨List.forall_mem_append.2 ⟨h.tasks, fun _ hx => List.mem_singleton.1 hx ▸ hT⟩,
    h.log, h.scopes, h.joins, h.cbExcs, h.noAssert⟩

/-- the `callback_excepted` records stay justified because the log only grows -/
theorem addLog (os : List Obs) (ho : ∀ o ∈ os, o.kind.inScope = true → o.cur = some o.owner) :
    Inv { σ with log := os ++ σ.log } :=
  ⟨h.tasks, List.forall_mem_append.2 ⟨ho, h.log⟩, h.scopes, h.joins,
    fun x hx => ⟨(h.cbExcs x hx).1, List.mem_append_right _ (h.cbExcs x hx).2⟩, h.noAssert⟩

theorem addObs (o : Obs) (ho : o.kind.inScope = true → o.cur = some o.owner) : Inv { σ with log := o :: σ.log } :=
  h.addLog [o] (List.forall_mem_singleton.2 ho)

/-- the samples taken by lifecycle hooks are outside `Kind.inScope` -/
theorem addHooks (t : Tid) (q : Pid) (stack : List Pid) {hs : List Hook} (hh : hs.all (fun h => !h.isOutput) = true) :
    Inv { σ with log := logHooks t q stack hs σ.log } := by
  refine h.addLog _ fun o ho hk => ?_
  obtain ⟨x, hx, rfl⟩ := List.mem_map.1 (List.mem_reverse.1 ho)
  have hx' := List.all_eq_true.1 hh x hx
  rw [show x.isOutput = true from hk] at hx'
  cases hx'

theorem addJoin (j : Join) (hj : j.after = j.before ∧ current j.after = some j.pid) : Inv { σ with joins := j :: σ.joins } :=
  ⟨h.tasks, h.log, h.scopes, List.forall_mem_cons.2 ⟨hj, h.joins⟩, h.cbExcs, h.noAssert⟩

end Inv

theorem spawnProcess_eq {σ σ' : State} {t u : Tid} {stack : List Pid} {cls : Nat} {cr : Option Pid}
    (hs : spawnProcess σ t stack cls cr = some (σ', u)) :
    ∃ steps, u = σ.tasks.length ∧ σ' = { σ with
      nextPid := σ.nextPid + 1,
      creators := σ.creators ++ [cr],
      log := logHooks t σ.nextPid stack constructorHooks σ.log,
      tasks := σ.tasks ++ [{ stack := stack, code := stepperOps σ.nextPid steps }] } := by
  unfold spawnProcess at hs
  split at hs
  · cases hs
  · cases hs; exact ⟨_, rfl, rfl⟩

theorem spawnProcess_inv {σ σ' : State} {t u : Tid} {stack : List Pid} {cls : Nat} {cr : Option Pid}
    (h : Inv σ) (hs : spawnProcess σ t stack cls cr = some (σ', u)) : Inv σ' := by
  obtain ⟨steps, -, rfl⟩ := spawnProcess_eq hs
  exact ((h.addTask (wf_stepperOps _ steps stack)).addHooks t _ stack (transitionHooks_lifecycle _ _)).rest _ _ _

theorem exec1_inv {σ : State} (t : Tid) (h : Inv σ) : Inv (exec1 σ t).1 := by
  unfold exec1
  split
  · exact h.fail nofun
  · rename_i T hT
    have hwf := h.tasks T (List.mem_of_getElem? hT)
    split
    · exact h
    · rename_i op rest hcode
      rw [hcode] at hwf
      split
      · exact h.setTask t hwf
      · -- pop: the stack saved at the entry of the scope comes back
        obtain ⟨s', sv', hs, hsv, hw⟩ := hwf
        split
        · have h' := h.setTask t (T := { T with code := rest, stack := T.stack.tail, saved := T.saved.tail })
            (by rw [hs, hsv]; exact hw)
          exact ⟨h'.tasks, h'.log, List.forall_mem_cons.2 ⟨by rw [hs, hsv]; rfl, h.scopes⟩, h'.joins, h'.cbExcs,
            h'.noAssert⟩
        · rename_i hne
          exact absurd (by rw [hs]; rfl) hne
      · exact (h.setTask t hwf.2).addObs _ hwf.1
      · exact h.setTask t hwf
      · exact h.setTask t hwf
      · split
        · exact h.fail nofun
        · exact (h.setTask t hwf).addTask (wf_cbCode ..)
      · split
        · exact h.fail nofun
        · rename_i σ' u hsp
          exact spawnProcess_inv (h.setTask t hwf) hsp
      · split
        · exact h.fail nofun
        · rename_i σ' u hsp
          exact ((spawnProcess_inv h hsp).setTask t hwf).rest _ _ _
      · -- inline: the child's stepping coroutine, then the handler, then the rest of the awaiting code
        split
        · exact h.fail nofun
        · rename_i p _ _ steps _
          have hc := wf_stepperOps_append σ.nextPid steps T.stack T.saved (.handler p T.stack false :: rest) ⟨rfl, hwf⟩
          exact ((h.setTask t hc).addHooks t _ _ (transitionHooks_lifecycle _ _)).rest _ _ _
      · -- handler: reached normally, or by `unwind` (then the `except` clause samples)
        rename_i p s0 absorbing
        have h' := (h.setTask t (T := { T with code := rest }) hwf.2.2).addJoin ⟨t, p, s0, T.stack, absorbing⟩ ⟨hwf.1, hwf.2.1⟩
        cases absorbing with
        | false => exact h'
        | true => exact h'.addObs ⟨p, .absorbed, current T.stack, T.stack, t⟩ fun _ => hwf.2.1
      · exact h.setTask t (wf_unwind .baseException rest 0 _ _ hwf)
      · -- callSoonCreator: the new task starts on this task's stack, whatever process the callback belongs to
        split
        · exact h.fail nofun
        · split
          · exact h.setTask t hwf
          · exact (h.setTask t hwf).addTask (wf_cbCode ..)
      · -- excepted: `callback_excepted` samples, on the stack the task started with
        rename_i p s0
        have h' := (h.setTask t (T := { T with code := rest }) hwf.2).addObs
          ⟨p, .hook .callback_excepted, current T.stack, T.stack, t⟩ nofun
        exact ⟨h'.tasks, h'.log, h'.scopes, h'.joins,
          List.forall_mem_cons.2 ⟨⟨hwf.1, hwf.1 ▸ List.mem_cons_self⟩, h'.cbExcs⟩, h'.noAssert⟩

/-- the innermost nested `run_until_complete` returns into its task -/
theorem resumable_eq {σ σ' : State} {b : Tid} (hr : resumable σ = some (b, σ')) :
    ∃ rest B, σ.callStack = b :: rest ∧ σ.tasks[b]? = some B ∧
      σ' = { σ with callStack := rest, tasks := σ.tasks.set b { B with waitingOn := none } } := by
  unfold resumable at hr
  split at hr
  · cases hr
  · rename_i b' rest hcs
    split at hr
    · cases hr
    · rename_i B hB
      split at hr
      · cases hr
      · split at hr
        · cases hr
        · split at hr
          · cases hr; exact ⟨rest, B, hcs, hB, rfl⟩
          · cases hr

theorem resumable_inv {σ σ' : State} {b : Tid} (h : Inv σ) (hr : resumable σ = some (b, σ')) : Inv σ' := by
  obtain ⟨rest, B, -, hB, rfl⟩ := resumable_eq hr
  exact (h.setTask b (T := { B with waitingOn := none }) (h.tasks B (List.mem_of_getElem? hB))).rest _ _ _

/-- one more operation of `t`, then: carry on with `t`, hand control back, or return from the innermost nested
`run_until_complete` into the task `b` that called it -/
theorem run_succ_elim {n : Nat} {σ : State} {t : Tid} {Q : State → Prop} (cont : Q (run n (exec1 σ t).1 t))
    (stop : Q (exec1 σ t).1) (ret : ∀ b σ', resumable (exec1 σ t).1 = some (b, σ') → Q (run n σ' b)) :
    Q (run (n + 1) σ t) := by
  simp only [run]
  split
  · exact cont
  · exact stop
  · exact stop
  all_goals
    split
    · rename_i hr; exact ret _ _ hr
    · exact stop

theorem run_inv (n : Nat) {σ : State} (t : Tid) (h : Inv σ) : Inv (run n σ t) := by
  induction n generalizing σ t with
  | zero => exact h.fail nofun
  | succ n ih =>
    have h1 := exec1_inv t h
    exact run_succ_elim (ih t h1) h1 fun _ _ hr => ih _ (resumable_inv h1 hr)

theorem deliver_inv {σ : State} (t : Tid) (h : Inv σ) : Inv (deliver σ t) := by
  unfold deliver
  split
  · exact h
  · rename_i T hT
    split
    · exact h.setTask t (wf_unwind .cancelled T.code 0 _ _ (h.tasks T (List.mem_of_getElem? hT)))
    · exact h

/-- the three cases: an earlier error, a refusal, the record of `t` alone rewritten -/
theorem step_request {σ : State} {e : Event} {t : Tid} (he : e = .resume t ∨ e = .kill t ∨ e = .cancel t) :
    step σ e = σ ∨ step σ e = { σ with err := some .notReady } ∨
    ∃ T T', σ.tasks[t]? = some T ∧ step σ e = { σ with tasks := σ.tasks.set t T' } ∧ T'.stack = T.stack ∧
      T'.saved = T.saved ∧
      (T'.code = T.code ∨ ∃ p how rest, T.code = .pop p how :: rest ∧
        T'.code = .pop p .interrupted :: (hooksOps p (transitionHooks (some .waiting) .killed) ++ toHandler 0 rest)) := by
  rcases he with rfl | rfl | rfl
  case inr.inl =>
    rw [step]
    by_cases herr : σ.err.isSome
    · exact .inl (if_pos herr)
    rw [if_neg herr]
    cases σ.tasks[t]? with
    | none => exact .inr (.inl rfl)
    | some T =>
      dsimp only
      by_cases hp : T.parked
      · rw [if_pos hp]
        split
        · rename_i p how rest hc
          exact .inr (.inr ⟨T, _, rfl, rfl, rfl, rfl, .inr ⟨p, how, rest, hc, rfl⟩⟩)
        · exact .inr (.inl rfl)
      · exact .inr (.inl (if_neg hp))
  -- resume, cancel: only flags of the record change
  all_goals
    rw [step]
    by_cases herr : σ.err.isSome
    · exact .inl (if_pos herr)
    rw [if_neg herr]
    cases σ.tasks[t]? with
    | none => exact .inr (.inl rfl)
    | some T =>
      dsimp only
      split
      · exact .inr (.inr ⟨T, _, rfl, rfl, rfl, rfl, .inl rfl⟩)
      · exact .inr (.inl rfl)

theorem request_inv {σ : State} {e : Event} {t : Tid} (h : Inv σ) (he : e = .resume t ∨ e = .kill t ∨ e = .cancel t) :
    Inv (step σ e) := by
  rcases step_request (σ := σ) he with e | e | ⟨T, T', hT, e, hs, hv, hc⟩ <;> rw [e]
  · exact h
  · exact h.fail nofun
  · have hw := h.tasks T (List.mem_of_getElem? hT)
    refine h.setTask t ?_
    rw [hs, hv]
    rcases hc with hc | ⟨p, how, rest, hc, hc'⟩
    · rwa [hc]
    · obtain ⟨s', sv', hs', hsv, hw⟩ := hc ▸ hw
      exact hc' ▸ ⟨s', sv', hs', hsv, wf_hooks_append p _ (transitionHooks_lifecycle _ _) (wf_toHandler _ 0 _ _ hw)⟩

theorem step_inv {σ : State} (e : Event) (h : Inv σ) : Inv (step σ e) := by
  cases e with
  | tick t =>
    simp only [step]
    split
    · exact h
    · split
      · exact run_inv _ t (deliver_inv t h)
      · exact h.fail nofun
  | callSoon p cb =>
    simp only [step]
    split
    · exact h
    · split
      · exact h.fail nofun
      · split
        · exact h.addTask (wf_cbCode ..)
        · exact h.fail nofun
  | resume t => exact request_inv h (.inl rfl)
  | kill t => exact request_inv h (.inr (.inl rfl))
  | cancel t => exact request_inv h (.inr (.inr rfl))

theorem runEvents_inv {σ : State} (es : List Event) (h : Inv σ) : Inv (runEvents σ es) := by
  induction es generalizing σ with
  | nil => exact h
  | cons e es ih => exact ih (step_inv e h)

theorem initTop_inv {σ : State} (top : List Nat) (h : Inv σ) : Inv (initTop σ top) := by
  induction top generalizing σ with
  | nil => exact h
  | cons c top ih =>
    simp only [initTop]
    split
    · exact h.fail nofun
    · rename_i σ' u hsp
      exact ih (spawnProcess_inv h hsp)

theorem init_inv (scn : Scenario) (top : List Nat) : Inv (init scn top) :=
  initTop_inv top ⟨List.forall_mem_nil _, List.forall_mem_nil _, List.forall_mem_nil _, List.forall_mem_nil _,
    List.forall_mem_nil _, nofun⟩

theorem reachable_inv (scn : Scenario) (top : List Nat) (es : List Event) : Inv (runEvents (init scn top) es) :=
  runEvents_inv es (init_inv scn top)

/-- a micro operation of task `t` touches only `t`'s own context -/
structure Frame (σ σ' : State) (t : Tid) : Prop where
  len : σ.tasks.length ≤ σ'.tasks.length
  others : ∀ i, i < σ.tasks.length → i ≠ t → σ'.tasks[i]? = σ.tasks[i]?
  calls : σ'.callStack = σ.callStack ∨ σ'.callStack = t :: σ.callStack

theorem Frame.same {σ σ' : State} {t : Tid} (ht : σ'.tasks = σ.tasks) (hc : σ'.callStack = σ.callStack) : Frame σ σ' t :=
  ⟨Nat.le_of_eq (ht ▸ rfl), fun _ _ _ => ht ▸ rfl, .inl hc⟩

theorem Frame.set_append {σ σ' : State} {t : Tid} (T : Task) (new : List Task) (ht : σ'.tasks = σ.tasks.set t T ++ new)
    (hc : σ'.callStack = σ.callStack ∨ σ'.callStack = t :: σ.callStack) : Frame σ σ' t where
  len := by rw [ht, List.length_append, List.length_set]; exact Nat.le_add_right ..
  others i hi hne := by
    rw [ht, List.getElem?_append_left (by rwa [List.length_set]), List.getElem?_set_ne (Ne.symm hne)]
  calls := hc

theorem Frame.set {σ σ' : State} {t : Tid} (T : Task) (ht : σ'.tasks = σ.tasks.set t T)
    (hc : σ'.callStack = σ.callStack ∨ σ'.callStack = t :: σ.callStack) : Frame σ σ' t :=
  .set_append T [] (ht.trans (List.append_nil _).symm) hc

theorem Frame.keeps_out {σ σ' : State} {t u : Tid} (hf : Frame σ σ' t) (hne : u ≠ t) (hcs : u ∉ σ.callStack) :
    u ∉ σ'.callStack := by
  rcases hf.calls with h | h <;> rw [h]
  · exact hcs
  · exact fun hm => (List.mem_cons.1 hm).elim hne hcs

theorem exec1_frame (σ : State) (t : Tid) : Frame σ (exec1 σ t).1 t := by
  unfold exec1
  split
  · exact .same rfl rfl
  · rename_i T hT
    split
    · exact .same rfl rfl
    · split
      · exact .set _ rfl (.inl rfl)
      · split
        · exact .set _ rfl (.inl rfl)
        · exact .same rfl rfl
      · exact .set _ rfl (.inl rfl)
      · exact .set _ rfl (.inl rfl)
      · exact .set _ rfl (.inl rfl)
      · split
        · exact .same rfl rfl
        · exact .set_append _ _ rfl (.inl rfl)
      · split
        · exact .same rfl rfl
        · rename_i σ' u hsp
          obtain ⟨steps, -, rfl⟩ := spawnProcess_eq hsp
          exact .set_append _ _ rfl (.inl rfl)
      · split
        · exact .same rfl rfl
        · rename_i σ' u hsp
          obtain ⟨steps, -, rfl⟩ := spawnProcess_eq hsp
          exact .set_append _ _ (List.set_append_left t _ (List.getElem?_eq_some_iff.1 hT).1) (.inr rfl)
      · split
        · exact .same rfl rfl
        · exact .set _ rfl (.inl rfl)
      · exact .set _ rfl (.inl rfl)
      · exact .set _ rfl (.inl rfl)
      · split
        · exact .same rfl rfl
        · split
          · exact .set _ rfl (.inl rfl)
          · exact .set_append _ _ rfl (.inl rfl)
      · exact .set _ rfl (.inl rfl)

/-- **frame of a whole tick**: a task that is neither the one ticked nor inside a nested `run_until_complete` (those may
be resumed when their inner future completes) keeps its whole record — stack, remaining code, flags -/
theorem run_frame (n : Nat) (σ : State) (t u : Tid) (hu : u < σ.tasks.length) (hne : u ≠ t) (hcs : u ∉ σ.callStack) :
    (run n σ t).tasks[u]? = σ.tasks[u]? := by
  induction n generalizing σ t with
  | zero => rfl
  | succ n ih =>
    have hf := exec1_frame σ t
    have hu1 : u < (exec1 σ t).1.tasks.length := Nat.lt_of_lt_of_le hu hf.len
    have hcs1 := hf.keeps_out hne hcs
    refine run_succ_elim (Q := fun s => s.tasks[u]? = σ.tasks[u]?) ?_ (hf.others u hu hne) fun b σ' hr => ?_
    · rw [ih _ t hu1 hne hcs1, hf.others u hu hne]
    · obtain ⟨rest, B, h1, -, rfl⟩ := resumable_eq hr
      rw [h1] at hcs1
      have hub : u ≠ b := fun e => hcs1 (e ▸ List.mem_cons_self)
      rw [ih _ b (by rwa [List.length_set]) hub (fun hm => hcs1 (List.mem_cons_of_mem _ hm)),
        List.getElem?_set_ne (Ne.symm hub), hf.others u hu hne]

theorem deliver_frame (σ : State) (t : Tid) : Frame σ (deliver σ t) t := by
  unfold deliver
  split
  · exact .same rfl rfl
  · split
    · exact .set _ rfl (.inl rfl)
    · exact .same rfl rfl

theorem map_getElem?_set {α β} (f : α → β) {l : List α} {t : Nat} {a a' : α} (ha : l[t]? = some a) (hf : f a' = f a)
    (u : Nat) : (l.set t a')[u]?.map f = l[u]?.map f := by
  rw [List.getElem?_set]
  split
  · rename_i e
    rw [← e, if_pos (List.getElem?_eq_some_iff.1 ha).1, ha]
    exact congrArg some hf
  · rfl

theorem request_stack {σ : State} {e : Event} {t : Tid} (he : e = .resume t ∨ e = .kill t ∨ e = .cancel t) (u : Tid) :
    (step σ e).tasks[u]?.map (·.stack) = σ.tasks[u]?.map (·.stack) := by
  rcases step_request (σ := σ) he with e | e | ⟨T, T', hT, e, hs, -⟩ <;> rw [e]
  exact map_getElem?_set _ hT hs u

end ProcStack
